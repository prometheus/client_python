/-
Model/Conc — small-step interleaving semantics of threads running lock skeletons (C02).

  * shared store `cell : X → V`; lock table `owner : L → Option Tid`, NON-re-entrant: `acquire l` is enabled only
    while `owner l = none`, so a thread acquiring a lock it already holds blocks forever;
  * every thread is a continuation of micro-steps
        acquire l | release l | load x | store x u | iterBegin x | iterEnd x | call … | yield
    `load x` copies the cell into the thread's private register for `x`; `store x u` writes
    `ap u (register x) (cell x)`: the update may depend on what the thread read earlier (`+=` adds to the value it LOADED;
    `if k not in d: d[k] = c` inserts according to the table it LOOKED AT) and on the cell itself (a subscript store or a
    `list.append` is one bytecode on the live object).  A read-modify-write is `load x; store x u` — a thread switch may
    fall between the two (that is the read-add-store bytecode window); `withLock l body` is `acquire l; body; release l`;
  * a schedule is any list of thread ids; a step of a blocked or finished thread is disabled (`step = none`) and `run`
    skips it;
  * "dictionary changed size during iteration": `iterBegin x … iterEnd x` brackets an iteration over `x`; a `store x`
    by another thread while an iteration is open sets the error flag `err x`;
  * ghost state (never read by a step): `held` (stack of locks a thread holds) and `log x` (every value read from / written
    to `x`, newest first).
The thread programs are not written by hand: `compile` turns the skeletons of `Generated/Locks.lean` (T1) into micro-steps.
No Mathlib; everything is executable (the driver enumerates all interleavings of small programs with it).
-/
import PromVerif.Generated.Locks

namespace PromVerif.Model.Conc
open PromVerif.Generated.Locks

abbrev Tid := Nat

/-- function update -/
def upd {α β : Type} [DecidableEq α] (f : α → β) (a : α) (b : β) : α → β := fun a' => if a' = a then b else f a'

@[simp] theorem upd_same {α β : Type} [DecidableEq α] (f : α → β) (a : α) (b : β) : upd f a b a = b := by simp [upd]
theorem upd_ne {α β : Type} [DecidableEq α] (f : α → β) {a a' : α} (b : β) (h : a' ≠ a) : upd f a b a' = f a' := by
  simp [upd, h]

inductive Micro (L X U : Type)
  | acquire (l : L)
  | release (l : L)
  | load (x : X)
  | store (x : X) (u : U)
  | iterBegin (x : X)
  | iterEnd (x : X)
  | call (user : Bool) (c : Callee)
  | yield
deriving Repr

/-- an entry of the ghost log of a cell -/
inductive Ev (U V : Type)
  | rd (i : Tid) (v : V)
  | wr (i : Tid) (u : U) (v : V)
deriving Repr

structure Thread (L X U V : Type) where
  pc : List (Micro L X U)
  reg : X → V
  held : List L

structure St (L X U V : Type) where
  cell : X → V
  owner : L → Option Tid
  threads : List (Thread L X U V)
  iters : X → List Tid
  err : X → Bool
  log : X → List (Ev U V)

section Sem
variable {L X U V : Type} [DecidableEq L] [DecidableEq X]

/-- one step of thread `i`; `none` = disabled (no such thread, finished, or blocked) -/
def step (ap : U → V → V → V) (s : St L X U V) (i : Tid) : Option (St L X U V) :=
  match s.threads[i]? with
  | none => none
  | some t =>
    match t.pc with
    | [] => none
    | .acquire l :: r =>
      if s.owner l = none then
        some { s with owner := upd s.owner l (some i),
                      threads := s.threads.set i { t with pc := r, held := l :: t.held } }
      else none
    | .release l :: r =>
      if s.owner l = some i then
        some { s with owner := upd s.owner l none,
                      threads := s.threads.set i { t with pc := r, held := t.held.erase l } }
      else none
    | .load x :: r =>
      some { s with threads := s.threads.set i { t with pc := r, reg := upd t.reg x (s.cell x) },
                    log := upd s.log x (.rd i (s.cell x) :: s.log x) }
    | .store x u :: r =>
      some { s with cell := upd s.cell x (ap u (t.reg x) (s.cell x)),
                    threads := s.threads.set i { t with pc := r, reg := upd t.reg x (ap u (t.reg x) (s.cell x)) },
                    err := upd s.err x (s.err x || (s.iters x).any (fun j => decide (j ≠ i))),
                    log := upd s.log x (.wr i u (ap u (t.reg x) (s.cell x)) :: s.log x) }
    | .iterBegin x :: r =>
      some { s with iters := upd s.iters x (i :: s.iters x), threads := s.threads.set i { t with pc := r } }
    | .iterEnd x :: r =>
      some { s with iters := upd s.iters x ((s.iters x).erase i), threads := s.threads.set i { t with pc := r } }
    | .call _ _ :: r => some { s with threads := s.threads.set i { t with pc := r } }
    | .yield :: r => some { s with threads := s.threads.set i { t with pc := r } }

/-- run a schedule; disabled steps are skipped -/
def run (ap : U → V → V → V) (s : St L X U V) : List Tid → St L X U V
  | [] => s
  | i :: sched =>
    match step ap s i with
    | some s' => run ap s' sched
    | none => run ap s sched

def init (c0 : X → V) (progs : List (List (Micro L X U))) : St L X U V :=
  { cell := c0, owner := fun _ => none,
    threads := progs.map (fun p => { pc := p, reg := c0, held := [] }),
    iters := fun _ => [], err := fun _ => false, log := fun _ => [] }

def finished (s : St L X U V) : Prop := ∀ t ∈ s.threads, t.pc = []

def finishedB (s : St L X U V) : Bool := s.threads.all (fun t => t.pc.isEmpty)

/-- no thread can move -/
def stuck (ap : U → V → V → V) (s : St L X U V) : Prop := ∀ i, step ap s i = none

/-- an update applied to a cell the thread has just loaded (register = cell): what the update means in a linearisation -/
def lin (ap : U → V → V → V) : U → V → V := fun u v => ap u v v

/-- updates / values recorded in a log (newest first) -/
def applied : List (Ev U V) → List U
  | [] => []
  | .rd _ _ :: l => applied l
  | .wr _ u _ :: l => u :: applied l

/-- the value a cell holds after the updates of a log, linearised in log order -/
def cur (ap : U → V → V) (v0 : V) (l : List (Ev U V)) : V := (applied l).foldr ap v0

def Ev.val : Ev U V → V
  | .rd _ v => v
  | .wr _ _ v => v

/-- values read from the cell, newest first -/
def readsOf : List (Ev U V) → List V
  | [] => []
  | .rd _ v :: l => v :: readsOf l
  | .wr _ _ _ :: l => readsOf l

/-- every value the cell held: the initial one and each written one -/
def heldValues (v0 : V) : List (Ev U V) → List V
  | [] => [v0]
  | .rd _ _ :: l => heldValues v0 l
  | .wr _ _ v :: l => v :: heldValues v0 l

/-- `(thread, update, value the store left in the cell)` for every store, newest first -/
def writesOf : List (Ev U V) → List (Tid × U × V)
  | [] => []
  | .rd _ _ :: l => writesOf l
  | .wr i u v :: l => (i, u, v) :: writesOf l

/-- the updates to `x` a continuation will still perform -/
def stores (x : X) : List (Micro L X U) → List U
  | [] => []
  | .store y u :: r => if y = x then u :: stores x r else stores x r
  | _ :: r => stores x r

/-- all updates to `x` still to be performed by the threads -/
def pending (x : X) (ts : List (Thread L X U V)) : List U := (ts.map (fun t => stores x t.pc)).flatten

end Sem

/-- a skeleton flattened to a token sequence (`withLock l body` ↦ `enter l … exit l`) -/
inductive Tok
  | enter (l : LockId)
  | exit (l : LockId)
  | read (x : Var)
  | write (x : Var)
  | rmw (x : Var)
  | copy (x : Var)
  | iterB (x : Var)
  | iterE (x : Var)
  | call (user : Bool) (c : Callee)
  | yield
deriving DecidableEq, Repr

mutual
def flat : Sk → List Tok
  | .withLock l body => .enter l :: (flatList body ++ [.exit l])
  | .read x => [.read x]
  | .write x => [.write x]
  | .rmw x => [.rmw x]
  | .copy x => [.copy x]
  | .iterate x body => .iterB x :: (flatList body ++ [.iterE x])
  | .callUser c => [.call true c]
  | .callLib c => [.call false c]
  | .yield => [.yield]
def flatList : List Sk → List Tok
  | [] => []
  | s :: r => flat s ++ flatList r
end

section Compile
variable {L X U : Type}

/-- how the abstract lock / variable names of a skeleton are bound to the locks and cells of the objects the call is made on,
and which update label the call's stores carry -/
structure Binding (L X U : Type) where
  lock : LockId → L
  var : Var → X
  /-- label of the store a `write x` / `rmw x` performs -/
  upd : Var → U

/-- micro-steps of one token; `cb c` is the (already compiled) code the callee `c` runs, spliced after the call marker.
`rmw x` is `load x; store x` — the window a thread switch may fall into. -/
def tokMicro (b : Binding L X U) (cb : Callee → List (Micro L X U)) : Tok → List (Micro L X U)
  | .enter l => [.acquire (b.lock l)]
  | .exit l => [.release (b.lock l)]
  | .read x => [.load (b.var x)]
  | .write x => [.store (b.var x) (b.upd x)]
  | .rmw x => [.load (b.var x), .store (b.var x) (b.upd x)]
  | .copy x => [.load (b.var x)]
  | .iterB x => [.iterBegin (b.var x)]
  | .iterE x => [.iterEnd (b.var x)]
  | .call u c => .call u c :: cb c
  | .yield => [.yield]

def compileToks (b : Binding L X U) (cb : Callee → List (Micro L X U)) (ts : List Tok) : List (Micro L X U) :=
  ts.flatMap (tokMicro b cb)

/-- the micro-step code of a method skeleton -/
def compile (b : Binding L X U) (cb : Callee → List (Micro L X U)) (sk : List Sk) : List (Micro L X U) :=
  compileToks b cb (flatList sk)

/-- no callee runs library code -/
def noCb : Callee → List (Micro L X U) := fun _ => []

/-- renaming of locks, cells and labels -/
def Micro.map {L' X' U' : Type} (fL : L → L') (fX : X → X') (fU : U → U') : Micro L X U → Micro L' X' U'
  | .acquire l => .acquire (fL l)
  | .release l => .release (fL l)
  | .load x => .load (fX x)
  | .store x u => .store (fX x) (fU u)
  | .iterBegin x => .iterBegin (fX x)
  | .iterEnd x => .iterEnd (fX x)
  | .call b c => .call b c
  | .yield => .yield

end Compile

/-- label of a store in canonical code: (variable, index of the sub-call inside a composite call) -/
abbrev CLabel := Var × Nat

/-- the canonical binding: one object of each kind; the label of a store names its variable and the sub-call `k` -/
def canon (k : Nat) : Binding LockId Var CLabel := { lock := id, var := id, upd := fun x => (x, k) }

abbrev CMicro := Micro LockId Var CLabel

/-! ## Concrete values and updates (used by the driver to enumerate outcomes, and by examples) -/

/-- a value is a finite map `Nat ↦ Nat`; a number `n` is the map `{0 ↦ n}` -/
abbrev CVal := List (Nat × Nat)

def CVal.num (t : CVal) : Nat := (t.lookup 0).getD 0
def CVal.has (t : CVal) (k : Nat) : Bool := (t.lookup k).isSome
def CVal.without (t : CVal) (k : Nat) : CVal := t.filter (fun e => e.1 != k)

/-- the updates the library's stores perform -/
inductive Upd
  | add (a : Nat)        -- `x += a`: adds to the value the thread LOADED
  | set (a : Nat)        -- `x = a`
  | ensure (k c : Nat)   -- `if k not in <table as looked at>: table[k] = c`
  | del (k : Nat)        -- `if k in <table as looked at>: del table[k]`
  | clear                -- `x = {}`
  | ins (k c : Nat)      -- `table[k] = c`
  | rem (k : Nat)        -- `del table[k]`
  | keep                 -- a store to a cell nobody observes
deriving DecidableEq, Repr

def apU : Upd → CVal → CVal → CVal
  | .add a, r, _ => [(0, r.num + a)]
  | .set a, _, _ => [(0, a)]
  | .ensure k c, r, cell => if r.has k then cell else (k, c) :: cell.without k
  | .del k, r, cell => if r.has k then cell.without k else cell
  | .clear, _, _ => []
  | .ins k c, _, cell => (k, c) :: cell.without k
  | .rem k, _, cell => cell.without k
  | .keep, _, cell => cell

/-- updates that ignore what the thread read earlier -/
def Upd.blind : Upd → Bool
  | .add _ => false
  | .ensure _ _ => false
  | .del _ => false
  | _ => true

theorem apU_blind : ∀ u, Upd.blind u = true → ∀ a b c, apU u a c = apU u b c := by
  intro u hu a b c
  cases u <;> first | rfl | cases hu

end PromVerif.Model.Conc
