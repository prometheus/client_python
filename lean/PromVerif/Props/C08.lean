/-
C08 — multiprocess collection equals the per-mode aggregate over all worker histories.

Model M: `Model/Multiprocess.lean` (`merge` = `_read_metrics` then `_accumulate_metrics` on a directory listing,
`markProcessDead`).  Spec S: `Spec/Multiprocess.lean` (`value`: per family and series the aggregate the property names).
All theorems quantify over listings of any length with any number of entries per file; values are an abstract type
(`VOps`), bounds an abstract type with decidable equality (`BOps`).  Nothing is assumed about `add`/`lt` except where
a hypothesis says so; `Int` discharges every such hypothesis (non-vacuity examples).

Hypotheses that are genuine restrictions of the input (each probed on the real code):
* `WFInput.no_pid_label`: no gauge has a label NAMED `pid`.  Without it the real collector overwrites (mode all) or
  drops (other modes) the user's label — candidate finding, see `pid_label_collides` below for M exhibiting it.
* `WFInput.one_type/one_mode`: one metric name is written with one type and, for gauges, one mode by all processes.
* `hk` (histograms): the rendered bucket keys of one family are pairwise different, i.e. `floatToGoString` is injective
  on the bounds that occur (C13) — otherwise two bounds would be reported under one `le`.
-/
import PromVerif.Lemmas.MultiprocessCollect
import PromVerif.Lemmas.MultiprocessOutput
import PromVerif.Lemmas.MultiprocessSums
import PromVerif.Lemmas.MultiprocessChars

namespace PromVerif.Props.C08
open PromVerif.Py PromVerif.Generated.Multiprocess
open PromVerif.Model.Multiprocess PromVerif.Spec.Multiprocess
set_option autoImplicit false

/-- the extractor found every site of multiprocess.py / values.py / metrics.Gauge in the shape it understands -/
theorem extract_ok : extractOk = true := by decide

variable {V B : Type}



/-- **C08, main statement** (`accumulate_eq_spec_partial`; `_partial`: the property as stated — "label sets are preserved and no
    series is duplicated or dropped" for EVERY gauge — is false on the real code for a gauge that has a label NAMED `pid`
    (`pid_label_collides`); what is missing is exactly that case, excluded by `WFInput.no_pid_label`).
     For every listing of well-formed files, `merge` succeeds; it reports exactly the families
    that have a contribution, each once (`families`, `Nodup`); each family carries the help text and type of its
    contributions; its OUTPUT samples have pairwise different (name, label set) (no series duplicated —
    the final `dict(labels)` conversion is the identity here, `Lemmas/MultiprocessOutput.convert_id`) and are exactly the
    entries of a dict `ss` whose value at EVERY key `k` is the spec's `value` — in particular a key is present iff the spec
    gives it a value (no series dropped, none invented). -/
theorem accumulate_eq_spec_partial (vo : VOps V) (bo : BOps B) [DecidableEq B] (fs : List (SFile V)) (h : WFInput bo fs)
    (hk : ∀ mn, typOf fs mn = histogramType → (AL.keys (bucketSeries vo bo mn (contribs fs mn))).Nodup) :
    ∃ out, merge vo bo (fs.map toFile) = .ok out ∧
      out.map (·.name) = families fs ∧ (families fs).Nodup ∧
      ∀ om ∈ out, om.doc = helpOf fs om.name ∧ om.typ = typOf fs om.name ∧
        (om.samples.map (fun s => (s.name, s.labels))).Nodup ∧
        ∃ ss, om.samples = ss.map (fun kv => (⟨kv.1.1, kv.1.2, kv.2⟩ : OutSample V)) ∧ (AL.keys ss).Nodup ∧
          ∀ k, AL.get? ss k = value vo bo fs om.name k := by
  obtain ⟨out, h1, h2, h3, h4⟩ := accumulate_eq_dict vo bo fs h hk
  refine ⟨out, h1, h2, h3, ?_⟩
  intro om hom
  obtain ⟨q1, q2, ss, e1, e2, e3⟩ := h4 om hom
  have hlab : ∀ kv ∈ ss, (kv.1.2.map (·.1)).Nodup := by
    intro kv hkv
    have hg := AL.get?_of_mem ss e2 kv.1 kv.2 hkv
    rw [e3] at hg
    exact value_key_labels_nodup vo bo fs h om.name kv.1 kv.2 hg
  have hconv := convert_id ss hlab
  refine ⟨q1, q2, ?_, ss, e1.trans hconv, e2, e3⟩
  rw [e1, hconv, List.map_map]
  exact e2

/-- **histogram_merge_cumulative.**  For a histogram family, label set `L` and position `i` in `L`'s bounds sorted
    increasingly: the reported `_bucket` sample with `le = floatToGoString(bound i)` is the sum of the merged counts of
    the bounds up to and including position `i`, where the merged count of a bound (`Spec.merged`) is the sum over ALL
    contributions — every process, dead or alive — to that `(L, bound)`. -/
theorem histogram_merge_cumulative (vo : VOps V) (bo : BOps B) [DecidableEq B] (mn doc : Str) (mode : Option Str)
    (cs : List (Contrib V)) (hty : ∀ c ∈ cs, c.typ ≠ gaugeType)
    (hp : ∀ c ∈ cs, ∀ t, leText c = some t → (bo.parse t).isSome = true)
    (hk : (AL.keys (bucketSeries vo bo mn cs)).Nodup)
    (L : Labels) (hL : L ∈ groups (bucketContribs bo cs)) (i : Nat) (b : B) (m : V)
    (hi : (mergedSorted vo bo (bucketContribs bo cs) L)[i]? = some (b, m)) :
    ∃ ss, accumulateSamples vo bo ⟨mn, doc, histogramType, mode, cs.map toRSample⟩ = .ok ss ∧
      AL.get? ss (mn ++ "_bucket".toList, L ++ [("le".toList, bo.fmt b)])
        = some ((((mergedSorted vo bo (bucketContribs bo cs) L).take (i + 1)).map (·.2)).foldl vo.add vo.zero) := by
  refine ⟨_, family_hist vo bo mn doc mode cs hty hp, ?_⟩
  apply get?_bucketSeries vo bo mn cs hk _ L hL
  unfold groupSeries
  apply List.mem_append_left
  refine List.mem_map.mpr ⟨(b, _), List.mem_iff_getElem?.mpr ⟨i, ?_⟩, rfl⟩
  rw [cumulate_getElem?, hi]
  rfl

/-- **count_eq_inf_bucket.**  `_count` of label set `L` is the grand total of the merged buckets, and it equals the
    reported bucket of the greatest bound; when a bound `top` is above every other bound of `L` (`+Inf`), that is the
    `le = floatToGoString(top)` bucket. -/
theorem count_eq_inf_bucket (vo : VOps V) (bo : BOps B) [DecidableEq B] (mn doc : Str) (mode : Option Str)
    (cs : List (Contrib V)) (hty : ∀ c ∈ cs, c.typ ≠ gaugeType)
    (hp : ∀ c ∈ cs, ∀ t, leText c = some t → (bo.parse t).isSome = true)
    (hk : (AL.keys (bucketSeries vo bo mn cs)).Nodup)
    (L : Labels) (hL : L ∈ groups (bucketContribs bo cs)) (top : B)
    (htop : top ∈ boundsOf (bucketContribs bo cs) L)
    (hbelow : ∀ y ∈ boundsOf (bucketContribs bo cs) L, y ≠ top → bo.lt y top = true)
    (habove : ∀ y ∈ boundsOf (bucketContribs bo cs) L, bo.lt top y = false) :
    ∃ ss, accumulateSamples vo bo ⟨mn, doc, histogramType, mode, cs.map toRSample⟩ = .ok ss ∧
      AL.get? ss (mn ++ "_count".toList, L) = some (countOf vo bo (bucketContribs bo cs) L) ∧
      AL.get? ss (mn ++ "_bucket".toList, L ++ [("le".toList, bo.fmt top)]) = AL.get? ss (mn ++ "_count".toList, L) := by
  refine ⟨_, family_hist vo bo mn doc mode cs hty hp, ?_⟩
  have hcount : ((mn ++ "_count".toList, L), countOf vo bo (bucketContribs bo cs) L)
      ∈ groupSeries vo bo mn (bucketContribs bo cs) L := by
    unfold groupSeries
    exact List.mem_append_right _ (List.mem_singleton.mpr rfl)
  rw [get?_bucketSeries vo bo mn cs hk _ L hL _ _ hcount]
  refine ⟨rfl, ?_⟩
  apply get?_bucketSeries vo bo mn cs hk _ L hL
  -- `top` is sorted last, and the last cumulative bucket is the total
  have hlast := sortBounds_last bo.lt top (boundsOf (bucketContribs bo cs) L) htop (nodup_distinct _) hbelow habove
  have hms : (mergedSorted vo bo (bucketContribs bo cs) L).getLast?
      = some (top, merged vo (bucketContribs bo cs) L top) := by
    unfold mergedSorted
    rw [List.getLast?_map, hlast]; rfl
  have hcl := cumulate_last vo vo.zero (mergedSorted vo bo (bucketContribs bo cs) L)
  rw [hms] at hcl
  unfold groupSeries
  apply List.mem_append_left
  exact List.mem_map.mpr ⟨_, List.mem_of_getLast? hcl, rfl⟩

/-- min / max / mostrecent: the reported value is extremal / most recent among the contributions to the series, for any
    strict order that is irreflexive and transitive (IEEE `<` is, NaN included; so is `<` on `Int`).
    Ties (equal values, `-0.0` vs `0.0`, equal set-times) are not decided by the statement. -/
theorem gauge_value_declarative (vo : VOps V) (hirr : ∀ a, vo.lt a a = false)
    (htr : ∀ a b c, vo.lt a b = true → vo.lt b c = true → vo.lt a c = true) (cs : List (Contrib V)) (k : SKey) (r : V) :
    (gaugeValue vo .gaugeMin cs k = some r → IsMinimal vo.lt (valuesFor plainKey cs k) r) ∧
    (gaugeValue vo .gaugeMax cs k = some r → IsMaximal vo.lt (valuesFor plainKey cs k) r) ∧
    (gaugeValue vo .gaugeMostRecent cs k = some r →
      IsMostRecent vo ((cs.filter (fun c => plainKey c = k)).map (fun c => (c.value, c.ts))) r) ∧
    (gaugeValue vo .gaugeMostRecent cs k = none →
      ∀ c ∈ cs, plainKey c = k → vo.lt vo.zero (normTs vo c.ts) = false) := by
  refine ⟨aggMin_minimal vo hirr htr _ r, aggMax_maximal vo hirr htr _ r, ?_, ?_⟩
  · exact (aggMostRecent_spec vo hirr htr _).1 r
  · intro h c hc hk
    exact (aggMostRecent_spec vo hirr htr _).2 h (c.value, c.ts)
      (List.mem_map.mpr ⟨c, List.mem_filter.mpr ⟨hc, by simpa using hk⟩, rfl⟩)

/-- **help_type_preserved.**  The type `merge` reports for a family (`accumulate_eq_spec_partial`: `typOf`) is the type of
    EVERY contribution to it, and the help text it reports (`helpOf`, the first contribution's) is the help text of every
    contribution as soon as the contributions agree on it (one definition of the metric in all processes; when they
    disagree the library reports the first one listed — the property does not say which). -/
theorem help_type_preserved (bo : BOps B) (fs : List (SFile V)) (hwf : WFInput bo fs) (mn : Str) (c : Contrib V)
    (hc : c ∈ contribs fs mn) :
    typOf fs mn = c.typ ∧ ((∀ c' ∈ contribs fs mn, c'.key.help = c.key.help) → helpOf fs mn = c.key.help) := by
  refine ⟨typOf_eq bo fs hwf mn c hc, ?_⟩
  intro hall
  unfold helpOf
  cases hcs : contribs fs mn with
  | nil => rw [hcs] at hc; cases hc
  | cons c0 r => exact hall c0 (hcs ▸ List.mem_cons_self)

/-- **labels_preserved** (label sets; help text and type: `help_type_preserved`; bucket bounds: `bucket_bounds_preserved`): a series has a value
    exactly when some contribution belongs to it, and its name and label set are that contribution's — for sums
    `(name, labels)`, for `all`/`liveall` gauges `labels + {pid}`, for `min`/`max`/`sum` gauges `(name, labels)`.  (A
    mostrecent series exists exactly when some contribution to it has a positive set-time: `gauge_value_declarative`.) -/
theorem labels_preserved (vo : VOps V) (cs : List (Contrib V)) (k : SKey) :
    ((sumValue vo cs k).isSome = true ↔ ∃ c ∈ cs, plainKey c = k) ∧
    ((gaugeValue vo .gaugeMin cs k).isSome = true ↔ ∃ c ∈ cs, plainKey c = k) ∧
    ((gaugeValue vo .gaugeMax cs k).isSome = true ↔ ∃ c ∈ cs, plainKey c = k) ∧
    ((gaugeValue vo .gaugeSum cs k).isSome = true ↔ ∃ c ∈ cs, plainKey c = k) ∧
    ((gaugeValue vo .gaugeAll cs k).isSome = true ↔ ∃ c ∈ cs, pidKey c = k) := by
  have hs : (sumValue vo cs k).isSome = true ↔ ∃ c ∈ cs, plainKey c = k := by
    rw [← valuesFor_ne_nil]
    unfold sumValue
    cases valuesFor plainKey cs k <;> simp
  have hpick : ∀ better : V → V → Bool, (aggPick better (valuesFor plainKey cs k)).isSome = true ↔
      ∃ c ∈ cs, plainKey c = k := by
    intro better
    rw [← valuesFor_ne_nil]
    cases valuesFor plainKey cs k <;> simp [aggPick]
  refine ⟨hs, hpick _, hpick _, hs, ?_⟩
  rw [← valuesFor_ne_nil]
  exact List.getLast?_isSome

/-- histogram series come from the contributions too: every bucket/count key carries a contributed label set (without
    `le`) and, for buckets, `le = floatToGoString(b)` for a bound `b` some contribution's `le` text parses to — so if
    `float(floatToGoString(b)) = b` (C13) the reported bound IS the contributed bound -/
theorem bucket_bounds_preserved (vo : VOps V) (bo : BOps B) [DecidableEq B] (mn : Str) (cs : List (Contrib V))
    (k : SKey) (hk : k ∈ AL.keys (bucketSeries vo bo mn cs)) :
    ∃ c ∈ cs, ∃ t b, leText c = some t ∧ bo.parse t = some b ∧
      ((k = (mn ++ "_count".toList, withoutLe c)) ∨
       (∃ c' ∈ cs, ∃ t' b', leText c' = some t' ∧ bo.parse t' = some b' ∧ withoutLe c' = withoutLe c ∧
          k = (mn ++ "_bucket".toList, withoutLe c ++ [("le".toList, bo.fmt b')]))) :=
  bucket_key_char vo bo mn cs k hk

/-- **live_modes_ignore_dead.**  `mark_process_dead(pid)` removes exactly the files of gauges in a `live*` mode written
    under `pid` and nothing else: afterwards the listing is `afterDeath pid` of the old one — every counter, summary,
    histogram and non-live gauge file of the dead process is still there (so `accumulate_eq_spec_partial` on the new listing
    sums dead processes for those and ranges over live processes only for `live*` gauges). -/
theorem live_modes_ignore_dead (pid : Str) (hp : '_' ∉ pid) (fs : List (SFile V)) (hf : ∀ f ∈ fs, WFFile f)
    (hm : ∀ f ∈ fs, f.typ = gaugeType → f.mode ∈ gaugeModes) :
    markProcessDead pid (fs.map toFile) = (afterDeath pid fs).map toFile := by
  unfold markProcessDead afterDeath
  rw [List.filter_map]
  congr 1
  apply List.filter_congr
  intro f hfm
  simp only [Function.comp]
  congr 1
  rw [Bool.eq_iff_iff, dead_pred f (hf f hfm) pid hp]
  simp only [Bool.and_eq_true, decide_eq_true_eq]
  constructor
  · rintro ⟨h1, h2, h3⟩
    exact ⟨⟨gaugeType_eq ▸ h1, ((liveModes_spec f.mode).mp h2).2⟩, h3⟩
  · rintro ⟨⟨h1, h2⟩, h3⟩
    have hg : f.typ = gaugeType := gaugeType_eq ▸ h1
    exact ⟨hg, (liveModes_spec f.mode).mpr ⟨hm f hfm hg, h2⟩, h3⟩

theorem afterDeath_keeps (pid : Str) (fs : List (SFile V)) (f : SFile V) (hf : f ∈ fs)
    (h : f.typ ≠ "gauge".toList ∨ "live".toList.isPrefixOf f.mode = false ∨ f.pid ≠ pid) : f ∈ afterDeath pid fs := by
  unfold afterDeath
  rw [List.mem_filter]
  refine ⟨hf, ?_⟩
  rcases h with h | h | h
  · rw [decide_eq_false h]; rfl
  · rw [h]; simp
  · rw [decide_eq_false h]; simp

/-- **accumulate_perm** (`_partial`: order-independence is proved for every value that is a sum and for the admissible
    answers of min/max; NOT proved: equality of the whole output, which would need (i) a total order on bounds to make
    the sorted bucket list canonical and (ii) fails anyway for mostrecent/min/max ties, which the property leaves open).
     In a commutative semigroup every value that is a SUM — counter, summary and plain histogram
    series, `sum`/`livesum` gauges (here), the merged count of every histogram bucket (`merged_perm` below) — does not
    depend on the order in which the directory is listed; for `min`/`max` the set of admissible answers
    (`IsMinimal`/`IsMaximal`) does not. -/
theorem accumulate_perm_partial (vo : VOps V) (hcomm : ∀ a b, vo.add a b = vo.add b a)
    (hassoc : ∀ a b c, vo.add (vo.add a b) c = vo.add a (vo.add b c))
    (fs fs' : List (SFile V)) (h : fs.Perm fs') (mn : Str) (k : SKey) :
    sumValue vo (contribs fs mn) k = sumValue vo (contribs fs' mn) k ∧
    gaugeValue vo .gaugeSum (contribs fs mn) k = gaugeValue vo .gaugeSum (contribs fs' mn) k ∧
    (∀ r, IsMinimal vo.lt (valuesFor plainKey (contribs fs mn) k) r ↔
          IsMinimal vo.lt (valuesFor plainKey (contribs fs' mn) k) r) ∧
    (∀ r, IsMaximal vo.lt (valuesFor plainKey (contribs fs mn) k) r ↔
          IsMaximal vo.lt (valuesFor plainKey (contribs fs' mn) k) r) := by
  have hp := valuesFor_perm plainKey fs fs' h mn k
  have hs : sumValue vo (contribs fs mn) k = sumValue vo (contribs fs' mn) k := by
    unfold sumValue
    cases h1 : valuesFor plainKey (contribs fs mn) k with
    | nil =>
      rw [h1] at hp
      rw [List.Perm.nil_eq hp]
    | cons v r =>
      cases h2 : valuesFor plainKey (contribs fs' mn) k with
      | nil => rw [h1, h2] at hp; exact absurd hp.symm.nil_eq (by simp)
      | cons v' r' =>
        simp only
        rw [← h1, ← h2, aggSum_perm vo hcomm hassoc _ _ hp]
  refine ⟨hs, hs, ?_, ?_⟩
  -- being extremal among the contributed values only depends on which values there are
  · intro r
    simp only [IsMinimal, hp.mem_iff]
  · intro r
    simp only [IsMaximal, hp.mem_iff]

/-- the merged count of a histogram bucket is order-independent as well -/
theorem merged_perm (vo : VOps V) (bo : BOps B) [DecidableEq B] (hcomm : ∀ a b, vo.add a b = vo.add b a)
    (hassoc : ∀ a b c, vo.add (vo.add a b) c = vo.add a (vo.add b c))
    (fs fs' : List (SFile V)) (h : fs.Perm fs') (mn : Str) (L : Labels) (b : B) :
    merged vo (bucketContribs bo (contribs fs mn)) L b = merged vo (bucketContribs bo (contribs fs' mn)) L b := by
  unfold merged
  apply aggSum_perm vo hcomm hassoc
  unfold bucketContribs
  exact (((contribs_perm fs fs' h mn).filterMap _).filter _).map _

theorem kind_perm (bo : BOps B) (fs fs' : List (SFile V)) (h : fs.Perm fs') (hwf : WFInput bo fs) (mn : Str) :
    kindOf (typOf fs mn) (modeOf fs mn) = kindOf (typOf fs' mn) (modeOf fs' mn) := by
  have hp := contribs_perm fs fs' h mn
  cases h1 : contribs fs mn with
  | nil =>
    rw [h1] at hp
    unfold typOf modeOf
    rw [h1, ← hp.nil_eq]
  | cons c r =>
    cases h2 : contribs fs' mn with
    | nil => rw [h1, h2] at hp; exact absurd hp.eq_nil (List.cons_ne_nil c r)
    | cons c' r' =>
      obtain ⟨t1, _, m1⟩ := head_fields h1
      obtain ⟨t2, _, m2⟩ := head_fields h2
      have k1 := mem_contribs (h1 ▸ List.mem_cons_self : c ∈ contribs fs mn)
      have k2 := mem_contribs (hp.mem_iff.mpr (h2 ▸ List.mem_cons_self) : c' ∈ contribs fs mn)
      rw [t1, m1, t2, m2, hwf.one_type c k1.1 c' k2.1 (k1.2.trans k2.2.symm)]
      by_cases hg : c.typ = gaugeType
      · rw [hwf.one_mode c k1.1 c' k2.1 (k1.2.trans k2.2.symm) hg]
      · have hg' : c.typ ≠ "gauge".toList := gaugeType_eq ▸ hg
        unfold kindOf
        rw [if_neg hg', if_neg hg']

/-- **value_perm** (task: whole-output equality under permutation of the listing; `_partial`): for a well-formed listing
    and any permutation of it, the value the spec (hence the collector, by `accumulate_eq_spec_partial`) assigns to EVERY
    series key of a family is the same, when the family is a counter/summary/other sum-valued type or a `sum`/`livesum`
    gauge (commutative semigroup), or a `min`/`max` gauge whose contributed values are strictly totally ordered by
    `lt`.  Not covered (hence `_partial`): histograms — the bucket list is sorted by insertion sort, canonical only for
    a total order on bounds, not proved; `mostrecent` and `all`, and min/max with ties (`-0.0`/`0.0`, NaN), where the
    result genuinely depends on the listing order and the property allows any admissible answer. -/
theorem value_perm_partial (vo : VOps V) (bo : BOps B) [DecidableEq B] (hcomm : ∀ a b, vo.add a b = vo.add b a)
    (hassoc : ∀ a b c, vo.add (vo.add a b) c = vo.add a (vo.add b c))
    (hirr : ∀ a, vo.lt a a = false) (htr : ∀ a b c, vo.lt a b = true → vo.lt b c = true → vo.lt a c = true)
    (fs fs' : List (SFile V)) (h : fs.Perm fs') (hwf : WFInput bo fs) (mn : Str) (k : SKey)
    (hkind : kindOf (typOf fs mn) (modeOf fs mn) = .plainSum ∨ kindOf (typOf fs mn) (modeOf fs mn) = .gaugeSum ∨
      ((kindOf (typOf fs mn) (modeOf fs mn) = .gaugeMin ∨ kindOf (typOf fs mn) (modeOf fs mn) = .gaugeMax) ∧
        ∀ a ∈ valuesFor plainKey (contribs fs mn) k, ∀ b ∈ valuesFor plainKey (contribs fs mn) k, a ≠ b →
          vo.lt a b = true ∨ vo.lt b a = true)) :
    value vo bo fs mn k = value vo bo fs' mn k := by
  have hk := kind_perm bo fs fs' h hwf mn
  have hperm := accumulate_perm_partial vo hcomm hassoc fs fs' h mn k
  have hp := valuesFor_perm plainKey fs fs' h mn k
  unfold value
  simp only
  rw [← hk]
  rcases hkind with hk1 | hk1 | ⟨hk1 | hk1, htot⟩ <;> rw [hk1]
  · exact hperm.1
  · exact hperm.2.1
  · simp only [gaugeValue, aggMin]
    exact aggPick_perm_total vo.lt hirr htr _ _ hp htot
  · simp only [gaugeValue, aggMax]
    exact aggPick_perm_total (fun x c => vo.lt c x) hirr (fun a b c h1 h2 => htr c b a h2 h1) _ _ hp
      (fun a ha b hb hne => (htot a ha b hb hne).symm)

/-! ### the statement about WORKER HISTORIES: writer (C09) composed with reader (C08) -/

/-- bounds reach the collector as parsed `le` texts: a formatter that is injective on parsed bounds gives the bucket series
    of a family pairwise different keys -/
theorem bucketSeries_keys_nodup_of_parsed (vo : VOps V) (bo : BOps B) [DecidableEq B] (mn : Str) (cs : List (Contrib V))
    (hfmt : ∀ t t' b b', bo.parse t = some b → bo.parse t' = some b' → bo.fmt b = bo.fmt b' → b = b') :
    (AL.keys (bucketSeries vo bo mn cs)).Nodup := by
  apply bucketSeries_keys_nodup
  intro L _ b hb b' hb' e
  obtain ⟨_, _, t, _, ht, _⟩ := mem_boundsOf bo _ L b hb
  obtain ⟨_, _, t', _, ht', _⟩ := mem_boundsOf bo _ L b' hb'
  exact hfmt t t' b b' ht ht' e

open PromVerif.Model.Values in
/-- **collect_workers** (`mpCollect (files (runWorkers hs)) = aggregate (perProcessValues hs)`; `_partial`, see below).
    Take ANY world history from an empty directory: any number of worker generations (`spawn`), each performing any
    sequence of value-level calls with identity changes at any points (`op`), `mark_process_dead` at any points (`dead`),
    pids reused at will.  Let `D` be the directory it leaves.  Then the collector, run on the listing of `D`,
    * succeeds, reports each family once with the help text and type of its contributions, and for every series key the
      per-mode aggregate `Spec.value` over the contributions (as `accumulate_eq_spec_partial`), where
    * every contribution is ONE identity's entry of ONE series — `c.key = mmap_key` of a constructed value object `q`, in
      the file `<prefix of q>_<c.pid>.db` — and its `(value, set-time)` is the fold, over the world's log, of the updates
      issued UNDER `c.pid` (increments add, sets replace; whichever generation issued them) and of the deaths of `c.pid`
      (which wipe it iff the file is a live-gauge file).
    So counters, summaries and histogram cells sum, over all identities dead or alive, everything ever incremented
    (`worker_sums_partial` below makes the sum explicit); `all` gauges show each identity's own last value; min/max/sum/
    mostrecent range over the identities' own values; live modes only over identities not marked dead since they wrote.
    Remaining hypotheses (`_partial`): `hu` — every INCREMENT goes through a FRESH value object (`wFresh`: nothing else has written
    its entry since it last read or wrote it; all objects are fresh after an identity change and after construction; an
    update through one object makes the others on its key stale) — this covers dropped children after `remove()`/`clear()`
    and a kept old handle used again after an identity change; the real code loses updates when two objects on one key
    are incremented alternately inside one identity epoch: `C09.two_objects_lose_updates`; `GoodPS.no_pid_label` (known finding F24);
    `GoodPS.consistent` — one type and gauge mode per metric name; identities free of `_`; `hfmt` — the bound formatter is
    injective on parsed bounds (C13: `Props.C13Injective.go_injective_texts` via `fmt_injective_of_repr`).  Simultaneously running workers are represented by
    listing each worker's calls contiguously: they have distinct identities, hence touch disjoint files
    (`C09.writes_only_own_files`) and commute — this commutation is argued, not proved. -/
theorem collect_workers_partial (vo : VOps V) (bo : BOps B) [DecidableEq B] (PS : List Params) (hPS : GoodPS bo PS)
    (p0 : Str) (hp0 : '_' ∉ p0) (evs : List (Ev V)) (hev : evsIdOK evs) (hkn : ∀ e ∈ evs, evKnown PS e)
    (hu : wFresh vo (St.init p0) (fun _ => true) evs = true)
    (hfmt : ∀ t t' b b', bo.parse t = some b → bo.parse t' = some b' → bo.fmt b = bo.fmt b' → b = b') :
    let D := (wrun vo (St.init p0) evs).disk
    ∃ out, merge vo bo (listing D) = .ok out ∧
      out.map (·.name) = families (sfiles D) ∧ (families (sfiles D)).Nodup ∧
      (∀ om ∈ out, om.doc = helpOf (sfiles D) om.name ∧ om.typ = typOf (sfiles D) om.name ∧
        (om.samples.map (fun s => (s.name, s.labels))).Nodup ∧
        ∃ ss, om.samples = ss.map (fun kv => (⟨kv.1.1, kv.1.2, kv.2⟩ : OutSample V)) ∧ (AL.keys ss).Nodup ∧
          ∀ k, AL.get? ss k = value vo bo (sfiles D) om.name k) ∧
      (∀ c ∈ allContribs (sfiles D), ∃ q ∈ PS, c.typ = q.typ ∧ (c.typ = gaugeType → c.mode = q.mode) ∧
        c.key = mmapKey q ∧ '_' ∉ c.pid ∧
        (c.value, c.ts) = (wLog vo (filePrefix q) (mmapKey q) p0 p0 [] evs).foldl
          (wOwnStep vo (isLiveFileOf c.pid (fileName (filePrefix q) c.pid)) c.pid) (vo.zero, vo.zero)) := by
  intro D
  have hdisk : DiskOK PS D := wrun_init_diskOK vo PS p0 hp0 evs hev hkn
  have hwf := wfinput_sfiles bo PS hPS D hdisk
  obtain ⟨out, h1, h2, h3, h4⟩ := accumulate_eq_spec_partial vo bo (sfiles D) hwf
    fun mn _ => bucketSeries_keys_nodup_of_parsed vo bo mn _ hfmt
  refine ⟨out, ?_, h2, h3, h4, ?_⟩
  · rw [listing_eq PS hPS.good D hdisk]; exact h1
  · intro c hc
    obtain ⟨q, hq, e1, e2, e3, e4, e5⟩ := contrib_char PS hPS.good D hdisk c hc
    refine ⟨q, hq, e1, e2, e3, e4, ?_⟩
    -- the cell is what the collector read (`e5`), and what the updates under `c.pid` made it
    have hcell : cellVal vo D (fileName (filePrefix q) c.pid) (mmapKey q) = _ :=
      wrun_cell_init vo p0 hp0 evs hev hu (filePrefix q) (mmapKey q) c.pid e4
    rw [e3] at e5
    rw [cellVal, e5] at hcell
    exact hcell

open PromVerif.Model.Values in
/-- where the entries of a non-gauge series live: a file that holds an entry under the key of `q` is `<q.typ>_<pid>.db`
    for an identity `pid`, since every constructed value object of that metric name has `q`'s type -/
theorem entry_file (bo : BOps B) (PS : List Params) (hPS : GoodPS bo PS) (disk : List (Str × Store V))
    (hdisk : DiskOK PS disk) (q : Params) (hq : q ∈ PS) (hng : q.typ ≠ gaugeType) (f : Str × Store V) (hf : f ∈ disk)
    (vt : V × V) (hg : AL.get? f.2 (mmapKey q) = some vt) : ∃ pid, '_' ∉ pid ∧ f.1 = fileName q.typ pid := by
  obtain ⟨q0, _, pid, hpid, hn, hst⟩ := hdisk.files f hf
  obtain ⟨q', hq', hk, hpp⟩ := hst.2 _ (AL.mem_of_get? _ _ _ hg)
  have hmet : q.metric = q'.metric := by have := congrArg Key.metric hk; simpa [mmapKey] using this
  refine ⟨pid, hpid, ?_⟩
  rw [hn, ← hpp, filePrefix, (hPS.consistent q hq q' hq' hmet).1, if_neg hng]

open PromVerif.Model.Values in
/-- **worker_sums** (`_partial`, same hypotheses as `collect_workers_partial`): for a counter, summary or histogram
    value object `q` and ANY selection of keys that singles out `q`'s key among the constructed value objects (e.g. "this
    sample name and label set of this family", or "this label set and this parsed bucket bound"), the sum the collector
    forms over the selected contributions — all files, all identities, dead or alive, reused or not — equals the sum of
    ALL increments ever issued to that series by all worker generations, in a commutative monoid, provided the series
    is only incremented.  `pids`: any duplicate-free list of `_`-free identities containing those that incremented. -/
theorem worker_sums_partial (vo : VOps V) (bo : BOps B) (hcomm : ∀ a b, vo.add a b = vo.add b a)
    (hassoc : ∀ a b c, vo.add (vo.add a b) c = vo.add a (vo.add b c)) (hzero : ∀ a, vo.add vo.zero a = a)
    (PS : List Params) (hPS : GoodPS bo PS) (p0 : Str) (hp0 : '_' ∉ p0) (evs : List (Ev V)) (hev : evsIdOK evs)
    (hkn : ∀ e ∈ evs, evKnown PS e) (hu : wFresh vo (St.init p0) (fun _ => true) evs = true)
    (q : Params) (hq : q ∈ PS) (hng : q.typ ≠ gaugeType)
    (sel : Key → Bool) (hK : sel (mmapKey q) = true)
    (hsel : ∀ q' ∈ PS, sel (mmapKey q') = true → mmapKey q' = mmapKey q)
    (pids : List Str) (hnd : pids.Nodup) (hpids : ∀ p ∈ pids, '_' ∉ p)
    (hinc : ∀ u ∈ wUpds (wLog vo q.typ (mmapKey q) p0 p0 [] evs), ∃ r a, u = Upd.inc r a ∧ r ∈ pids) :
    aggSum vo (((allContribs (sfiles (wrun vo (St.init p0) evs).disk)).filter (fun c => sel c.key)).map (·.value))
      = incTotal vo (wUpds (wLog vo q.typ (mmapKey q) p0 p0 [] evs)) := by
  have hdisk := wrun_init_diskOK vo PS p0 hp0 evs hev hkn
  have hgq := hPS.good q hq
  have hentry : ∀ f ∈ (wrun vo (St.init p0) evs).disk, ∀ e ∈ f.2, sel e.1 = true → e.1 = mmapKey q := by
    intro f hf e he hs
    obtain ⟨q0, _, pid, _, _, hst⟩ := hdisk.files f hf
    obtain ⟨q', hq', hk, _⟩ := hst.2 e he
    rw [hk] at hs ⊢
    exact hsel q' hq' hs
  rw [selected_values vo hcomm hzero _ hdisk.names
    (fun f hf => by obtain ⟨_, _, _, _, _, hst⟩ := hdisk.files f hf; exact hst.1) sel (mmapKey q) hK hentry]
  have hC : (pids.map (fileName q.typ)).Nodup := by
    apply nodup_map_on _ _ hnd
    intro a ha b hb e
    exact (fileName_inj _ _ _ _ (hpids a ha) (hpids b hb) e).2
  rw [aggSum_support vo hcomm hassoc hzero _ (pids.map (fileName q.typ)) hdisk.names hC]
  · rw [List.map_map]
    exact wrun_sum vo hcomm hassoc hzero p0 hp0 evs hev hu q.typ (mmapKey q) pids hnd hpids
      (fun p hp => nonlive_prefix q.typ hgq.typ p p (hpids p hp) (hpids p hp)) hinc
  · -- a file of the directory that is not `<typ>_<p>.db` for a listed p holds nothing (or zero) under q's key
    intro fn hfn hnc
    obtain ⟨f, hf, rfl⟩ := List.mem_map.mp hfn
    cases hg : AL.get? f.2 (mmapKey q) with
    | none =>
      unfold cellVal
      rw [cellGet_of_mem _ hdisk.names f hf, hg]
      rfl
    | some vt =>
      obtain ⟨pid, hpid, hn⟩ := entry_file bo PS hPS _ hdisk q hq hng f hf vt hg
      rw [hn] at hnc ⊢
      have hp' : pid ∉ pids := fun h => hnc (List.mem_map.mpr ⟨pid, h, rfl⟩)
      rw [wrun_cell_init vo p0 hp0 evs hev hu q.typ (mmapKey q) pid hpid,
        nonlive_prefix q.typ hgq.typ pid pid hpid hpid, foldl_wOwn_nonlive]
      rw [foldl_ownStep_foreign vo pid _ pids hp' hinc]
  · intro fn hfn hna
    have : AL.get? (wrun vo (St.init p0) evs).disk fn = none := (AL.get?_eq_none_iff _ _).mpr hna
    unfold cellVal cellGet
    rw [AL.getD_eq, this]; rfl

open PromVerif.Model.Values in
/-- **collected_sum_is_all_increments** (`_partial`, as above): the value the spec — hence, by `collect_workers_partial`,
    the collector — assigns to the series `(sample name, labels)` of a counter / summary / histogram `_sum` value
    object `q` is the sum of all increments ever issued to it, over all worker generations and identities. -/
theorem collected_sum_is_all_increments_partial (vo : VOps V) (bo : BOps B)
    (hcomm : ∀ a b, vo.add a b = vo.add b a)
    (hassoc : ∀ a b c, vo.add (vo.add a b) c = vo.add a (vo.add b c)) (hzero : ∀ a, vo.add vo.zero a = a)
    (PS : List Params) (hPS : GoodPS bo PS) (p0 : Str) (hp0 : '_' ∉ p0) (evs : List (Ev V)) (hev : evsIdOK evs)
    (hkn : ∀ e ∈ evs, evKnown PS e) (hu : wFresh vo (St.init p0) (fun _ => true) evs = true)
    (q : Params) (hq : q ∈ PS) (hng : q.typ ≠ gaugeType)
    (hhelp : ∀ q' ∈ PS, q'.metric = q.metric → (mmapKey q').name = (mmapKey q).name →
      (mmapKey q').labels = (mmapKey q).labels → mmapKey q' = mmapKey q)
    (pids : List Str) (hnd : pids.Nodup) (hpids : ∀ p ∈ pids, '_' ∉ p)
    (hinc : ∀ u ∈ wUpds (wLog vo q.typ (mmapKey q) p0 p0 [] evs), ∃ r a, u = Upd.inc r a ∧ r ∈ pids) (r : V)
    (hr : sumValue vo (contribs (sfiles (wrun vo (St.init p0) evs).disk) q.metric)
      ((mmapKey q).name, (mmapKey q).labels) = some r) :
    r = incTotal vo (wUpds (wLog vo q.typ (mmapKey q) p0 p0 [] evs)) := by
  have hsum := worker_sums_partial vo bo hcomm hassoc hzero PS hPS p0 hp0 evs hev hkn hu q hq hng
    (fun key => decide (plainKey (⟨[], [], [], key, vo.zero, vo.zero⟩ : Contrib V) = ((mmapKey q).name, (mmapKey q).labels))
      && decide (key.metric = q.metric))
    (by simp [plainKey, mmapKey])
    (by
      intro q' hq' hs
      simp only [plainKey, Bool.and_eq_true, decide_eq_true_eq, Prod.mk.injEq] at hs
      exact hhelp q' hq' hs.2 hs.1.1 hs.1.2)
    pids hnd hpids hinc
  -- the selection picks the contributions `sumValue` sums: `plainKey` only reads the key
  rw [sumValue_some vo _ _ r hr, ← hsum]
  unfold valuesFor contribs
  rw [List.filter_filter]
  rfl

open PromVerif.Model.Values in
/-- **series_present_iff** (which series exist; no uniqueness assumption).  After any world history, the collector reads a
    contribution of identity `p` to the series of value object `q` — for an `all`/`liveall` gauge: exposes the series
    `q.name{…, pid="p"}` (`labels_preserved`, `gaugeAll`); for min/max/sum: counts `p`'s value in — EXACTLY when
    `wPresent`: while `p` was the acting identity some call constructed a value object on `q`'s (prefix, key) or re-bound
    one (the first call after an identity change re-binds every value object of the worker, creating its entry at zero),
    and, for a live mode, `p` was not marked dead afterwards.  So there is one `pid=` series per identity that HELD the
    child, including zero-valued entries created by re-binding; none is dropped and none appears otherwise. -/
theorem series_present_iff (vo : VOps V) (bo : BOps B) (PS : List Params) (hPS : GoodPS bo PS)
    (p0 : Str) (hp0 : '_' ∉ p0) (evs : List (Ev V)) (hev : evsIdOK evs) (hkn : ∀ e ∈ evs, evKnown PS e)
    (q : Params) (hq : q ∈ PS) (p : Str) (hp : '_' ∉ p) :
    (∃ c ∈ allContribs (sfiles (wrun vo (St.init p0) evs).disk),
        c.key = mmapKey q ∧ c.pid = p ∧ c.typ = q.typ ∧ (q.typ = gaugeType → c.mode = q.mode))
    ↔ wPresent (filePrefix q) (mmapKey q) p (isLiveFileOf p (fileName (filePrefix q) p)) p0 p0 [] evs false = true := by
  have hdisk := wrun_init_diskOK vo PS p0 hp0 evs hev hkn
  have hpres : has (wrun vo (St.init p0) evs).disk (fileName (filePrefix q) p) (mmapKey q)
      = wPresent (filePrefix q) (mmapKey q) p (isLiveFileOf p (fileName (filePrefix q) p)) p0 p0 [] evs false :=
    wrun_has vo (filePrefix q) (mmapKey q) p hp evs (St.init p0) (bound_init p0) ⟨hp0, hp0⟩ hev
  rw [← hpres]
  constructor
  · rintro ⟨c, hc, e1, e2, e3, e4⟩
    obtain ⟨q', hq', t1, t2, k1, _, hcell⟩ := contrib_char PS hPS.good _ hdisk c hc
    have hpre : filePrefix q' = filePrefix q := by
      unfold filePrefix
      have ht : q'.typ = q.typ := by rw [← t1, e3]
      by_cases hg : q.typ = gaugeType
      · have hm : q'.mode = q.mode := by rw [← t2 (e3.trans hg), e4 hg]
        rw [ht, hm]
      · rw [ht, if_neg hg, if_neg hg]
    rw [hpre, e2, e1] at hcell
    unfold has
    rw [hcell]; rfl
  · intro h
    exact contrib_of_cell PS hPS.good _ q hq p hp h

/-! ### non-vacuity, and the counter-example behind `no_pid_label` -/

/-- `Int` values (a commutative monoid with a strict order), natural-number bounds read from decimal digits and rendered in unary (injective, structurally recursive) -/
def intV : VOps Int := ⟨0, (· + ·), (fun a b => decide (a < b)), (fun a b => decide (a ≤ b)), (fun x => x != 0)⟩

def natB : BOps Nat := ⟨fun s => some (parseDigits s), (fun a b => decide (a < b)), fun n => List.replicate n '|'⟩

def kC : Key := ⟨"c".toList, "c_total".toList, [], "counts".toList⟩

def kG : Key := ⟨"g".toList, "g".toList, [("l".toList, "x".toList)], "a gauge".toList⟩

def kHb (le : String) : Key := ⟨"h".toList, "h_bucket".toList, [("le".toList, le.toList)], "a histogram".toList⟩

def kHs : Key := ⟨"h".toList, "h_sum".toList, [], "a histogram".toList⟩

/-- two processes; process 1 is listed first; a counter, a `livemin` gauge with a tie-free pair of values, and a
    histogram whose bounds arrive in different orders in the two files -/
def demoFiles : List (SFile Int) :=
  [⟨"counter".toList, [], "1".toList, [(kC, 2, 0)]⟩,
   ⟨"gauge".toList, "livemin".toList, "1".toList, [(kG, 5, 0)]⟩,
   ⟨"histogram".toList, [], "1".toList, [(kHs, 7, 0), (kHb "1", 1, 0), (kHb "5", 2, 0), (kHb "100", 0, 0)]⟩,
   ⟨"counter".toList, [], "2".toList, [(kC, 3, 0)]⟩,
   ⟨"gauge".toList, "livemin".toList, "2".toList, [(kG, -1, 0)]⟩,
   ⟨"histogram".toList, [], "2".toList, [(kHb "100", 4, 0), (kHs, 1, 0), (kHb "5", 1, 0), (kHb "1", 0, 0)]⟩]

theorem demo_wf : WFInput natB demoFiles := by
  simp only [demoFiles, kC, kG, kHb, kHs, chars]
  refine ⟨?_, by decide +kernel, by decide +kernel, by decide +kernel, by decide +kernel, fun _ _ _ _ _ => rfl, by decide +kernel⟩
  intro f hf
  have h : metricTypes.contains f.typ = true ∧ '_' ∉ f.typ ∧ '_' ∉ f.mode ∧ '_' ∉ f.pid := by
    revert f
    decide +kernel
  exact ⟨h.1, h.2.1, h.2.2.1, h.2.2.2⟩

theorem demo_keys : ∀ mn, typOf demoFiles mn = histogramType →
    (AL.keys (bucketSeries intV natB mn (contribs demoFiles mn))).Nodup := by
  intro mn h
  obtain ⟨c, hc, hct⟩ := typOf_mem demoFiles mn _ h (by decide +kernel)
  have hm := mem_contribs hc
  have : ∀ c ∈ allContribs demoFiles, c.typ = histogramType → c.key.metric = "h".toList := by
    simp only [demoFiles, kC, kG, kHb, kHs, chars]
    decide +kernel
  have e : mn = "h".toList := by rw [← hm.2]; exact this c hm.1 hct
  subst e
  simp only [demoFiles, kC, kG, kHb, kHs, chars]
  decide +kernel

/-- the hypotheses of `accumulate_eq_spec_partial` are satisfiable by a non-trivial listing -/
example : ∃ out, merge intV natB (demoFiles.map toFile) = .ok out ∧
    out.map (·.name) = families demoFiles ∧ (families demoFiles).Nodup ∧
    ∀ om ∈ out, om.doc = helpOf demoFiles om.name ∧ om.typ = typOf demoFiles om.name ∧
      (om.samples.map (fun s => (s.name, s.labels))).Nodup ∧
      ∃ ss, om.samples = ss.map (fun kv => (⟨kv.1.1, kv.1.2, kv.2⟩ : OutSample Int)) ∧ (AL.keys ss).Nodup ∧
        ∀ k, AL.get? ss k = value intV natB demoFiles om.name k :=
  accumulate_eq_spec_partial intV natB demoFiles demo_wf demo_keys

/-- … and what it computes there: counter 2+3, livemin min(5,-1), buckets 1|5|100 merged to 1|3|4 then cumulated to
    1|4|8, `_count` 8, `_sum` 8 -/
example : value intV natB demoFiles "c".toList ("c_total".toList, []) = some 5 := by decide +kernel

example : value intV natB demoFiles "g".toList ("g".toList, [("l".toList, "x".toList)]) = some (-1) := by decide +kernel

example : value intV natB demoFiles "h".toList ("h_bucket".toList, [("le".toList, natB.fmt 5)]) = some 4 := by decide +kernel

example : value intV natB demoFiles "h".toList ("h_bucket".toList, [("le".toList, natB.fmt 100)]) = some 8 := by decide +kernel

example : value intV natB demoFiles "h".toList ("h_count".toList, []) = some 8 := by decide +kernel

example : value intV natB demoFiles "h".toList ("h_sum".toList, []) = some 8 := by decide +kernel

/-- after process 2 is marked dead its `livemin` file is gone (min becomes 5) while its counter still counts -/
example : value intV natB (afterDeath "2".toList demoFiles) "g".toList ("g".toList, [("l".toList, "x".toList)]) = some 5 := by decide +kernel

example : value intV natB (afterDeath "2".toList demoFiles) "c".toList ("c_total".toList, []) = some 5 := by decide +kernel

/-- the `+Inf`-like bound 100 satisfies the hypotheses of `count_eq_inf_bucket` -/
example : (100 : Nat) ∈ boundsOf (bucketContribs natB (contribs demoFiles "h".toList)) [] ∧
    (∀ y ∈ boundsOf (bucketContribs natB (contribs demoFiles "h".toList)) [], y ≠ 100 → natB.lt y 100 = true) ∧
    (∀ y ∈ boundsOf (bucketContribs natB (contribs demoFiles "h".toList)) [], natB.lt 100 y = false) := by decide +kernel

/-- `Int` meets the order and monoid hypotheses of `gauge_value_declarative`, `accumulate_perm_partial` -/
example : (∀ a : Int, intV.lt a a = false) ∧ (∀ a b : Int, intV.add a b = intV.add b a) ∧
    (∀ a b c : Int, intV.add (intV.add a b) c = intV.add a (intV.add b c)) :=
  ⟨fun a => by simp [intV], fun a b => Int.add_comm a b, fun a b c => Int.add_assoc a b c⟩

example : ∀ a b c : Int, intV.lt a b = true → intV.lt b c = true → intV.lt a c = true := by
  intro a b c h1 h2
  simp only [intV, decide_eq_true_eq] at *
  omega

/-! a world history satisfying every hypothesis of `collect_workers_partial` / `worker_sums_partial` -/
section WorldDemo
open PromVerif.Model.Values

def wC : Params := ⟨"counter".toList, "c".toList, "c_total".toList, ["l".toList], ["x".toList], "counts".toList, []⟩
def wL : Params := ⟨"gauge".toList, "gl".toList, "gl".toList, [], [], "live".toList, "livesum".toList⟩
def wS : Params := ⟨"gauge".toList, "gs".toList, "gs".toList, [], [], "sum".toList, "sum".toList⟩

/-- worker 1 (pid 5, changing identity to 6 and back), death of 5 with `mark_process_dead`, a new worker reusing pid 5 -/
def demoWorld : List (Ev Int) :=
  [.op (.construct wC), .op (.inc 0 2), .op (.construct wL), .op (.set 1 10 none), .op (.setPid "6".toList),
   .op (.inc 0 4), .op (.setPid "5".toList), .op (.construct wS), .op (.set 2 20 none), .dead "5".toList,
   .spawn "5".toList, .op (.construct wC), .op (.inc 0 3), .op (.construct wL), .op (.inc 1 1),
   .op (.construct wS), .op (.inc 2 1)]

theorem demoPS_good : GoodPS natB [wC, wL, wS] := by
  simp only [wC, wL, wS, chars]
  refine ⟨?_, by decide +kernel, by decide +kernel, by decide +kernel⟩
  intro q hq
  have h : q.typ ∈ workerTypes ∧ (q.typ = gaugeType → q.mode ∈ gaugeModes) := by
    revert q
    decide +kernel
  exact ⟨h.1, h.2⟩

theorem demoWorld_ids : evsIdOK demoWorld := by decide +kernel

theorem demoWorld_known : ∀ e ∈ demoWorld, evKnown [wC, wL, wS] e := by
  simp only [demoWorld, wC, wL, wS, chars]
  decide +kernel

theorem natB_fmt_inj : ∀ t t' b b', natB.parse t = some b → natB.parse t' = some b' → natB.fmt b = natB.fmt b' → b = b' := by
  intro _ _ b b' _ _ h
  have := congrArg List.length h
  simpa [natB] using this

/-- `collect_workers_partial` applies -/
example := collect_workers_partial intV natB [wC, wL, wS] demoPS_good "5".toList (by decide +kernel) demoWorld demoWorld_ids
  demoWorld_known (by simp only [demoWorld, wC, wL, wS, chars]; decide +kernel) natB_fmt_inj

/-- the directory `demoWorld` leaves: identity 6 re-bound the counter and the live gauge (at zero); the live gauge file of 5
    was removed at its death and created again by the new worker -/
theorem demoWorld_disk : (wrun intV (St.init "5".toList) demoWorld).disk =
    [(fileName (filePrefix wC) "5".toList, [(mmapKey wC, (5, 0))]),
     (fileName (filePrefix wC) "6".toList, [(mmapKey wC, (4, 0))]),
     (fileName (filePrefix wL) "6".toList, [(mmapKey wL, (0, 0))]),
     (fileName (filePrefix wS) "5".toList, [(mmapKey wS, (21, 0))]),
     (fileName (filePrefix wL) "5".toList, [(mmapKey wL, (1, 0))])] := by
  simp only [demoWorld, wC, wL, wS, chars]
  decide +kernel

/-- … and on this history the collector's counter series is 2 + 4 + 3 = 9 over the files `counter_5.db` (5) and
    `counter_6.db` (4); the live gauge of the dead-and-reused pid restarted (1), the non-live one continued (21) -/
example : value intV natB (sfiles (wrun intV (St.init "5".toList) demoWorld).disk) "c".toList
    ("c_total".toList, [("l".toList, "x".toList)]) = some 9 := by
  rw [demoWorld_disk]
  simp only [wC, wL, wS, chars]
  decide +kernel
example : value intV natB (sfiles (wrun intV (St.init "5".toList) demoWorld).disk) "gl".toList ("gl".toList, []) = some 1 := by
  rw [demoWorld_disk]
  simp only [wC, wL, wS, chars]
  decide +kernel
example : value intV natB (sfiles (wrun intV (St.init "5".toList) demoWorld).disk) "gs".toList ("gs".toList, []) = some 21 := by
  rw [demoWorld_disk]
  simp only [wC, wL, wS, chars]
  decide +kernel
example : incTotal intV (wUpds (wLog intV "counter".toList (mmapKey wC) "5".toList "5".toList [] demoWorld)) = 9 := by
  simp only [demoWorld, wC, wL, wS, chars]
  decide +kernel

end WorldDemo

/-- **the counter-example behind `no_pid_label`** (M exhibits the candidate finding): a gauge in mode `all` whose own
    label is NAMED `pid`, two children in one process: the collector reports the same series `g{pid="1"}` twice (the
    user's label value is overwritten by the process id) -/
def pidDemo : List (SFile Int) :=
  [⟨"gauge".toList, "all".toList, "1".toList,
    [(⟨"g".toList, "g".toList, [("pid".toList, "a".toList)], "gh".toList⟩, 1, 0),
     (⟨"g".toList, "g".toList, [("pid".toList, "b".toList)], "gh".toList⟩, 2, 0)]⟩]

def pidDemoOut : List (List (Str × Labels × Int)) :=
  match merge intV natB (pidDemo.map toFile) with
  | .ok out => out.map (fun m => m.samples.map (fun s => (s.name, s.labels, s.value)))
  | .error _ => []

set_option synthInstance.maxSize 1000 in
theorem pid_label_collides :
    pidDemoOut = [[("g".toList, [("pid".toList, "1".toList)], 1), ("g".toList, [("pid".toList, "1".toList)], 2)]] := by
  decide +kernel

end PromVerif.Props.C08
