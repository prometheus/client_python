/-
C09 — a change of process identity (fork) never loses or double-counts updates.

Model M: `Model/Values.lean`, the closure state of `values.MultiProcessValue` (`pid`, `files`, `values`) plus the
directory; ops `construct | inc | set | get | setPid`, every op except `setPid` starting with
`__check_for_pid_change` exactly as the code (shape checked by the extractor, `extract_ok`).
All theorems are about histories of ANY length with ANY number of identity changes at ANY positions, including a
return to an identity seen before.  Values are an abstract type; the algebraic laws conservation needs are hypotheses
and `Int` satisfies them (examples).

Genuine restriction (probed on the real code): `conservation_partial` and `per_pid_gauge_partial` assume that every
UPDATE goes through the YOUNGEST value object on its (file prefix, key) (`OpsOK`): an older object on the same key must
not be updated once a younger one exists.  Stale objects themselves are harmless — after `remove()`/`clear()` and `labels()`
again the dropped child stays in the closure's `values` list and is re-bound on every identity change, but it only
re-reads, it never writes — so histories with remove/clear + re-creation satisfy the hypothesis.  What is excluded is
USING both: two metrics of one name in different registries, or a child handle kept and updated after `remove()` while
`labels()` re-created it; each keeps its own cached float and they overwrite each other: `two_objects_lose_updates`
shows M doing exactly that (3 increments, cell = 2), as the real code does.  `writes_only_own_files` and
`rebinding_reads_current` need no such assumption.
-/
import PromVerif.Lemmas.MultiprocessWorld
import PromVerif.Lemmas.MultiprocessFresh
import PromVerif.Lemmas.MultiprocessChars

namespace PromVerif.Props.C09
open PromVerif.Py PromVerif.Generated.Multiprocess
open PromVerif.Model.Multiprocess PromVerif.Model.Values PromVerif.Spec.Multiprocess
set_option autoImplicit false

/-- the extractor found `__init__`/`inc`/`set`/`get` calling `__check_for_pid_change` first under the lock, the check
    resetting EVERY value, `__reset` re-reading value and timestamp, and the file-name pattern -/
theorem extract_ok : extractOk = true := by decide

variable {V : Type}

/-- **writes_only_own_files.**  In any state reachable by any history, one more call under identity `p` leaves every
    file that is not named `<prefix>_<p>.db` exactly as it was (content and existence); `setPid` touches nothing.
    In particular the previous identity's files are never written by the new process. -/
theorem writes_only_own_files (vo : VOps V) (pid0 : Str) (ops : List (Op V)) (op : Op V) (fn : Str)
    (hne : ∀ pre, fn ≠ fileName pre (step vo (run vo (St.init pid0) ops) op).1.pid) :
    AL.get? (step vo (run vo (St.init pid0) ops) op).1.disk fn = AL.get? (run vo (St.init pid0) ops).disk fn :=
  step_files vo _ op (run_bound vo ops _ (bound_init pid0)) fn hne

theorem runs_under_current (vo : VOps V) (pid0 : Str) (ops : List (Op V)) (op : Op V) (h : ∀ p, op ≠ .setPid p) :
    (step vo (run vo (St.init pid0) ops) op).1.pid = (run vo (St.init pid0) ops).actual := by
  have := (step_pid vo (run vo (St.init pid0) ops) op (run_bound vo ops _ (bound_init pid0))).2
  cases op with
  | setPid p => exact absurd rfl (h p)
  | _ => exact this

/-- **rebinding_reads_current.**  After an identity change, the check that opens the next call re-binds EVERY live
    value to the new identity's file of its prefix, its entry exists there, its cached pair is what that file holds,
    and that is what the file held before (zero if the entry did not exist): updates continue from there. -/
theorem rebinding_reads_current (vo : VOps V) (pid0 : Str) (ops : List (Op V))
    (hchg : (run vo (St.init pid0) ops).pid ≠ (run vo (St.init pid0) ops).actual) :
    let st := run vo (St.init pid0) ops
    let st1 := checkPid vo st
    st1.pid = st.actual ∧
    ∀ v ∈ st1.values,
      v.file = fileName (filePrefix v.params) st.actual ∧
      (cellGet st1.disk v.file v.key).isSome = true ∧
      cellVal vo st1.disk v.file v.key = (v.value, v.ts) ∧
      cellVal vo st1.disk v.file v.key = cellVal vo st.disk v.file v.key := by
  intro st st1
  have hb := run_bound vo ops _ (bound_init (V := V) pid0)
  have hc := checkPid_post vo st hb
  refine ⟨hc.pid, ?_⟩
  intro v hv
  have := hc.bound.bound v hv
  exact ⟨by rw [this.2, hc.pid], hc.bound.exist v hv, hc.cached (Or.inl hchg) v hv, hc.cellval _ _⟩

/-- … and after the whole call (any op) every cache is still what its file holds, for the youngest value object on
    each (prefix, key), provided updates only go through the youngest (`OpsOK`) -/
theorem caches_coherent_partial (vo : VOps V) (pid0 : Str) (ops : List (Op V))
    (hok : OpsOK [] ops) :
    ∀ i v, (run vo (St.init pid0) ops).values[i]? = some v → IsLast (idsOf (run vo (St.init pid0) ops)) i →
      cellVal vo (run vo (St.init pid0) ops).disk v.file v.key = (v.value, v.ts) :=
  (run_inv vo ops _ (inv_init vo pid0) hok).cached

/-- **per_pid_gauge** (and every other series; `_partial`: missing is the case of an UPDATE through a value object that is not the
    youngest on its (prefix, key), where the real code loses updates — `two_objects_lose_updates`; excluded by `hok`): after any history, the entry of series `(pre, k)` in identity `p`'s
    file is the fold of the updates issued UNDER `p` alone — increments add, a set replaces — starting from zero;
    updates issued under other identities never reach it. -/
theorem per_pid_gauge_partial (vo : VOps V) (pid0 : Str) (ops : List (Op V)) (pre : Str) (k : Key) (p : Str)
    (hp : '_' ∉ p) (hids : IdsOK pid0 ops)
    (hok : OpsOK [] ops) :
    cellVal vo (run vo (St.init pid0) ops).disk (fileName pre p) k = ownCell vo p (updLog vo pre k pid0 [] ops) := by
  have := run_cell vo pre k p hp ops (St.init pid0) (inv_init vo pid0) hok hids
  rw [this, ownCell_eq]
  rfl

theorem own_last_set (vo : VOps V) (p : Str) (us : List (Upd V)) (v t : V) :
    ownCell vo p (us ++ [Upd.set p v t]) = (v, t) := by
  rw [ownCell_eq, List.foldl_append]
  simp [ownStep]

/-- conservation without assuming `zero` neutral -/
theorem conservation_general_partial (vo : VOps V) (hcomm : ∀ a b, vo.add a b = vo.add b a)
    (hassoc : ∀ a b c, vo.add (vo.add a b) c = vo.add a (vo.add b c))
    (pid0 : Str) (ops : List (Op V)) (pre : Str) (k : Key) (pids : List Str) (hnd : pids.Nodup)
    (hpids : ∀ p ∈ pids, '_' ∉ p) (hids : IdsOK pid0 ops)
    (hok : OpsOK [] ops)
    (hinc : ∀ u ∈ updLog vo pre k pid0 [] ops, ∃ q a, u = Upd.inc q a ∧ q ∈ pids) :
    aggSum vo (pids.map (fun p => (cellVal vo (run vo (St.init pid0) ops).disk (fileName pre p) k).1))
      = (updLog vo pre k pid0 [] ops).foldl
          (fun acc u => match u with | .inc _ a => vo.add acc a | .set _ _ _ => acc)
          (aggSum vo (pids.map (fun _ => vo.zero))) :=
  aggSum_cells vo hcomm hassoc pids hnd _ hinc _ (fun p hp => by
    rw [per_pid_gauge_partial vo pid0 ops pre k p (hpids p hp) hids hok, ownCell_eq])

/-- **conservation** (`_partial` for the same reason as `per_pid_gauge_partial`: `hok`).  For any history from a fresh directory — any number of identity changes at any positions,
    returning to earlier identities included — the sum over ALL identities' files of the entry of series `(pre, k)`
    equals the sum of all increments ever issued to it, in a commutative monoid, provided the series is only
    incremented (`hinc`; a `set`, e.g. `Counter.reset()`, deliberately overwrites).  `pids` is any duplicate-free list
    containing every identity used; files of other identities do not exist (their entries read as zero). -/
theorem conservation_partial (vo : VOps V) (hcomm : ∀ a b, vo.add a b = vo.add b a)
    (hassoc : ∀ a b c, vo.add (vo.add a b) c = vo.add a (vo.add b c)) (hzero : ∀ a, vo.add vo.zero a = a)
    (pid0 : Str) (ops : List (Op V)) (pre : Str) (k : Key) (pids : List Str) (hnd : pids.Nodup)
    (hpids : ∀ p ∈ pids, '_' ∉ p) (hids : IdsOK pid0 ops)
    (hok : OpsOK [] ops)
    (hinc : ∀ u ∈ updLog vo pre k pid0 [] ops, ∃ q a, u = Upd.inc q a ∧ q ∈ pids) :
    aggSum vo (pids.map (fun p => (cellVal vo (run vo (St.init pid0) ops).disk (fileName pre p) k).1))
      = incTotal vo (updLog vo pre k pid0 [] ops) := by
  rw [conservation_general_partial vo hcomm hassoc pid0 ops pre k pids hnd hpids hids hok hinc, aggSum_zeros vo hzero]
  rfl

/-! ### several worker generations on one directory: death, `mark_process_dead`, pid reuse

World histories (`Model.Values.Ev`): `op` = a call of the acting worker, `spawn p` = a NEW worker (fresh closure) with
identity `p` on the directory as it is — also how a pid is reused —, `dead p` = `mark_process_dead(p)`. -/

/-- **dead_removes_only_live_files.**  `mark_process_dead(q)` removes exactly the files `gauge_<live mode>_<q>.db`; every
    other file — every counter, summary, histogram and non-live gauge file of the dead identity included — keeps its
    content, and so does every cell. -/
theorem dead_removes_only_live_files (vo : VOps V) (q : Str) (disk : List (Str × Store V)) (fn : Str) (k : Key) :
    (AL.get? (deadDisk q disk) fn = if isLiveFileOf q fn = true then none else AL.get? disk fn) ∧
    (cellVal vo (deadDisk q disk) fn k = if isLiveFileOf q fn = true then (vo.zero, vo.zero) else cellVal vo disk fn k) :=
  ⟨file_deadDisk q disk fn, cellVal_deadDisk vo q disk fn k⟩

theorem dead_touches_own_identity_only (q pre p : Str) (hq : '_' ∉ q) (hp : '_' ∉ p) (hne : p ≠ q) :
    isLiveFileOf q (fileName pre p) = false :=
  isLiveFileOf_foreign q pre p hq hp hne

/-- **world_cell** (`_partial`: `hu` = every INCREMENT of the world history goes through a FRESH value object (`wFresh`): one that nothing
    else has overwritten since it last read or wrote its entry — all objects are fresh after an identity change and after
    their construction; an update through one object makes the others on its key stale until the next identity change).
    After ANY world history from an empty directory — any number of worker generations, identity changes, deaths and
    pid reuses — identity `p`'s entry of series `(pre, k)` is the fold over the world log of: the updates issued under
    `p` by whichever generation (increments add, sets replace), and the deaths of `p`, which reset the entry exactly
    when the file is a live-gauge file.  Hence: counters of a dead identity are still there; its live gauges are gone;
    a new worker that reuses the pid continues every non-live entry from what the file holds. -/
theorem world_cell_partial (vo : VOps V) (p0 : Str) (hp0 : '_' ∉ p0) (evs : List (Ev V)) (hev : evsIdOK evs)
    (hu : wFresh vo (St.init p0) (fun _ => true) evs = true) (pre : Str) (k : Key) (p : Str) (hp : '_' ∉ p) :
    cellVal vo (wrun vo (St.init p0) evs).disk (fileName pre p) k
      = (wLog vo pre k p0 p0 [] evs).foldl (wOwnStep vo (isLiveFileOf p (fileName pre p)) p) (vo.zero, vo.zero) :=
  wrun_cell_init vo p0 hp0 evs hev hu pre k p hp

/-- **reuse_continues** (`_partial` as above): when a new worker is spawned — with a fresh or a REUSED pid, after a
    `mark_process_dead` or not — every entry evolves from what the directory holds at that moment by the new worker's
    own updates; nothing is reset by the restart itself. -/
theorem reuse_continues_partial (vo : VOps V) (p0 : Str) (hp0 : '_' ∉ p0) (a b : List (Ev V)) (q : Str)
    (hev : evsIdOK (a ++ Ev.spawn q :: b)) (hu : wFresh vo (St.init p0) (fun _ => true) (a ++ Ev.spawn q :: b) = true)
    (pre : Str) (k : Key) (p : Str) (hp : '_' ∉ p) :
    cellVal vo (wrun vo (St.init p0) (a ++ Ev.spawn q :: b)).disk (fileName pre p) k
      = (wLog vo pre k q q [] b).foldl (wOwnStep vo (isLiveFileOf p (fileName pre p)) p)
          (cellVal vo (wrun vo (St.init p0) a).disk (fileName pre p) k) := by
  rw [wrun_append, wrun_cons]
  obtain ⟨hq, hevb⟩ := List.forall_mem_cons.mp (List.forall_mem_append.mp hev).2
  have hfb := wFresh_append_spawn vo a b q (St.init p0) _ hu
  -- of the history before the `spawn` nothing matters but the directory it leaves
  exact wrun_cell_new vo q hq _ b hevb hfb pre k p hp

/-- **conservation_world** (`_partial` as above): for a series whose file is NOT a live-gauge file (every counter,
    summary and histogram series; non-live gauges), the sum over all identities' files equals the sum of all
    increments ever issued by all worker generations — deaths, `mark_process_dead` and pid reuse change nothing — in a
    commutative monoid, provided the series is only incremented. -/
theorem conservation_world_partial (vo : VOps V) (hcomm : ∀ a b, vo.add a b = vo.add b a)
    (hassoc : ∀ a b c, vo.add (vo.add a b) c = vo.add a (vo.add b c)) (hzero : ∀ a, vo.add vo.zero a = a)
    (p0 : Str) (hp0 : '_' ∉ p0) (evs : List (Ev V)) (hev : evsIdOK evs)
    (hu : wFresh vo (St.init p0) (fun _ => true) evs = true)
    (pre : Str) (k : Key) (pids : List Str) (hnd : pids.Nodup) (hpids : ∀ p ∈ pids, '_' ∉ p)
    (hlive : ∀ p ∈ pids, isLiveFileOf p (fileName pre p) = false)
    (hinc : ∀ u ∈ wUpds (wLog vo pre k p0 p0 [] evs), ∃ q a, u = Upd.inc q a ∧ q ∈ pids) :
    aggSum vo (pids.map (fun p => (cellVal vo (wrun vo (St.init p0) evs).disk (fileName pre p) k).1))
      = incTotal vo (wUpds (wLog vo pre k p0 p0 [] evs)) :=
  wrun_sum vo hcomm hassoc hzero p0 hp0 evs hev hu pre k pids hnd hpids hlive hinc

/-- **entry_present_iff** (no uniqueness assumption).  After any world history from an empty directory, identity `p`'s
    file of prefix `pre` HAS an entry for key `k` exactly when `wPresent` says so: some call made while `p` was the
    acting identity constructed a value object on `(pre, k)`, or re-bound one (the first call after an identity change
    re-binds — and thereby creates at zero — the entries of ALL value objects of the acting worker), and, if the file is
    a live-gauge file, no later `mark_process_dead(p)` removed it.  An `inc`/`set`/`get` creates nothing by itself. -/
theorem entry_present_iff (vo : VOps V) (p0 : Str) (hp0 : '_' ∉ p0) (evs : List (Ev V)) (hev : evsIdOK evs)
    (pre : Str) (k : Key) (p : Str) (hp : '_' ∉ p) :
    has (wrun vo (St.init p0) evs).disk (fileName pre p) k
      = wPresent pre k p (isLiveFileOf p (fileName pre p)) p0 p0 [] evs false :=
  wrun_has vo pre k p hp evs (St.init p0) (bound_init p0) ⟨hp0, hp0⟩ hev

/-- `Int` as value type: a commutative monoid with a strict order -/
def intOps : VOps Int := ⟨0, (· + ·), (fun a b => decide (a < b)), (fun a b => decide (a ≤ b)), (fun x => x != 0)⟩

def pCounter : Params := ⟨"counter".toList, "c".toList, "c_total".toList, [], [], "help".toList, []⟩
def pGauge : Params := ⟨"gauge".toList, "g".toList, "g".toList, ["l".toList], ["x".toList], "help".toList, "all".toList⟩

/-- a history with three identity changes, returning to the first identity, two metric types -/
def demoOps : List (Op Int) :=
  [.construct pCounter, .inc 0 2, .setPid "2".toList, .construct pGauge, .inc 0 3, .set 1 7 none,
   .setPid "1".toList, .inc 0 4, .set 1 5 (some 9), .setPid "2".toList, .inc 0 1]

/-- executable form of hypothesis `hinc` -/
def incsWithin (pids : List Str) : List (Upd Int) → Bool
  | [] => true
  | .inc q _ :: r => pids.contains q && incsWithin pids r
  | .set _ _ _ :: _ => false

theorem incsWithin_sound (pids : List Str) (us : List (Upd Int)) (h : incsWithin pids us = true) :
    ∀ u ∈ us, ∃ q a, u = Upd.inc q a ∧ q ∈ pids := by
  induction us with
  | nil => intro u hu; cases hu
  | cons x r ih =>
    cases x with
    | set q v t => simp [incsWithin] at h
    | inc q a =>
      simp only [incsWithin, Bool.and_eq_true, List.contains_iff_mem] at h
      exact List.forall_mem_cons.mpr ⟨⟨q, a, rfl, h.1⟩, ih h.2⟩

theorem demo_ids : IdsOK (V := Int) "1".toList demoOps :=
  ⟨by decide +kernel, fun _ hp => (by decide +kernel : evsIdOK (demoOps.map Ev.op)) _ (List.mem_map_of_mem hp)⟩

theorem demo_uniq : OpsOK [] demoOps := by
  apply opsOKB_sound
  simp only [demoOps, pCounter, pGauge, chars]
  decide +kernel

/-- the hypotheses of `conservation_partial` are satisfiable by a history with identity changes, and its conclusion computes:
    2 + 3 + 4 + 1 = 10 spread over `counter_1.db` (6) and `counter_2.db` (4) -/
example : aggSum intOps (["1".toList, "2".toList].map (fun p =>
      (cellVal intOps (run intOps (St.init "1".toList) demoOps).disk (fileName "counter".toList p) (mmapKey pCounter)).1))
    = incTotal intOps (updLog intOps "counter".toList (mmapKey pCounter) "1".toList [] demoOps) :=
  conservation_partial intOps Int.add_comm Int.add_assoc Int.zero_add "1".toList demoOps "counter".toList (mmapKey pCounter)
    ["1".toList, "2".toList] (by decide +kernel) (by decide +kernel) demo_ids demo_uniq
    (incsWithin_sound _ _ (by simp only [demoOps, pCounter, pGauge, chars]; decide +kernel))

example : incTotal intOps (updLog intOps "counter".toList (mmapKey pCounter) "1".toList [] demoOps) = 10 := by
  simp only [demoOps, pCounter, pGauge, chars]
  decide +kernel

theorem demoOps_disk : (run intOps (St.init "1".toList) demoOps).disk =
    [(fileName "counter".toList "1".toList, [(mmapKey pCounter, (6, 0))]),
     (fileName "counter".toList "2".toList, [(mmapKey pCounter, (4, 0))]),
     (fileName "gauge_all".toList "2".toList, [(mmapKey pGauge, (7, 0))]),
     (fileName "gauge_all".toList "1".toList, [(mmapKey pGauge, (5, 9))])] := by
  simp only [demoOps, pCounter, pGauge, chars]
  decide +kernel

example : cellVal intOps (run intOps (St.init "1".toList) demoOps).disk (fileName "gauge_all".toList "1".toList) (mmapKey pGauge)
    = (5, 9) := by
  rw [demoOps_disk]
  simp only [pCounter, pGauge, chars]
  decide +kernel
example : cellVal intOps (run intOps (St.init "1".toList) demoOps).disk (fileName "gauge_all".toList "2".toList) (mmapKey pGauge)
    = (7, 0) := by
  rw [demoOps_disk]
  simp only [pCounter, pGauge, chars]
  decide +kernel

/-- a state in which `rebinding_reads_current` applies (identity changed, next call pending) -/
example : (run intOps (St.init "1".toList) (demoOps.take 7)).pid ≠ (run intOps (St.init "1".toList) (demoOps.take 7)).actual := by
  simp only [demoOps, pCounter, pGauge, chars]
  decide +kernel

def pLive : Params := ⟨"gauge".toList, "gl".toList, "gl".toList, [], [], "help".toList, "livesum".toList⟩
def pSum : Params := ⟨"gauge".toList, "gs".toList, "gs".toList, [], [], "help".toList, "sum".toList⟩

/-- a world history: worker 1 (pid 5) counts 2 and sets a livesum and a sum gauge, dies, is marked dead; a NEW worker reuses
    pid 5, counts 3 more and increments both gauges by 1 -/
def demoWorld : List (Ev Int) :=
  [.op (.construct pCounter), .op (.inc 0 2), .op (.construct pLive), .op (.set 1 10 none), .op (.construct pSum),
   .op (.set 2 20 none), .dead "5".toList, .spawn "5".toList,
   .op (.construct pCounter), .op (.inc 0 3), .op (.construct pLive), .op (.inc 1 1), .op (.construct pSum), .op (.inc 2 1)]

theorem demoWorld_ids : evsIdOK demoWorld := by decide +kernel

theorem demoWorld_uniq : wFresh intOps (St.init "5".toList) (fun _ => true) demoWorld = true := by
  simp only [demoWorld, pCounter, pLive, pSum, chars]
  decide +kernel

theorem demoWorld_disk : (wrun intOps (St.init "5".toList) demoWorld).disk =
    [(fileName "counter".toList "5".toList, [(mmapKey pCounter, (5, 0))]),
     (fileName "gauge_sum".toList "5".toList, [(mmapKey pSum, (21, 0))]),
     (fileName "gauge_livesum".toList "5".toList, [(mmapKey pLive, (1, 0))])] := by
  simp only [demoWorld, pCounter, pLive, pSum, chars]
  decide +kernel

/-- presence on this history: identity 7 (never acting) has no entry; the live gauge entry of 5 exists again only because
    the new worker re-created it after the death -/
example : has (wrun intOps (St.init "5".toList) demoWorld).disk (fileName "counter".toList "5".toList) (mmapKey pCounter) = true := by
  rw [demoWorld_disk]
  simp only [pCounter, pLive, pSum, chars]
  decide +kernel
example : has (wrun intOps (St.init "5".toList) demoWorld).disk (fileName "counter".toList "7".toList) (mmapKey pCounter) = false := by
  rw [demoWorld_disk]
  simp only [pCounter, pLive, pSum, chars]
  decide +kernel
example : has (wrun intOps (St.init "5".toList) (demoWorld.take 8)).disk (fileName "gauge_livesum".toList "5".toList) (mmapKey pLive)
    = false := by
  simp only [demoWorld, pCounter, pLive, pSum, chars]
  decide +kernel
example : has (wrun intOps (St.init "5".toList) (demoWorld.take 8)).disk (fileName "gauge_sum".toList "5".toList) (mmapKey pSum)
    = true := by
  simp only [demoWorld, pCounter, pLive, pSum, chars]
  decide +kernel

/-- the hypotheses of `world_cell_partial` are satisfiable, and on this history: the counter of the dead-and-reused
    identity holds 2 + 3; the live gauge restarted from zero (0 + 1); the non-live gauge continued (20 + 1) -/
example : cellVal intOps (wrun intOps (St.init "5".toList) demoWorld).disk (fileName "counter".toList "5".toList) (mmapKey pCounter)
    = (wLog intOps "counter".toList (mmapKey pCounter) "5".toList "5".toList [] demoWorld).foldl
        (wOwnStep intOps (isLiveFileOf "5".toList (fileName "counter".toList "5".toList)) "5".toList) (0, 0) :=
  world_cell_partial intOps "5".toList (by decide +kernel) demoWorld demoWorld_ids demoWorld_uniq _ _ _ (by decide +kernel)
example : cellVal intOps (wrun intOps (St.init "5".toList) demoWorld).disk (fileName "counter".toList "5".toList) (mmapKey pCounter)
    = (5, 0) := by
  rw [demoWorld_disk]
  simp only [pCounter, pLive, pSum, chars]
  decide +kernel
example : cellVal intOps (wrun intOps (St.init "5".toList) demoWorld).disk (fileName "gauge_livesum".toList "5".toList) (mmapKey pLive)
    = (1, 0) := by
  rw [demoWorld_disk]
  simp only [pCounter, pLive, pSum, chars]
  decide +kernel
example : cellVal intOps (wrun intOps (St.init "5".toList) demoWorld).disk (fileName "gauge_sum".toList "5".toList) (mmapKey pSum)
    = (21, 0) := by
  rw [demoWorld_disk]
  simp only [pCounter, pLive, pSum, chars]
  decide +kernel

/-- `remove()` + `labels()` again, old handle dropped, under identity changes: index 0 is the dropped child, index 1 the
    re-created one on the same key; the hypothesis holds and nothing is lost: 1 + 2 + 4 + 8 = 15 -/
def relabelOps : List (Op Int) :=
  [.construct pCounter, .inc 0 1, .construct pCounter, .inc 1 2, .setPid "11".toList, .inc 1 4, .setPid "1".toList, .inc 1 8]

example : OpsOK [] relabelOps := by
  apply opsOKB_sound
  simp only [relabelOps, pCounter, chars]
  decide +kernel
example : aggSum intOps (["1".toList, "11".toList].map (fun p =>
      (cellVal intOps (run intOps (St.init "1".toList) relabelOps).disk (fileName "counter".toList p) (mmapKey pCounter)).1)) = 15 := by
  simp only [relabelOps, pCounter, chars]
  decide +kernel
/-- … whereas the lossy history below violates it (index 0 is updated after index 1 was constructed on the same key) -/
example : opsOKB (V := Int) [] [.construct pCounter, .construct pCounter, .inc 0 1, .inc 1 1, .inc 0 1] = false := by
  simp only [pCounter, chars]
  decide +kernel

/-- a KEPT old handle used again after an identity change (index 0 = old child, index 1 = re-created child on the same key):
    within each identity epoch only one of the two is updated, so every increment goes through a fresh object
    (`wFresh`) although index 0 is not the youngest (`OpsOK` fails) — and nothing is lost: 1 + 2 + 4 + 8 = 15 -/
def staleHandleWorld : List (Ev Int) :=
  [.op (.construct pCounter), .op (.inc 0 1), .op (.construct pCounter), .op (.inc 1 2), .op (.setPid "11".toList),
   .op (.inc 0 4), .op (.setPid "1".toList), .op (.inc 1 8)]

example : wFresh intOps (St.init "1".toList) (fun _ => true) staleHandleWorld = true := by
  simp only [staleHandleWorld, pCounter, chars]
  decide +kernel
example : opsOKB (V := Int) [] [.construct pCounter, .inc 0 1, .construct pCounter, .inc 1 2, .setPid "11".toList,
    .inc 0 4, .setPid "1".toList, .inc 1 8] = false := by
  simp only [pCounter, chars]
  decide +kernel
example : aggSum intOps (["1".toList, "11".toList].map (fun p =>
      (cellVal intOps (wrun intOps (St.init "1".toList) staleHandleWorld).disk (fileName "counter".toList p) (mmapKey pCounter)).1))
    = 15 := by
  simp only [staleHandleWorld, pCounter, chars]
  decide +kernel
/-- … whereas alternating the two objects inside one epoch is not fresh (and loses an update) -/
example : wFresh intOps (St.init "1".toList) (fun _ => true)
    [.op (.construct pCounter), .op (.construct pCounter), .op (.inc 0 1), .op (.inc 1 1), .op (.inc 0 1)] = false := by
  simp only [pCounter, chars]
  decide +kernel

/-- **the counter-example behind `OpsOK`** (M exhibits the candidate finding): two live value objects on one key, three
    increments issued, the file holds 2 -/
theorem two_objects_lose_updates :
    cellVal intOps (run intOps (St.init "1".toList)
        [.construct pCounter, .construct pCounter, .inc 0 1, .inc 1 1, .inc 0 1]).disk
      (fileName "counter".toList "1".toList) (mmapKey pCounter) = (2, 0) := by
  simp only [pCounter, chars]
  decide +kernel

end PromVerif.Props.C09
