/-
C15 — the OpenMetrics parser enforces each of its validation rules on every instance.

Each theorem: a rule predicate of `Spec/OMRules.lean` (written from the rule's wording, over the list of tokenised
lines, the offending line at an arbitrary position, everything else arbitrary) implies that the family state machine
`assemble` — the model of `text_fd_to_metric_families` on tokenised lines, `omParse = assemble ∘ map parseLine ∘
docLines` — raises.  The theorems are parametric in the number operations (`Params`).  After each theorem a
kernel-evaluated example: a concrete accepted document and its violating transform rejected (toy number instance).

Rules whose enforcement in the parser is narrower than the wording carry that side condition in the predicate; the
harness runs the real parser on the excluded instances (evidence key `exemptions`).

Rule → theorem
  missing '# EOF' / content after it (repeated EOF)  missing_eof, content_after_eof
  blank lines                                        blank_line
  repeated or late metadata                          repeated_metadata, late_metadata
  interleaved or clashing families                   interleaved_families, clashing_families
  unit not suffixing the name / on info, stateset    unit_not_suffix, unit_on_info_or_stateset
  histogram groups: bounds not increasing,           hist_bounds_not_increasing, hist_counts_not_cumulative (document level),
    counts not cumulative, no +Inf, _count ≠ +Inf      hist_no_inf_document, hist_count_ne_inf_document (document level; _partial: sample-list level)
    counts not integral                                count_not_integral
    bound NaN in any spelling / missing / not a number bucket_bound_nan
  NaN or negative counter-like samples               counter_like_nan, counter_like_negative
  info values ≠ 1                                    info_not_one
  stateset values ∉ {0,1} / without the state label  stateset_bad_value, stateset_no_label
  quantiles outside [0,1]                            quantile_out_of_range
  timestamps backwards / on part of a group          timestamp_backwards, timestamp_partial
  duplicate label names                              duplicate_label_term, duplicate_label   (ParseCore.parseLabels)
  exemplars on ineligible samples / over 128 chars   exemplar_ineligible, exemplar_too_long  (the latter on remFinish)

Not proved / partial, and why
* histogram rules: all four are document-level.  `hist_bounds_not_increasing` and `hist_counts_not_cumulative`: the pair
  of bucket lines at any position of the family block; the two lines must be new series, because a line repeating a
  series at an unchanged timestamp is dropped before the histogram check — the exemption recorded in the evidence.
  `hist_no_inf_document` and `hist_count_ne_inf_document` (the two `do_checks` rules): the failure is not prefix-stable
  (a later `+Inf` / `_count` line of the same group can still repair it), so the predicate names the closing event — the
  family is closed, or a sample of another group or timestamp follows; they also assume `t == t` for the timestamp of
  the group's bucket line (floats: never NaN).  The `*_partial` versions state the same four rules on the sample list
  `_check_histogram` receives (no side condition on repeats).
* timestamp_backwards: consecutive samples only (the parser compares each sample with its predecessor; a statement
  about non-adjacent samples of a group needs transitivity of the float order, a fact about IEEE not about the code).
* families without a `# TYPE` line (typ `unknown` opened by a sample or by HELP/UNIT only) are outside `InBlock`;
  "Invalid metric grouping" (a group resumed after another one) is not among the rules of the statement and has no
  theorem.  Both are exercised by the harness.
* exemplar_too_long and duplicate_label are statements about line tokenisation (`remFinish`, `parseLabels`), not
  about `assemble`: at the line level such a line is `.sample _ (.error .valueError)`.  Their versions on the text of
  a line and of a whole document are in `Props/C15Text.lean` (`duplicate_label_document`, `exemplar_too_long_document`).
-/
import PromVerif.Spec.OMRules
import PromVerif.Lemmas.OMRun
import PromVerif.Lemmas.OMDoom
import PromVerif.Lemmas.OMGroup
import PromVerif.Lemmas.OMLabels
import PromVerif.Lemmas.OMHist
import PromVerif.Lemmas.OMHistDoc
import PromVerif.Lemmas.OMToyDoc

namespace PromVerif.Props.C15
open PromVerif.Py PromVerif.Model.ParseCore PromVerif.Model.OMParse PromVerif.Generated.OMParse
open PromVerif.Spec.OMRules PromVerif.Lemmas.OM PromVerif.Lemmas.OMToy

/-- the extractor found every site of the OpenMetrics parser in the shape it understands -/
theorem extract_ok : extractOk = true := by decide

/-- the suffix table the rules are worded with is the table in the source -/
theorem suffix_table_matches (t : Str) : (lookupTable t typeSuffixes).getD [[]] = specSuffixes t := lookup_spec t

theorem stepLine_eof_false (P : Params) (st st' : St) (l : Line) (hl : l ≠ .eof) (h : stepLine P st l = .ok st') :
    st'.eof = st.eof := by
  obtain ⟨_, hc⟩ := stepLine_ok P st st' l h
  rcases hc with ⟨h0, _⟩ | ⟨kind, cand, rest, _, hm⟩ | ⟨nh, plain, s, isNh, _, _, hs⟩
  · exact absurd h0 hl
  · rcases stepMeta_ok P st st' _ _ _ hm with ⟨_, g, hd, _, _, rfl⟩ | ⟨_, hd, _, rfl⟩ <;> rfl
  · rcases stepSample_ok P st st' s isNh hs with ⟨_, g, hd, gr, _, _, _, rfl⟩ | ⟨_, gr, _, rfl⟩ <;> rfl

/-- missing `# EOF`: a document without an EOF line is rejected -/
theorem missing_eof (P : Params) (ls : List Line) (h : MissingEOF ls) : isError (assemble P ls) = true := by
  rw [assemble_eq]
  unfold finishRun
  cases hr : run P {} ls with
  | error e => rfl
  | ok st =>
    have : st.eof = false :=
      run_invariant P (fun s => s.eof = false) (fun l => l ≠ .eof)
        (fun s l s' hq hl hs => by rw [stepLine_eof_false P s s' l hl hs]; exact hq) ls (fun l hl e => h (e ▸ hl)) {} rfl st hr
    simp only [finish]
    cases flush P st.glob st.hdr st.grp.samples with
    | error e => rfl
    | ok g => simp [this, isError]

example : isError (parseDoc "a 1\n# EOF\n") = false := by rw [parseDoc_ofList]; decide +kernel
example : errOf (parseDoc "a 1\n") = some .valueError := by rw [parseDoc_ofList]; decide +kernel

/-- content after `# EOF` (a second `# EOF` included) is rejected -/
theorem content_after_eof (P : Params) (ls : List Line) (h : ContentAfterEOF ls) : isError (assemble P ls) = true := by
  obtain ⟨pre, l, post, rfl⟩ := h
  apply isError_of_suffix
  intro st
  refine isError_after_step P st _ _ fun st1 hs => ?_
  obtain ⟨_, hc⟩ := stepLine_ok P st st1 _ hs
  have h1 : st1.eof = true := by
    rcases hc with ⟨_, rfl⟩ | ⟨_, _, _, hl, _⟩ | ⟨_, _, _, _, hl, _⟩
    · rfl
    · cases hl
    · cases hl
  exact isError_of_step P l post st1 (by simp [stepLine, h1, isError])

example : errOf (parseDoc "a 1\n# EOF\na 2\n") = some .valueError := by rw [parseDoc_ofList]; decide +kernel
example : errOf (parseDoc "a 1\n# EOF\n# EOF\n") = some .valueError := by rw [parseDoc_ofList]; decide +kernel

/-- a blank line anywhere is rejected -/
theorem blank_line (P : Params) (ls : List Line) (h : BlankLine ls) : isError (assemble P ls) = true := by
  obtain ⟨pre, post, rfl⟩ := List.append_of_mem h
  apply isError_of_suffix
  intro st
  apply isError_of_bad_line
  intro st
  unfold stepLine
  split <;> rfl

example : errOf (parseDoc "a 1\n\n# EOF\n") = some .valueError := by rw [parseDoc_ofList]; decide +kernel

theorem sample_rule (P : Params) (ls : List Line) (n t : Str) (s : OSample) (hb : InBlock ls n t [smp s])
    (hmem : s.name ∈ familyNames n t) (c : PyM Unit)
    (hc : c ∈ [chkStatesetLabel n (some t) s, chkLe P n s, chkBucketIntegral P n s, chkCountIntegral P n s, chkQuantile P n (some t) s]
      ∨ c ∈ [chkStatesetValue P (some t) s, chkInfoValue P (some t) s, chkSummaryNeg P n (some t) s, chkNaN P n s, chkNeg P n s,
             chkExemplar (some t) s])
    (he : isError c = true) : isError (assemble P ls) = true := by
  refine block_of_InBlock P ls n t (smp s) hb fun st hh heof => smp_fails P st n t s hh heof hmem ?_
  rcases hc with hc | hc
  · exact Or.inl (runChecks_isError_of_mem _ c hc he)
  · exact Or.inr (Or.inr (runChecks_isError_of_mem _ c hc he))

theorem info_names (n : Str) : n ++ cs!"_info" ∈ familyNames n cs!"info" := by
  simp [familyNames, specSuffixes]

theorem stateset_names (n : Str) : n ∈ familyNames n cs!"stateset" := by
  simp [familyNames, specSuffixes]

theorem summary_names_self (n : Str) : n ∈ familyNames n cs!"summary" := by
  simp [familyNames, specSuffixes]

/-- info values other than 1 are rejected — any family name, labels, position, lines before and after -/
theorem info_not_one (P : Params) (ls : List Line) (h : InfoNotOne P ls) : isError (assemble P ls) = true := by
  obtain ⟨n, s, v, hb, hname, hv, hne⟩ := h
  refine sample_rule P ls n _ s hb (by rw [hname]; exact info_names n) (chkInfoValue P (some cs!"info") s) (Or.inr (by simp)) ?_
  have : chkInfoValue P (some cs!"info") s = raiseIfM (.ok (!P.eq v (.int 1))) := by
    simp only [chkInfoValue, hv]; rfl
  rw [this, hne]; rfl

example : isError (parseDoc "# TYPE a info\na_info{x=\"y\"} 1\n# EOF\n") = false := by rw [parseDoc_ofList]; decide +kernel
example : errOf (parseDoc "# TYPE a info\na_info{x=\"y\"} 2\n# EOF\n") = some .valueError := by rw [parseDoc_ofList]; decide +kernel
example : errOf (parseDoc "# TYPE a info\n# HELP a h\na_info{x=\"y\"} 1\na_info{x=\"z\"} 0\n# EOF\n") = some .valueError := by rw [parseDoc_ofList]; decide +kernel

/-- stateset values outside {0, 1} are rejected -/
theorem stateset_bad_value (P : Params) (ls : List Line) (h : StatesetBadValue P ls) : isError (assemble P ls) = true := by
  obtain ⟨n, s, v, hb, hname, hv, h0, h1⟩ := h
  refine sample_rule P ls n _ s hb (by rw [hname]; exact stateset_names n) (chkStatesetValue P (some cs!"stateset") s) (Or.inr (by simp)) ?_
  have : chkStatesetValue P (some cs!"stateset") s = raiseIf true := by
    simp only [chkStatesetValue, hv, valueIn]
    have : statesetValues = [0, 1] := by decide
    simp [this, h0, h1]
    rfl
  rw [this]; rfl

example : isError (parseDoc "# TYPE a stateset\na{a=\"on\"} 1\na{a=\"off\"} 0\n# EOF\n") = false := by rw [parseDoc_ofList]; decide +kernel
example : errOf (parseDoc "# TYPE a stateset\na{a=\"on\"} 1\na{a=\"off\"} 2\n# EOF\n") = some .valueError := by rw [parseDoc_ofList]; decide +kernel

theorem dictHas_false_of (lbls : Labels) (n : Str) (h : ∀ kv ∈ lbls, kv.1 ≠ n) : dictHas lbls n = false := by
  unfold dictHas
  rw [List.any_eq_false]
  intro kv hkv
  simpa using h kv hkv

/-- a stateset sample without the state label is rejected -/
theorem stateset_no_label (P : Params) (ls : List Line) (h : StatesetNoLabel ls) : isError (assemble P ls) = true := by
  obtain ⟨n, s, lbls, hb, hname, hl, hno⟩ := h
  refine sample_rule P ls n _ s hb (by rw [hname]; exact stateset_names n) (chkStatesetLabel n (some cs!"stateset") s) (Or.inl (by simp)) ?_
  have : chkStatesetLabel n (some cs!"stateset") s = raiseIf true := by
    simp only [chkStatesetLabel, labelsOrType, hl, dictHas_false_of lbls n hno]
    rfl
  rw [this]; rfl

example : errOf (parseDoc "# TYPE a stateset\na{a=\"on\"} 1\na{b=\"off\"} 0\n# EOF\n") = some .valueError := by rw [parseDoc_ofList]; decide +kernel

theorem counterLike_nan : ∀ suf ∈ counterLike, nanSuffixes.contains suf = true := by decide
theorem counterLike_neg : ∀ suf ∈ counterLikeNonNeg, negSuffixes.contains suf = true := by decide

/-- NaN counter-like samples (`_total _sum _count _bucket _gcount _gsum`) are rejected, whatever the family type -/
theorem counter_like_nan (P : Params) (ls : List Line) (h : CounterLikeNaN P ls) : isError (assemble P ls) = true := by
  obtain ⟨n, t, s, suf, b, hb, hname, hsuf, hmem, hv, hnan⟩ := h
  refine sample_rule P ls n t s hb hmem (chkNaN P n s) (Or.inr (by simp)) ?_
  have : chkNaN P n s = raiseIfM (.ok true) := by
    have hn : nanTest P (some (.flt b)) = .ok true := by
      unfold nanTest
      split
      · simp only [hnan]
      · simp only [mathIsNaN, hnan]
    simp only [chkNaN, hname, drop_append_left, counterLike_nan suf hsuf, if_true, hv, hn]
  rw [this]; rfl

example : isError (parseDoc "# TYPE a counter\na_total 1\n# EOF\n") = false := by rw [parseDoc_ofList]; decide +kernel
example : errOf (parseDoc "# TYPE a counter\na_total NaN\n# EOF\n") = some .valueError := by rw [parseDoc_ofList]; decide +kernel
example : errOf (parseDoc "# TYPE a gaugehistogram\na_bucket{le=\"+Inf\"} 1\na_gcount 1\na_gsum NaN\n# EOF\n") = some .valueError := by rw [parseDoc_ofList]; decide +kernel

/-- negative counter-like samples (`_total _sum _count _bucket _gcount`) are rejected -/
theorem counter_like_negative (P : Params) (ls : List Line) (h : CounterLikeNegative P ls) : isError (assemble P ls) = true := by
  obtain ⟨n, t, s, suf, v, hb, hname, hsuf, hmem, hv, hneg⟩ := h
  refine sample_rule P ls n t s hb hmem (chkNeg P n s) (Or.inr (by simp)) ?_
  have : chkNeg P n s = raiseIfM (.ok true) := by
    simp only [chkNeg, hname, drop_append_left, counterLike_neg suf hsuf, if_true, hv, Params.cmpOpt, Params.cmp, hneg]
  rw [this]; rfl

example : errOf (parseDoc "# TYPE a counter\na_total -1\n# EOF\n") = some .valueError := by rw [parseDoc_ofList]; decide +kernel
example : isError (parseDoc "# TYPE a summary\na_count 1\na_sum 2\n# EOF\n") = false := by rw [parseDoc_ofList]; decide +kernel
example : errOf (parseDoc "# TYPE a summary\na_count 1\na_sum -2\n# EOF\n") = some .valueError := by rw [parseDoc_ofList]; decide +kernel

/-- a summary quantile sample whose quantile is missing, not a number or outside [0, 1] is rejected -/
theorem quantile_out_of_range (P : Params) (ls : List Line) (h : QuantileOutOfRange P ls) : isError (assemble P ls) = true := by
  obtain ⟨n, s, lbls, hb, hname, hl, hq⟩ := h
  refine sample_rule P ls n _ s hb (by rw [hname]; exact summary_names_self n) (chkQuantile P n (some cs!"summary") s) (Or.inl (by simp)) ?_
  have e1 : (some cs!"summary" == some tSummary && n == s.name) = true := by
    rw [hname]; simp; decide
  simp only [chkQuantile, e1, if_true, labelsOrAttr, hl]
  have e2 : sQuantile = cs!"quantile" := rfl
  rw [e2]
  cases hg : dictGet lbls cs!"quantile" with
  | none => rfl
  | some q =>
    rw [hg] at hq
    simp only at hq ⊢
    unfold Params.floatE
    cases hf : P.pyFloat q with
    | none => rfl
    | some f =>
      rw [hf] at hq
      simp only at hq ⊢
      have : (!(P.le (.int 0) (.flt f) && P.le (.flt f) (.int 1))) = true := by
        cases h1 : P.le (.int 0) (.flt f) <;> cases h2 : P.le (.flt f) (.int 1) <;> simp_all
      rw [if_pos this]; rfl

example : isError (parseDoc "# TYPE a summary\na{quantile=\"0.5\"} 1\n# EOF\n") = false := by rw [parseDoc_ofList]; decide +kernel
example : errOf (parseDoc "# TYPE a summary\na{quantile=\"2\"} 1\n# EOF\n") = some .valueError := by rw [parseDoc_ofList]; decide +kernel
example : errOf (parseDoc "# TYPE a summary\na{quantile=\"0.5\"} 1\na{x=\"y\"} 1\n# EOF\n") = some .valueError := by rw [parseDoc_ofList]; decide +kernel

/-- non-integral bucket / count values are rejected -/
theorem count_not_integral (P : Params) (ls : List Line) (h : CountNotIntegral P ls) : isError (assemble P ls) = true := by
  obtain ⟨n, t, s, suf, b, hb, hname, hsuf, hmem, hv, hni⟩ := h
  have hni' : raiseIfM (notIntegral P s.value) = raiseIfM (.ok true) := by simp [hv, notIntegral, hni]
  simp only [List.mem_cons, List.not_mem_nil, or_false] at hsuf
  rcases hsuf with rfl | hsuf
  · refine sample_rule P ls n t s hb hmem (chkBucketIntegral P n s) (Or.inl (by simp)) ?_
    have : (n ++ sBucket == n ++ cs!"_bucket") = true := by simp [sBucket]
    rw [chkBucketIntegral, hname, if_pos this, hni']; rfl
  · refine sample_rule P ls n t s hb hmem (chkCountIntegral P n s) (Or.inl (by simp)) ?_
    have : (n ++ sCount == n ++ suf || n ++ sGcount == n ++ suf) = true := by
      rcases hsuf with rfl | rfl <;> simp [sCount, sGcount]
    rw [chkCountIntegral, hname, if_pos this, hni']; rfl

example : isError (parseDoc "# TYPE a histogram\na_bucket{le=\"+Inf\"} 1\na_count 1\na_sum 1\n# EOF\n") = false := by rw [parseDoc_ofList]; decide +kernel
example : errOf (parseDoc "# TYPE a histogram\na_bucket{le=\"+Inf\"} 0.5\n# EOF\n") = some .valueError := by rw [parseDoc_ofList]; decide +kernel
example : errOf (parseDoc "# TYPE a summary\na_count 0.5\n# EOF\n") = some .valueError := by rw [parseDoc_ofList]; decide +kernel

/-- a bucket bound that is NaN — however spelled — missing, or not a number is rejected (the numeric NaN test of the
`le` label, repair 3aca2ff; with the former spelling test `== "NaN"` this theorem fails for `le="nan"`) -/
theorem bucket_bound_nan (P : Params) (ls : List Line) (h : BucketBoundNaN P ls) : isError (assemble P ls) = true := by
  obtain ⟨n, t, s, lbls, hb, hname, hmem, hl, hle⟩ := h
  refine sample_rule P ls n t s hb hmem (chkLe P n s) (Or.inl (by simp)) ?_
  have e1 : (n ++ sBucket == s.name) = true := by rw [hname]; simp [sBucket]
  have hflag : leNaNNumeric = true := by decide
  simp only [chkLe, e1, if_true, labelsOrAttr, hl, hflag]
  have e2 : sLe = cs!"le" := rfl
  rw [e2]
  cases hg : dictGet lbls cs!"le" with
  | none =>
    dsimp only
    cases P.floatE sNaN with
    | error e => rfl
    | ok f => dsimp only; split <;> rfl
  | some le =>
    rw [hg] at hle
    dsimp only at hle ⊢
    unfold Params.floatE
    cases hf : P.pyFloat le with
    | none => rfl
    | some f =>
      rw [hf] at hle
      dsimp only at hle ⊢
      rw [if_pos hle]; rfl

example : isError (parseDoc "# TYPE a histogram\na_bucket{le=\"1\"} 1\na_bucket{le=\"+Inf\"} 1\n# EOF\n") = false := by rw [parseDoc_ofList]; decide +kernel
example : errOf (parseDoc "# TYPE a histogram\na_bucket{le=\"NaN\"} 1\na_bucket{le=\"+Inf\"} 1\n# EOF\n") = some .valueError := by rw [parseDoc_ofList]; decide +kernel
example : errOf (parseDoc "# TYPE a histogram\na_bucket{le=\"1\"} 1\na_bucket{x=\"y\"} 1\na_bucket{le=\"+Inf\"} 1\n# EOF\n") = some .valueError := by rw [parseDoc_ofList]; decide +kernel

/-- an exemplar on a sample that is neither a histogram / gauge-histogram bucket nor a counter total is rejected -/
theorem exemplar_ineligible (P : Params) (ls : List Line) (h : ExemplarIneligible ls) : isError (assemble P ls) = true := by
  obtain ⟨n, t, s, hb, hmem, hex, hne⟩ := h
  refine sample_rule P ls n t s hb hmem (chkExemplar (some t) s) (Or.inr (by simp)) ?_
  have : chkExemplar (some t) s = raiseIf true := by
    unfold chkExemplar
    congr 1
    rw [hex, Bool.true_and, Bool.not_eq_true']
    -- the parser's test is the rule's `exemplarEligible`, as a Bool
    refine Bool.eq_false_iff.mpr fun hE => hne ?_
    simpa [exemplarEligible, tHistogram, tGaugeHistogram, tCounter, sBucket, sTotal] using hE
  rw [this]; rfl

example : isError (parseDoc "# TYPE a counter\na_total 1 # {t=\"x\"} 1\n# EOF\n") = false := by rw [parseDoc_ofList]; decide +kernel
example : errOf (parseDoc "# TYPE a counter\na_total 1\na_created 1 # {t=\"x\"} 1\n# EOF\n") = some .valueError := by rw [parseDoc_ofList]; decide +kernel
example : errOf (parseDoc "# TYPE a gauge\na 1 # {t=\"x\"} 1\n# EOF\n") = some .valueError := by rw [parseDoc_ofList]; decide +kernel

/-- a non-empty unit that the family name does not end with is rejected, wherever the `# UNIT` line stands and
whatever follows it -/
theorem unit_not_suffix (P : Params) (ls : List Line) (h : UnitNotSuffix ls) : isError (assemble P ls) = true := by
  obtain ⟨pre, n, u, post, rfl, hu, hsuf⟩ := h
  apply isError_of_suffix
  intro st
  rw [← kwUnit_eq]
  refine isError_after_step P st _ _ fun st1 hs => ?_
  obtain ⟨hn, _, h0, ha⟩ := stepLine_meta_name P st st1 kwUnit n u hs
  exact doom_unit_suffix P n u hu hsuf post st1 hn (applyMeta_unit _ _ _ _ ha)

example : isError (parseDoc "# TYPE a_seconds gauge\n# UNIT a_seconds seconds\na_seconds 1\n# EOF\n") = false := by rw [parseDoc_ofList]; decide +kernel
example : errOf (parseDoc "# TYPE a_seconds gauge\n# UNIT a_seconds bytes\na_seconds 1\n# EOF\n") = some .valueError := by rw [parseDoc_ofList]; decide +kernel
example : errOf (parseDoc "# UNIT a_seconds econd\n# TYPE a_seconds gauge\na_seconds 1\n# TYPE b gauge\n# EOF\n") = some .valueError := by rw [parseDoc_ofList]; decide +kernel

theorem forbidden_of (t : Str) (h : t = cs!"info" ∨ t = cs!"stateset") : unitForbidden.contains t = true := by
  rcases h with rfl | rfl <;> decide

/-- a non-empty unit on an info or stateset family is rejected (either order of the two metadata lines) -/
theorem unit_on_info_or_stateset (P : Params) (ls : List Line) (h : UnitOnInfoOrStateset ls) : isError (assemble P ls) = true := by
  obtain ⟨pre, n, u, t, mid, post, hu, ht, hls⟩ := h
  have hforb := forbidden_of t ht
  rcases hls with rfl | rfl
  · -- UNIT first: the unit stays set until the TYPE line arrives
    apply isError_of_suffix
    intro st
    rw [← kwUnit_eq, ← kwType_eq]
    refine after_meta P (fun h => h.unit = some u) n n kwUnit u mid _ st (fun _ _ ha => applyMeta_unit _ _ _ _ ha)
      (tracks_name P _ n fun h h' kind rest hA hm => (applyMeta_keeps_set _ _ _ _ _ hm).2.2 u hA) (fun st2 hseen => meta_when_seen P _ n kwType t post st2 hseen ?_)
    intro hd hn2 hu2 ha3
    exact doom_unit_forbidden P n u t hu hforb post _ ((applyMeta_name _ _ _ _ _ ha3).trans hn2)
      ((applyMeta_keeps_set _ _ _ _ _ ha3).2.2 u hu2) (applyMeta_typ _ _ _ _ ha3)
  · -- TYPE first: the type stays set until the UNIT line arrives
    apply isError_of_suffix
    intro st
    rw [← kwUnit_eq, ← kwType_eq]
    refine after_meta P (fun h => h.typ = some t) n n kwType t mid _ st (fun _ _ ha => applyMeta_typ _ _ _ _ ha)
      (tracks_name P _ n fun h h' kind rest hA hm => (applyMeta_keeps_set _ _ _ _ _ hm).2.1 t hA) (fun st2 hseen => meta_when_seen P _ n kwUnit u post st2 hseen ?_)
    intro hd hn2 ht2 ha3
    exact doom_unit_forbidden P n u t hu hforb post _ ((applyMeta_name _ _ _ _ _ ha3).trans hn2)
      (applyMeta_unit _ _ _ _ ha3) ((applyMeta_keeps_set _ _ _ _ _ ha3).2.1 t ht2)

example : isError (parseDoc "# TYPE a_x info\na_x_info 1\n# EOF\n") = false := by rw [parseDoc_ofList]; decide +kernel
example : errOf (parseDoc "# TYPE a_x info\n# UNIT a_x x\na_x_info 1\n# EOF\n") = some .valueError := by rw [parseDoc_ofList]; decide +kernel
example : errOf (parseDoc "# UNIT a_x x\n# HELP a_x h\n# TYPE a_x stateset\na_x{a_x=\"s\"} 1\n# EOF\n") = some .valueError := by rw [parseDoc_ofList]; decide +kernel

/-- two metadata lines of the same kind for one family name are rejected, whatever lies between them: the field the
first one set stays set, and the second one finds it set -/
theorem repeated_metadata (P : Params) (ls : List Line) (h : RepeatedMetadata ls) : isError (assemble P ls) = true := by
  obtain ⟨pre, k, n, r1, mid, r2, post, rfl, _⟩ := h
  apply isError_of_suffix
  intro st
  refine after_meta P (fun h => metaField k h = true) n n k r1 mid _ st (fun _ _ ha => (applyMeta_sets _ _ _ _ _ ha).2)
    (tracks_name P _ n fun h h' kind rest hA hm => applyMeta_field_mono _ _ _ _ _ _ hm hA)
    (fun st2 hseen => meta_when_seen P _ n k r2 post st2 hseen ?_)
  intro hd _ hf2 ha3
  have := (applyMeta_sets _ _ _ _ _ ha3).1
  rw [hf2] at this; cases this

example : isError (parseDoc "# TYPE a counter\n# HELP a h\na_total 1\n# EOF\n") = false := by rw [parseDoc_ofList]; decide +kernel
example : errOf (parseDoc "# TYPE a counter\n# HELP a h\n# TYPE a counter\na_total 1\n# EOF\n") = some .valueError := by rw [parseDoc_ofList]; decide +kernel
example : errOf (parseDoc "# HELP a h\nb 1\n# HELP a h\n# EOF\n") = some .valueError := by rw [parseDoc_ofList]; decide +kernel

/-- lines of another family between two metadata lines of one family: rejected — the other family's metadata line
flushes the first family, whose name is then taken -/
theorem interleaved_families (P : Params) (ls : List Line) (h : InterleavedFamilies ls) : isError (assemble P ls) = true := by
  obtain ⟨pre, k1, n, r1, mid1, k2, m, r2, mid2, k3, r3, post, rfl, hmn, _, _⟩ := h
  apply isError_of_suffix
  intro st
  refine after_meta P (fun _ => True) n n k1 r1 mid1 _ st (fun _ _ _ => trivial) (tracks_true P n) ?_
  intro st2 hseen
  refine isError_after_step P st2 _ _ fun st3 hs3 => ?_
  have hseen3 := seen_step P (fun _ => True) n n (tracks_true P n) st2 st3 _ hseen hs3
  obtain ⟨hm3, _⟩ := stepLine_meta_name P st2 st3 k2 m r2 hs3
  have hrec3 : n ∈ st3.glob.seenNames := by
    rcases hseen3 with ⟨hn3, _⟩ | h
    · rw [hm3] at hn3; exact absurd (Option.some.inj hn3) hmn
    · exact h
  refine isError_after_run P st3 _ _ fun st4 hr4 => ?_
  exact meta_after_seen P n k3 r3 post st4 (recorded_run P n mid2 st3 st4 hrec3 hr4)

example : errOf (parseDoc "# TYPE a counter\na_total 1\n# TYPE b counter\nb_total 1\n# HELP a x\n# EOF\n") = some .valueError := by rw [parseDoc_ofList]; decide +kernel

theorem family_name_suffix (n t x : Str) (h : x ∈ familyNames n t ∨ x = n) : ∃ suf ∈ familySuffixes t, x = n ++ suf := by
  rcases h with h | rfl
  · rw [familyNames_eq] at h
    unfold allowedNames at h
    obtain ⟨suf, hs, rfl⟩ := List.mem_map.mp h
    refine ⟨suf, ?_, rfl⟩
    cases hl : lookupTable t typeSuffixes with
    | none =>
      rw [hl] at hs
      simp only [Option.getD, List.mem_singleton] at hs
      subst hs; exact nil_mem_familySuffixes t
    | some l =>
      rw [hl] at hs
      exact mem_familySuffixes t suf (by rw [hl]; exact hs)
  · exact ⟨[], nil_mem_familySuffixes t, by simp⟩

/-- two declared families with a common sample name (name + a suffix of the declared type) are rejected: when the
second `# TYPE` line arrives the first family is flushed and has recorded the common name -/
theorem clashing_families (P : Params) (ls : List Line) (h : ClashingFamilies ls) : isError (assemble P ls) = true := by
  obtain ⟨pre, n1, t1, mid, n2, t2, post, rfl, hne, x, hx1, hx2⟩ := h
  obtain ⟨suf1, hs1, rfl⟩ := family_name_suffix n1 t1 x hx1
  obtain ⟨suf2, hs2, hx⟩ := family_name_suffix n2 t2 _ hx2
  apply isError_of_suffix
  intro st
  rw [← kwType_eq]
  have hT : Tracks P (fun h => h.typ = some t1) n1 (n1 ++ suf1) :=
    ⟨fun h h' kind rest hA hm => (applyMeta_keeps_set _ _ _ _ _ hm).2.1 t1 hA,
     fun h g g' samples hn hA hf => flush_records P g g' h samples n1 hn hf suf1 (by rw [hA]; exact hs1)⟩
  refine after_meta P (fun h => h.typ = some t1) n1 (n1 ++ suf1) kwType t1 mid _ st (fun _ _ ha => applyMeta_typ _ _ _ _ ha) hT ?_
  intro st2 hseen
  refine isError_after_step P st2 _ _ fun st3 hs3 => ?_
  have hseen3 := seen_step P (fun h => h.typ = some t1) n1 (n1 ++ suf1) hT st2 st3 _ hseen hs3
  obtain ⟨hn3, _, h03, ha3⟩ := stepLine_meta_name P st2 st3 kwType n2 t2 hs3
  have hrec3 : n1 ++ suf1 ∈ st3.glob.seenNames := by
    rcases hseen3 with ⟨hn3', _⟩ | h
    · rw [hn3] at hn3'; exact absurd (Option.some.inj hn3').symm hne
    · exact h
  exact doom_clash P n2 t2 suf2 post st3 hn3 (applyMeta_typ _ _ _ _ ha3) hs2 (hx ▸ hrec3)

example : isError (parseDoc "# TYPE a counter\na_total 1\n# TYPE b gauge\nb 1\n# EOF\n") = false := by rw [parseDoc_ofList]; decide +kernel
example : errOf (parseDoc "# TYPE a counter\na_total 1\n# TYPE a_total gauge\na_total 1\n# EOF\n") = some .valueError := by rw [parseDoc_ofList]; decide +kernel
example : errOf (parseDoc "# TYPE a_count gauge\n# TYPE b gauge\n# TYPE a summary\n# EOF\n") = some .valueError := by rw [parseDoc_ofList]; decide +kernel

/-- a metadata line of a family after one of its samples (or after any sample line since the family's earlier
metadata line) is rejected -/
theorem late_metadata (P : Params) (ls : List Line) (h : LateMetadata ls) : isError (assemble P ls) = true := by
  obtain ⟨pre, k1, n, r1, mid, k2, r2, post, rfl, _, nh, plain, hmem⟩ := h
  obtain ⟨m1, m2, rfl⟩ := List.append_of_mem hmem
  apply isError_of_suffix_kept
  intro st hk
  refine isError_after_step P st _ _ fun st1 hs => ?_
  obtain ⟨hn, _⟩ := stepLine_meta_name P st st1 k1 n r1 hs
  have hk1 := kept_step P st st1 _ hk hs
  rw [List.append_assoc]
  refine isError_after_run P st1 _ _ fun st2 hr => ?_
  have hseen2 := run_keeps P _ (seen_step P (fun _ => True) n n (tracks_true P n)) m1 st1 st2 (Or.inl ⟨hn, trivial⟩) hr
  have hk2 := run_keeps P _ (kept_step P) m1 st1 st2 hk1 hr
  rw [List.cons_append]
  refine isError_after_step P st2 _ _ fun st3 hs3 => ?_
  have h3 := hasSample_of_sample P n st2 st3 nh plain (hseen2.imp (fun hc => ⟨hc.1, hk2⟩) id) hs3
  refine isError_after_run P st3 _ _ fun st4 hr4 => ?_
  have h4 := run_keeps P _ (hasSample_step P n) m2 st3 st4 h3 hr4
  rcases h4 with ⟨hn4, hne⟩ | hrec
  · refine isError_after_step P st4 _ _ fun st5 hs5 => ?_
    have hm := stepLine_meta_ok P st4 st5 _ _ _ hs5
    rw [stepMeta_late P st4 _ _ _ hn4 hne] at hm; cases hm
  · exact meta_after_seen P n k2 r2 post st4 hrec

example : isError (parseDoc "# TYPE a gauge\n# HELP a h\na 1\n# EOF\n") = false := by rw [parseDoc_ofList]; decide +kernel
example : errOf (parseDoc "# TYPE a gauge\na 1\n# HELP a h\n# EOF\n") = some .valueError := by rw [parseDoc_ofList]; decide +kernel
example : errOf (parseDoc "# TYPE a gauge\na 1\na 2\nb 1\n# UNIT a x\n# EOF\n") = some .valueError := by rw [parseDoc_ofList]; decide +kernel

theorem exempt_false (t : Str) (h : t ≠ cs!"info") : tsOrderExempt.contains t = false := by
  have : tsOrderExempt = [cs!"info"] := by decide
  rw [this]; simpa using h

theorem ts_pair_fails (P : Params) (n t : Str) (s1 s2 : OSample)
    (hm1 : s1.name ∈ familyNames n t) (hm2 : s2.name ∈ familyNames n t) (hsame : SameGroup n t s1 s2)
    (hts : isError (chkGroupTs P t s1.ts s2.ts) = true)
    (st st' : St) (hh : HdrIs n t st.hdr) (heof : st.eof = false) (hs1 : stepLine P st (smp s1) = .ok st') :
    isError (stepLine P st' (smp s2)) = true := by
  obtain ⟨gr1, hg1, rfl⟩ := smp_step P st st' n t s1 hh heof hm1 hs1
  obtain ⟨g1, ls1, hgo1, _, hgrp, hgts, _⟩ := groupStep_ok P st.grp gr1 n t s1 hg1
  refine smp_fails P _ n t s2 hh heof hm2 (Or.inr (Or.inl ?_))
  refine groupStep_ts_fails P gr1 n t s2 (fun g2 hgo2 => ?_) (by rw [hgts]; exact hts)
  rw [hgrp, groupOf_spec s1 n t g1 hgo1, groupOf_spec s2 n t g2 hgo2, hsame]

/-- the parser's `group_timestamp > sample.timestamp` is the rule's "later than", for every combination of forms -/
theorem tsGt_of_later (P : Params) (t1 t2 : OTs) (h : tsLater P t1 t2) : tsGt P t1 t2 = .ok true := by
  have h1 : tsCoerce = true := by decide
  have h2 : tsOverflowFallback = true := by decide
  -- `Timestamp` against `Timestamp` is compared exactly, on (sec, nsec) — not through `float()`
  have hexact : tsCompareViaFloat = false := by decide
  cases t1 with
  | stamp a1 b1 =>
    cases t2 with
    | stamp a2 b2 =>
      have hgt : (if a1 = a2 then decide (b1 > b2) else decide (a1 > a2)) = true := by
        rcases h with h | ⟨h1, h2⟩
        · have hne : a1 ≠ a2 := by intro e; subst e; exact absurd h (Int.lt_irrefl _)
          rw [if_neg hne]; exact decide_eq_true h
        · have he : a1 = a2 := h1.symm
          rw [if_pos he]; exact decide_eq_true h2
      simp only [tsGt, hexact, Bool.false_eq_true, if_false, hgt]
    | flt f =>
      simp only [tsLater] at h
      simp only [tsGt, h1, h2, if_true]
      revert h
      cases P.tsFloat a1 b1 with
      | some x => exact congrArg Except.ok
      | none => exact congrArg Except.ok
  | flt f =>
    cases t2 with
    | stamp a b =>
      simp only [tsLater] at h
      simp only [tsGt, h1, h2, if_true]
      revert h
      cases P.tsFloat a b with
      | some x => exact congrArg Except.ok
      | none => exact congrArg Except.ok
    | flt g =>
      simp only [tsLater] at h
      simp only [tsGt, h]

/-- timestamps going backwards between consecutive samples of one group are rejected, in every combination of
timestamp forms (info families exempt) -/
theorem timestamp_backwards (P : Params) (ls : List Line) (h : TimestampBackwards P ls) : isError (assemble P ls) = true := by
  obtain ⟨n, t, s1, s2, t1, t2, hb, hti, hm1, hm2, hsame, e1, e2, hlater⟩ := h
  refine block_of_InBlock2 P ls n t (smp s1) (smp s2) hb ?_
  intro st st' hh heof hs1
  refine ts_pair_fails P n t s1 s2 hm1 hm2 hsame ?_ st st' hh heof hs1
  rw [e1, e2]
  simp only [chkGroupTs, Option.isNone, bne_self_eq_false, Bool.false_eq_true, if_false, tsGt_of_later P t1 t2 hlater,
    exempt_false t hti, Bool.not_false, Bool.and_self]
  rfl

example : isError (parseDoc "# TYPE a gauge\na{x=\"1\"} 1 5\na{x=\"1\"} 2 6\n# EOF\n") = false := by rw [parseDoc_ofList]; decide +kernel
example : errOf (parseDoc "# TYPE a gauge\na{x=\"1\"} 1 5\na{x=\"1\"} 2 4\n# EOF\n") = some .valueError := by rw [parseDoc_ofList]; decide +kernel
example : errOf (parseDoc "# TYPE a counter\na_total{x=\"1\"} 1 5\na_total{x=\"2\"} 1 1\na_total{x=\"2\"} 1 0\n# EOF\n") = some .valueError := by rw [parseDoc_ofList]; decide +kernel

/-- a timestamp on only one of two consecutive samples of one group is rejected -/
theorem timestamp_partial (P : Params) (ls : List Line) (h : TimestampPartial ls) : isError (assemble P ls) = true := by
  obtain ⟨n, t, s1, s2, hb, hm1, hm2, hsame, hts⟩ := h
  refine block_of_InBlock2 P ls n t (smp s1) (smp s2) hb ?_
  intro st st' hh heof hs1
  refine ts_pair_fails P n t s1 s2 hm1 hm2 hsame ?_ st st' hh heof hs1
  have : (s2.ts.isNone != s1.ts.isNone) = true := by
    cases h1 : s1.ts <;> cases h2 : s2.ts <;> simp_all
  simp only [chkGroupTs, this, if_true]
  rfl

example : errOf (parseDoc "# TYPE a gauge\na{x=\"1\"} 1 5\na{x=\"1\"} 2\n# EOF\n") = some .valueError := by rw [parseDoc_ofList]; decide +kernel
example : errOf (parseDoc "# TYPE a gauge\na{x=\"1\"} 1\na{x=\"1\"} 2 7\n# EOF\n") = some .valueError := by rw [parseDoc_ofList]; decide +kernel
example : errOf (parseDoc "# TYPE a info\na_info{x=\"1\"} 1 5\na_info{x=\"2\"} 1\n# EOF\n") = some .valueError := by rw [parseDoc_ofList]; decide +kernel
example : errOf (parseDoc "# TYPE a gauge\na 1 2e0\na 1 1.5\n# EOF\n") = some .valueError := by rw [parseDoc_ofList]; decide +kernel

/-- exemplars whose label names and values total more than 128 characters are rejected: whatever the state machine
of `_parse_remaining_text` collected, the line fails once the parsed exemplar labels exceed the limit -/
theorem exemplar_too_long (P : Params) (val : Num) (a : RAcc) (ls : Labels) (hl : a.exLabels = some ls)
    (hlen : 128 < (ls.map (fun kv => kv.1.length + kv.2.length)).sum) : isError (remFinish P val a) = true :=
  remFinish_too_long P val a ls hl hlen

set_option maxRecDepth 8000 in
example : isError (parseDoc "# TYPE a counter\na_total 1 # {t=\"0123456789012345678901234567890123456789012345678901234567890123456789012345678901234567890123456789012345678901234567890123456\"} 1\n# EOF\n") = false := by rw [parseDoc_ofList]; decide +kernel
set_option maxRecDepth 8000 in
example : errOf (parseDoc "# TYPE a counter\na_total 1 # {t=\"01234567890123456789012345678901234567890123456789012345678901234567890123456789012345678901234567890123456789012345678901234567\"} 1\n# EOF\n") = some .valueError := by rw [parseDoc_ofList]; decide +kernel

/-- duplicate label names are rejected: `parse_labels` (metric labels and exemplar labels alike) accepts a term
only if its name is not yet present … -/
theorem duplicate_label_term (legacy om : Bool) (sub : Str) (labels labels' : List (Str × Str)) (rest : Str)
    (h : parseOneLabel legacy om sub labels = .ok (labels', rest)) :
    labels' = labels ∨ ∃ k v, labels' = labels ++ [(k, v)] ∧ labels.any (fun kv => kv.1 == k) = false :=
  (parseOneLabel_fresh legacy om sub labels labels' rest h).imp id fun ⟨k, v, h1, h2, _⟩ => ⟨k, v, h1, h2⟩

/-- … so a parsed label set never holds a name twice -/
theorem duplicate_label (legacy om : Bool) (s : Str) (ls : List (Str × Str)) (h : parseLabels legacy s om = .ok ls) :
    (ls.map (·.1)).Nodup :=
  parseLabels_nodup legacy om s ls h

example : isError (parseDoc "a{x=\"1\",y=\"2\"} 1\n# EOF\n") = false := by rw [parseDoc_ofList]; decide +kernel
example : errOf (parseDoc "a{x=\"1\",x=\"2\"} 1\n# EOF\n") = some .valueError := by rw [parseDoc_ofList]; decide +kernel
example : errOf (parseDoc "# TYPE a counter\na_total 1 # {x=\"1\",x=\"1\"} 1\n# EOF\n") = some .valueError := by rw [parseDoc_ofList]; decide +kernel

/-! ## histogram and gauge-histogram groups (`_check_histogram` on the family's sample list)

The sample list is the one `build_metric` receives for a family whose type is histogram or gaugehistogram
(`flush_runs_check_histogram`).  `…_partial`: the rule on that list.  The step from the family's sample LINES to the list
(every line is appended in order unless it repeats a series of the current group at an unchanged timestamp) is
`Lemmas/OMHistDoc.lean`; the document-level statements follow below. -/

theorem flush_runs_check_histogram (P : Params) (g : Glob) (h : Hdr) (samples : List OSample) (n t : Str)
    (hn : h.name = some n) (ht : h.typ = some t) (hh : t = cs!"histogram" ∨ t = cs!"gaugehistogram")
    (he : isError (checkHistogram P samples n) = true) : isError (flush P g h samples) = true :=
  flush_fails_hist P n t hh g h samples hn ht he

/-- bounds not strictly increasing between consecutive bucket lines of one group: rejected — any position in the
list, any other groups before and after -/
theorem hist_bounds_not_increasing_partial (P : Params) (n : Str) (samples : List OSample) (h : HistBoundsNotIncreasing P n samples) :
    isError (checkHistogram P samples n) = true := by
  obtain ⟨pre, s1, s2, post, b1, b2, g1, g2, rfl, hb1, hb2, hsame, hle⟩ := h
  simpa using checkHistogram_of_segment P n [s1, s2] (bounds_pair_loop P n s1 s2 b1 b2 g1 g2 hb1 hb2 hsame hle) pre post

example : isError (parseDoc "# TYPE a histogram\na_bucket{le=\"1\"} 1\na_bucket{le=\"2\"} 1\na_bucket{le=\"+Inf\"} 2\n# EOF\n") = false := by rw [parseDoc_ofList]; decide +kernel
example : errOf (parseDoc "# TYPE a histogram\na_bucket{le=\"2\"} 1\na_bucket{le=\"1\"} 1\na_bucket{le=\"+Inf\"} 2\n# EOF\n") = some .valueError := by rw [parseDoc_ofList]; decide +kernel
example : errOf (parseDoc "# TYPE a histogram\na_bucket{le=\"1\"} 1\na_bucket{le=\"1e0\"} 1\na_bucket{le=\"+Inf\"} 2\n# EOF\n") = some .valueError := by rw [parseDoc_ofList]; decide +kernel

/-- counts not cumulative between consecutive bucket lines of one group: rejected -/
theorem hist_counts_not_cumulative_partial (P : Params) (n : Str) (samples : List OSample) (h : HistCountsNotCumulative P n samples) :
    isError (checkHistogram P samples n) = true := by
  obtain ⟨pre, s1, s2, post, b1, b2, g1, g2, v1, v2, rfl, hb1, hb2, hsame, hv1, hv2, hlt⟩ := h
  simpa using checkHistogram_of_segment P n [s1, s2] (counts_pair_loop P n s1 s2 b1 b2 g1 g2 v1 v2 hb1 hb2 hsame hv1 hv2 hlt) pre post

example : errOf (parseDoc "# TYPE a histogram\na_bucket{le=\"1\"} 3\na_bucket{le=\"+Inf\"} 2\n# EOF\n") = some .valueError := by rw [parseDoc_ofList]; decide +kernel

/-- (the statement below with its parts explicit; only the bucket line's timestamp must equal itself) -/
theorem hist_no_inf_core (P : Params) (n : Str) (pre : List OSample) (sb : OSample) (tail post : List OSample) (b : Nat) (g : Labels)
    (hb : IsBucket P n sb b g) (hinf : P.isPosInf b = false) (htail : ∀ s ∈ tail, InHistGroup n g sb.ts s)
    (hend : GroupEnds P n g sb.ts post) (hrefl : tsEq P sb.ts sb.ts = true) :
    isError (checkHistogram P (pre ++ sb :: (tail ++ post)) n) = true := by
  apply hist_of_suffix
  intro h0
  rw [histFinish_cons]
  cases hs1 : histStep P n h0 sb with
  | error e => rfl
  | ok h1 =>
    dsimp only
    refine hist_tail P n g sb.ts b sb.value tail post h1 (histStep_bucket_inGroup P n h0 h1 sb b g hb hrefl hs1) htail ?_
    intro h' hi' _
    exact group_end_fails P n h' g sb.ts b sb.value post hi' hend (doChecks_no_inf P h' b hi'.bucket hinf)

/-- a group whose last bucket line is not `+Inf` is rejected (the group closed by the end of the family or by a
sample of another group / timestamp; its `_count`/`_sum`/`_created` lines may follow the buckets) -/
theorem hist_no_inf_partial (P : Params) (n : Str) (samples : List OSample) (h : HistNoInf P n samples)
    (hrefl : ∀ s ∈ samples, tsEq P s.ts s.ts = true) : isError (checkHistogram P samples n) = true := by
  obtain ⟨pre, sb, tail, post, b, g, rfl, hb, hinf, htail, hend⟩ := h
  exact hist_no_inf_core P n pre sb tail post b g hb hinf htail hend (hrefl sb (by simp))

example : errOf (parseDoc "# TYPE a histogram\na_bucket{le=\"1\"} 1\na_bucket{le=\"2\"} 1\n# EOF\n") = some .valueError := by rw [parseDoc_ofList]; decide +kernel
example : errOf (parseDoc "# TYPE a histogram\na_bucket{le=\"1\",x=\"y\"} 1\na_bucket{le=\"1\"} 1\na_bucket{le=\"+Inf\"} 1\n# EOF\n") = some .valueError := by rw [parseDoc_ofList]; decide +kernel

theorem hist_count_ne_inf_core (P : Params) (n : Str) (pre : List OSample) (sb : OSample) (t1 : List OSample) (sc : OSample)
    (t2 post : List OSample) (b : Nat) (g : Labels) (v c : Num) (hb : IsBucket P n sb b g)
    (ht1 : ∀ s ∈ t1, InHistGroup n g sb.ts s) (hname : IsCountLine n sc) (hin : InHistGroup n g sb.ts sc)
    (ht2 : ∀ s ∈ t2, InHistGroup n g sb.ts s ∧ NotCountLine n s) (hv : sb.value = some v) (hc : sc.value = some c)
    (hne : P.eq v c = false) (hend : GroupEnds P n g sb.ts post) (hrefl : tsEq P sb.ts sb.ts = true) :
    isError (checkHistogram P (pre ++ sb :: (t1 ++ sc :: (t2 ++ post))) n) = true := by
  apply hist_of_suffix
  intro h0
  rw [histFinish_cons]
  cases hs1 : histStep P n h0 sb with
  | error e => rfl
  | ok h1 =>
    dsimp only
    have hi1 := histStep_bucket_inGroup P n h0 h1 sb b g hb hrefl hs1
    rw [hv] at hi1
    refine hist_tail P n g sb.ts b (some v) t1 _ h1 hi1 ht1 ?_
    intro h2 hi2 _
    rw [histFinish_cons]
    cases hs2 : histStep P n h2 sc with
    | error e => rfl
    | ok h3 =>
      dsimp only
      obtain ⟨hi3, f6⟩ := histStep_inGroup P n h2 h3 sc g sb.ts b (some v) hi2 hin hs2
      have hcount : h3.count = some c := by
        rw [f6, if_pos (by rcases hname with e | e <;> rw [e] <;> simp [sCount, sGcount]), hc]
      refine hist_tail P n g sb.ts b (some v) t2 post h3 hi3 (fun s hs => (ht2 s hs).1) ?_
      intro h4 hi4 hc4
      exact group_end_fails P n h4 g sb.ts b (some v) post hi4 hend
        (doChecks_count_ne P h4 v c hi4.value ((hc4 fun s hs => (ht2 s hs).2).trans hcount) hne)

/-- a `_count` / `_gcount` that differs from the count of the group's last bucket line is rejected — the count line
anywhere among the group's non-bucket lines (`…_bucket{+Inf}, _count, _sum, _created` and every permutation) -/
theorem hist_count_ne_inf_partial (P : Params) (n : Str) (samples : List OSample) (h : HistCountNeInf P n samples)
    (hrefl : ∀ s ∈ samples, tsEq P s.ts s.ts = true) : isError (checkHistogram P samples n) = true := by
  obtain ⟨pre, sb, t1, sc, t2, post, b, g, v, c, rfl, hb, ht1, hname, hin, ht2, hv, hc, hne, hend⟩ := h
  exact hist_count_ne_inf_core P n pre sb t1 sc t2 post b g v c hb ht1 hname hin ht2 hv hc hne hend (hrefl sb (by simp))

example : isError (parseDoc "# TYPE a histogram\na_bucket{le=\"+Inf\"} 2\na_count 2\na_sum 1\n# EOF\n") = false := by rw [parseDoc_ofList]; decide +kernel
example : errOf (parseDoc "# TYPE a histogram\na_bucket{le=\"+Inf\"} 2\na_count 3\na_sum 1\n# EOF\n") = some .valueError := by rw [parseDoc_ofList]; decide +kernel
example : errOf (parseDoc "# TYPE a gaugehistogram\na_bucket{le=\"+Inf\"} 2\na_gcount 0\na_gsum 1\n# EOF\n") = some .valueError := by rw [parseDoc_ofList]; decide +kernel

/-- a pair is a group of two lines on which the loop fails wherever the pair stands in the list -/
theorem hist_pair_rule (P : Params) (ls : List Line) (bad : Str → OSample → OSample → Prop)
    (hbad : ∀ n s1 s2, bad n s1 s2 → ∀ h0, isError (histLoop P n h0 [s1, s2]) = true)
    (h : HistPairDoc ls bad) : isError (assemble P ls) = true := by
  obtain ⟨pre, n, t, mid, s1, s2, post, rfl, ht, hmid, hm1, hm2, hne, hfresh, hb⟩ := h
  apply isError_of_suffix_kept
  intro st hk
  rw [← kwType_eq]
  have := hist_group_doc P n t ht mid post [s1, s2] st hk (fun l hl => inFam_bridge n t l (hmid l hl))
    (by simpa using And.intro hm1 hm2)
    (by simpa [sidOf_eq] using hne)
    (fun nh s hin => by simpa [sidOf_eq] using hfresh nh s hin)
    (Or.inr (checkHistogram_of_segment P n [s1, s2] (hbad n s1 s2 hb)))
  simpa [List.append_assoc] using this

/-- bounds not strictly increasing between two consecutive bucket lines of one group: the DOCUMENT is rejected —
any family name, any position of the pair in the family block, anything before the block and after the pair; the two
lines must be new series (a repeated series at an unchanged timestamp is dropped before the histogram check) -/
theorem hist_bounds_not_increasing (P : Params) (ls : List Line) (h : HistBoundsNotIncreasingDoc P ls) :
    isError (assemble P ls) = true :=
  hist_pair_rule P ls _ (fun n s1 s2 ⟨b1, b2, g1, g2, hb1, hb2, hs, hle⟩ => bounds_pair_loop P n s1 s2 b1 b2 g1 g2 hb1 hb2 hs hle) h

/-- counts not cumulative between two consecutive bucket lines of one group: the DOCUMENT is rejected -/
theorem hist_counts_not_cumulative (P : Params) (ls : List Line) (h : HistCountsNotCumulativeDoc P ls) :
    isError (assemble P ls) = true :=
  hist_pair_rule P ls _ (fun n s1 s2 ⟨b1, b2, g1, g2, v1, v2, hb1, hb2, hs, hv1, hv2, hlt⟩ =>
    counts_pair_loop P n s1 s2 b1 b2 g1 g2 v1 v2 hb1 hb2 hs hv1 hv2 hlt) h

set_option maxRecDepth 8000 in
example : errOf (parseDoc "# TYPE a histogram\na_bucket{le=\"1\"} 1\na_bucket{le=\"3\"} 2\na_bucket{le=\"2\"} 2\na_bucket{le=\"+Inf\"} 2\n# TYPE b gauge\nb 1\n# EOF\n") = some .valueError := by rw [parseDoc_ofList]; decide +kernel
example : errOf (parseDoc "# TYPE a gaugehistogram\na_bucket{le=\"1\",x=\"y\"} 5\na_bucket{le=\"+Inf\",x=\"y\"} 4\n# EOF\n") = some .valueError := by rw [parseDoc_ofList]; decide +kernel

/-- a group whose lines `body` make `_check_histogram` fail as soon as the group ends, with its closing event: either
the family is closed right after `body`, or one more sample line ends the group and the failure is there to stay -/
theorem hist_group_rule (P : Params) (ls : List Line) (bad : Str → Str → List OSample → List Line → Prop)
    (hbad : ∀ n t grp rest, bad n t grp rest → ∃ g ts body, GroupClosed P n t g ts body grp rest ∧
      ∀ S0 post, GroupEnds P n g ts post → isError (checkHistogram P (S0 ++ (body ++ post)) n) = true)
    (h : HistGroupDoc ls bad) : isError (assemble P ls) = true := by
  obtain ⟨pre, n, t, mid, grp, rest, rfl, ht, hmid, hnames, hnd, hfresh, hb⟩ := h
  obtain ⟨g, ts, body, hcl, hcore⟩ := hbad n t grp rest hb
  apply isError_of_suffix_kept
  intro st hk
  rw [← kwType_eq]
  have := hist_group_doc P n t ht mid rest grp st hk (fun l hl => inFam_bridge n t l (hmid l hl)) hnames hnd hfresh (by
    rcases hcl with ⟨rfl, hcl⟩ | ⟨s', rfl, hend⟩
    · exact Or.inl ⟨hcl, fun S0 => by simpa using hcore S0 [] trivial⟩
    · exact Or.inr fun S0 ext => by simpa [List.append_assoc] using hcore S0 (s' :: ext) hend)
  simpa [List.append_assoc] using this

/-- **a histogram / gaugehistogram group without a `+Inf` bucket: the DOCUMENT is rejected** — any family name, the
group anywhere in the family block, anything before the block; the group's last bucket line `sb` (bound not `+Inf`) and
its `_count`/`_sum`/`_created` lines are new series; then the family is closed (`# TYPE/HELP/UNIT` of any family, `# EOF`,
a blank or malformed line, a sample of another family, or the end of the input) or a sample line of another group or
timestamp follows (then the rest of the document is arbitrary) -/
theorem hist_no_inf_document (P : Params) (ls : List Line) (h : HistNoInfDoc P ls) : isError (assemble P ls) = true := by
  refine hist_group_rule P ls _ ?_ h
  rintro n t grp rest ⟨sb, tail, b, g, hb, hinf, htail, hrefl, hcl⟩
  exact ⟨g, sb.ts, _, hcl, fun S0 post hend => hist_no_inf_core P n S0 sb tail post b g hb hinf htail hend hrefl⟩

/-- **a group whose `_count` / `_gcount` differs from its last (`+Inf`) bucket: the DOCUMENT is rejected** — same
shape: the last bucket line, the group's other lines with the count line among them, all new series, then the closing
event -/
theorem hist_count_ne_inf_document (P : Params) (ls : List Line) (h : HistCountNeInfDoc P ls) :
    isError (assemble P ls) = true := by
  refine hist_group_rule P ls _ ?_ h
  rintro n t grp rest ⟨sb, t1, sc, t2, b, g, v, c, hb, ht1, hname, hin, ht2, hv, hc, hne, hrefl, hcl⟩
  refine ⟨g, sb.ts, _, hcl, fun S0 post hend => ?_⟩
  simpa [List.append_assoc] using hist_count_ne_inf_core P n S0 sb t1 sc t2 post b g v c hb ht1 hname hin ht2 hv hc hne hend hrefl

-- every closing event: the next family's metadata, a sample of another family, `# EOF`, the end of the input, another group
example : errOf (parseDoc "# TYPE a histogram\na_bucket{le=\"1\"} 1\na_count 1\na_sum 1\n# TYPE b gauge\nb 1\n# EOF\n") = some .valueError := by rw [parseDoc_ofList]; decide +kernel
example : errOf (parseDoc "# TYPE a histogram\na_bucket{le=\"1\"} 1\nb 1\n# EOF\n") = some .valueError := by rw [parseDoc_ofList]; decide +kernel
example : errOf (parseDoc "# TYPE a histogram\na_bucket{le=\"1\"} 1\n# HELP a x\n# EOF\n") = some .valueError := by rw [parseDoc_ofList]; decide +kernel
example : errOf (parseDoc "# TYPE a histogram\na_bucket{le=\"1\"} 1\n") = some .valueError := by rw [parseDoc_ofList]; decide +kernel
example : errOf (parseDoc "# TYPE a gaugehistogram\na_bucket{le=\"1\",x=\"1\"} 1\na_bucket{le=\"+Inf\",x=\"2\"} 1\n# EOF\n") = some .valueError := by rw [parseDoc_ofList]; decide +kernel
example : errOf (parseDoc "# TYPE a histogram\na_bucket{le=\"+Inf\"} 2\na_sum 1\na_count 3\n# TYPE b gauge\n# EOF\n") = some .valueError := by rw [parseDoc_ofList]; decide +kernel
set_option maxRecDepth 8000 in
example : errOf (parseDoc "# TYPE a histogram\na_bucket{le=\"+Inf\",x=\"1\"} 2\na_count{x=\"1\"} 3\na_sum{x=\"1\"} 1\na_bucket{le=\"+Inf\",x=\"2\"} 2\na_count{x=\"2\"} 2\na_sum{x=\"2\"} 1\n# EOF\n") = some .valueError := by rw [parseDoc_ofList]; decide +kernel
set_option maxRecDepth 8000 in
example : isError (parseDoc "# TYPE a histogram\na_bucket{le=\"+Inf\",x=\"1\"} 2\na_count{x=\"1\"} 2\na_sum{x=\"1\"} 1\na_bucket{le=\"+Inf\",x=\"2\"} 2\na_count{x=\"2\"} 2\na_sum{x=\"2\"} 1\n# TYPE b gauge\nb 1\n# EOF\n") = false := by rw [parseDoc_ofList]; decide +kernel

/-- the hypothesis of the two theorems above — every timestamp in the list equals itself — holds outright for absent
and `Timestamp` timestamps, and for float timestamps whenever `==` is reflexive on them (`_parse_timestamp` never
returns NaN) -/
example : ∀ t : Option OTs, (match t with | some (.flt b) => toyP.eq (.flt b) (.flt b) = true | _ => True) → tsEq toyP t t = true := by
  intro t h
  cases t with
  | none => rfl
  | some x => cases x with
    | stamp a b => simp [tsEq]
    | flt b => exact h

end PromVerif.Props.C15
