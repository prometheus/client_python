/-
C11 — every intermediate on-disk state of the store is readable and a prefix state.

The store of C10, but every writer operation is expanded into its list of file effects
(`createEmpty | truncate n | sliceWrite pos bytes`) in the order the source performs them (`Generated/Mmap.lean`,
re-extracted on every run: `skeleton_wellformed`).  A cut point `k` of a history is the file system after the first `k`
effects.  Hypotheses as in C10: `8 ≤ initSize`, `4 ≤ pageSize`, the file stays below 2^31 bytes.

F11 (found by this model, repaired in /repo): at the cut between file creation and the first truncate the file has length
0; the collector's reader used to raise struct.error there, which failed the whole scrape.  The reader now returns the
empty state for a file shorter than the 4-byte counter.  The guard is re-extracted on every run
(`Generated.Mmap.shortFileGuard`, whose value `skeleton_wellformed` asserts); if it is removed or weakened,
`skeleton_wellformed`, `short_file_reads_empty`, `every_cut_readable` and `one_file_cannot_fail_scrape` no longer check.
-/
import PromVerif.Model.MmapDict
import PromVerif.Spec.MmapDict
import PromVerif.Lemmas.MmapGen
import PromVerif.Lemmas.MmapMixed

namespace PromVerif.Props.C11
open PromVerif.Py PromVerif.Model.MmapDict PromVerif.Generated.Mmap PromVerif.Lemmas.Mmap
open PromVerif.Spec.MmapDict (Store PrefixFrom PrefixState Written)

/-- the extractor found every site of mmap_dict.py in the shape it understands -/
theorem extract_ok : extractOk = true := by decide

/-- the order of the file effects in the source: the file is sized before it is mapped and given a header; an entry is
written completely before the used-bytes header is published; growth is a loop; a value update is one 16-byte slice
assignment; the reader is bounded by the header and treats a file shorter than the counter as empty; `_init_value` writes the whole entry, the two zero doubles included -/
theorem skeleton_wellformed :
    ctorEffects = [.openFile, .truncateInitial, .remap, .writeHeader] ∧
    initValueEffects = [.growLoop, .writeEntry, .writeHeader] ∧
    growBody = [.truncateGrow, .remap] ∧ growKind = .whileLoop ∧
    writeValueEffects = [.callInitValue, .writeValue] ∧
    packTwoDoublesSlice = twoDoublesWidth ∧ packIntegerSlice = intWidth ∧ readerUsesHeaderBound = true ∧
    shortFileGuard = some intWidth ∧ entryPacksDoubles = true ∧ entryReserve = 0 := by decide

/-- the history fits below 2^31 bytes: header + one entry per distinct key -/
def FitsAll (ops : List Op) : Prop := 8 + need [] ops < 2147483648

/-- the file system after the first `k` effects -/
def cut (effs : List Effect) (k : Nat) : Option Bytes := applyEffects none (effs.take k)

theorem cut_ctor (initSize : Nat) (tr : List Effect) (hi : 8 ≤ initSize) {k : Nat} (hk : 3 ≤ k) :
    cut (.createEmpty :: .truncate initSize :: .sliceWrite 0 (le 4 8) :: tr) k
      = applyEffects (some (freshStore initSize).file) (tr.take (k - 3)) := by
  obtain ⟨j, rfl⟩ : ∃ j, k = j + 3 := ⟨k - 3, (Nat.sub_add_cancel hk).symm⟩
  exact applyEffects_ctor initSize hi (tr.take j)

theorem cut_add (a b : List Effect) (j : Nat) :
    cut (a ++ b) (a.length + j) = applyEffects (applyEffects none a) (b.take j) := by
  unfold cut
  rw [List.take_append, List.take_of_length_le (Nat.le_add_right _ _), Nat.add_sub_cancel_left, applyEffects_append]

theorem run_shape (initSize : Nat) (ops : List Op) (hi : 8 ≤ initSize) (hf : FitsAll ops) :
    ∃ d tr, run initSize ops = .ok (d, .createEmpty :: .truncate initSize :: .sliceWrite 0 (le 4 8) :: tr) ∧
      applyEffects (some (freshStore initSize).file) tr = some d.file ∧
      ∀ s ∈ states (some (freshStore initSize).file) tr, ∃ file esx, s = some file ∧ CutRep file esx ∧
        PrefixState (ops.map toSpec) (triples esx) := by
  have hr0 := freshStore_rep initSize hi
  obtain ⟨d, tr, _, _, hrun, _, _, _, _, hm, hcuts⟩ := runFrom_ok initSize ops hr0 hf
  exact ⟨d, tr, run_eq initSize hi hrun, hm.apply, fun s hs => let ⟨file, h, esx, hc⟩ := hcuts s hs; ⟨file, esx, h, hc⟩⟩

/-- the effect list of a history, replayed on an empty file system, produces exactly the file of the C10 store: the
effect expansion and the state model are the same writer -/
theorem effects_replay (initSize : Nat) (ops : List Op) (hi : 8 ≤ initSize) (hf : FitsAll ops) :
    ∃ d effs, run initSize ops = .ok (d, effs) ∧ applyEffects none effs = some d.file := by
  obtain ⟨d, tr, hrun, hfin, _⟩ := run_shape initSize ops hi hf
  exact ⟨d, _, hrun, (applyEffects_ctor initSize hi tr).trans hfin⟩

theorem cut_cases (initSize : Nat) (tr : List Effect) (hi : 8 ≤ initSize) (k : Nat) :
    let effs := Effect.createEmpty :: .truncate initSize :: .sliceWrite 0 (le 4 8) :: tr
    (k = 0 ∧ cut effs k = none) ∨ (k = 1 ∧ cut effs k = some []) ∨ (k = 2 ∧ cut effs k = some (zeros initSize)) ∨
    (3 ≤ k ∧ cut effs k ∈ states (some (freshStore initSize).file) tr) := by
  intro effs
  match k with
  | 0 => exact Or.inl ⟨rfl, rfl⟩
  | 1 => exact Or.inr (Or.inl ⟨rfl, rfl⟩)
  | 2 =>
    refine Or.inr (Or.inr (Or.inl ⟨rfl, ?_⟩))
    simp [cut, effs, applyEffects, applyEffect, truncate]
  | k + 3 =>
    refine Or.inr (Or.inr (Or.inr ⟨Nat.le_add_left 3 k, ?_⟩))
    rw [cut_ctor initSize tr hi (Nat.le_add_left 3 k)]
    exact cut_mem_states _ _ _

/-- for every history and EVERY cut (the zero-length one included), the collector's file reader succeeds and returns the
spec state after some prefix of the completed operations, optionally plus the in-flight new key at (0, 0) -/
theorem every_cut_readable (initSize pageSize : Nat) (ops : List Op) (hi : 8 ≤ initSize) (hp : 4 ≤ pageSize)
    (hf : FitsAll ops) :
    ∃ d effs, run initSize ops = .ok (d, effs) ∧ ∀ k,
      (k = 0 ∧ cut effs k = none) ∨
      ∃ file items, cut effs k = some file ∧ readAllValuesFromFile pageSize file = .ok items ∧
        PrefixState (ops.map toSpec) (tr3 items) := by
  obtain ⟨d, tr, hrun, _, hcuts⟩ := run_shape initSize ops hi hf
  refine ⟨d, _, hrun, ?_⟩
  intro k
  rcases cut_cases initSize tr hi k with h | h | h | h
  · exact Or.inl h
  · exact Or.inr ⟨_, [], h.2, fromFile_empty pageSize, prefixFrom_here _ _⟩
  · exact Or.inr ⟨_, [], h.2, fromFile_zeros pageSize initSize hp, prefixFrom_here _ _⟩
  · obtain ⟨file, esx, hs, hc, hpre⟩ := hcuts _ h.2
    obtain ⟨items, hrd, ht⟩ := hc.read pageSize hp
    exact Or.inr ⟨file, items, hs, hrd, ht ▸ hpre⟩

/-- the repaired behaviour at the first cut of every history (file created, not yet sized): the file is empty and the
reader returns the empty state -/
theorem zero_length_cut_reads_empty (initSize pageSize : Nat) (ops : List Op) (hi : 8 ≤ initSize) (hf : FitsAll ops) :
    ∃ d effs, run initSize ops = .ok (d, effs) ∧ cut effs 1 = some [] ∧ readAllValuesFromFile pageSize [] = .ok [] := by
  obtain ⟨d, tr, hrun, _, _⟩ := run_shape initSize ops hi hf
  exact ⟨d, _, hrun, rfl, fromFile_empty pageSize⟩

/-- any file shorter than the 4-byte counter reads as empty (this is the theorem that breaks if the guard is removed) -/
theorem short_file_reads_empty (pageSize : Nat) (f : Bytes) (h : f.length < 4) :
    readAllValuesFromFile pageSize f = .ok [] := fromFile_short pageSize f h

/-- at the cut after the initial truncate and before the header write the file is all zero (used = 0): the reader returns
the empty state, a new writer opens it as a fresh store -/
theorem all_zero_file_ok (initSize pageSize n : Nat) (hn : 8 ≤ n) (hp : 4 ≤ pageSize) :
    readAllValuesFromFile pageSize (zeros n) = .ok [] ∧
    init initSize (zeros n) = .ok (freshStore n, [.sliceWrite 0 (le 4 8)]) :=
  ⟨fromFile_zeros pageSize n hp, init_zeros initSize n hn⟩

/-- at EVERY cut where the file exists — the zero-length one included — a new writer's constructor succeeds, yields a
store satisfying the (crash-tolerant) invariant of C10, whose content is a prefix state -/
theorem every_cut_reopenable (initSize : Nat) (ops : List Op) (hi : 8 ≤ initSize) (hf : FitsAll ops) :
    ∃ d effs, run initSize ops = .ok (d, effs) ∧ ∀ k, 1 ≤ k →
      ∃ file d' tr' es tail, cut effs k = some file ∧ init initSize file = .ok (d', tr') ∧ Rep d' es tail ∧
        PrefixState (ops.map toSpec) (absOf d') := by
  obtain ⟨d, tr, hrun, _, hcuts⟩ := run_shape initSize ops hi hf
  refine ⟨d, _, hrun, ?_⟩
  intro k hk
  have hfresh := freshStore_rep initSize hi
  have hpre0 : PrefixState (ops.map toSpec) (absOf (freshStore initSize)) := hfresh.absOf_eq ▸ prefixFrom_here _ _
  rcases cut_cases initSize tr hi k with h | h | h | h
  · omega
  · exact ⟨_, _, _, [], _, h.2, init_fresh initSize hi, hfresh, hpre0⟩
  · exact ⟨_, _, _, [], _, h.2, init_zeros initSize initSize hi, hfresh, hpre0⟩
  · obtain ⟨file, esx, hs, hc, hpre⟩ := hcuts _ h.2
    obtain ⟨d', tl, hinit, hr, _⟩ := init_cutrep hc initSize
    exact ⟨file, d', [], esx, tl, hs, hinit, hr, by rw [hr.absOf_eq]; exact hpre⟩

/-- a NEW writer that takes over the file at any cut can carry on with any history: every operation succeeds, the store
stays represented, and all three readers return the spec run of the continuation started from the prefix state the new
writer found.  So after a crash + reopen + continuation every key and value read is one the dead writer completed, the
in-flight key at zero, or one the continuation wrote.

On the zero tail: the reopened store satisfies `Rep` with an ARBITRARY tail, not C10's `WF`.  At the cut between the
entry write and the header write the bytes beyond `used` are the orphaned entry, which is not zero (`orphan_tail`); the
clause "bytes beyond used are zero" is therefore not available to a new writer, and it is not needed: `_init_value`
writes the whole entry, value and timestamp slots included (`skeleton_wellformed`: `entryPacksDoubles`), so whatever the
tail holds is overwritten before the header covers it.  All step theorems of C10 are proved from `Inv` (no zero tail);
`WF` adds the zero tail only as a further invariant of crash-free histories. -/
theorem continuation_from_cut (initSize pageSize : Nat) (ops : List Op) (hi : 8 ≤ initSize) (hp : 4 ≤ pageSize)
    (hf : FitsAll ops) :
    ∃ d effs, run initSize ops = .ok (d, effs) ∧ ∀ k, 1 ≤ k →
      ∃ file d' tr', cut effs k = some file ∧ init initSize file = .ok (d', tr') ∧
        PrefixState (ops.map toSpec) (absOf d') ∧
        ∀ ops2, d'.used + need (d'.positions.map (·.1)) ops2 < 2147483648 →
          ∃ d'' tr'' es tl, runFrom initSize d' ops2 = .ok (d'', tr'') ∧ Rep d'' es tl ∧
            absOf d'' = Spec.MmapDict.run (absOf d') (ops2.map toSpec) ∧
            readAllValues d'' = .ok (absOf d'') ∧
            (readAllValuesFromFile pageSize (close d'')).map tr3 = .ok (absOf d'') := by
  obtain ⟨d, effs, hrun, hall⟩ := every_cut_reopenable initSize ops hi hf
  refine ⟨d, effs, hrun, ?_⟩
  intro k hk
  obtain ⟨file, d', tr', es, tail, hc, hinit, hr, hpre⟩ := hall k hk
  refine ⟨file, d', tr', hc, hinit, hpre, ?_⟩
  intro ops2 hfit
  obtain ⟨d'', tr'', es'', tl'', hrun2, hr2, _, ht2, _⟩ := runFrom_ok initSize ops2 hr (hr.keys_eq ▸ hfit)
  have hrd := hr2.readers pageSize hp
  exact ⟨d'', tr'', es'', tl'', hrun2, hr2, by rw [hr2.absOf_eq, hr.absOf_eq, ht2], hrd.1, hrd.2⟩

/-- the file at the cut between the entry write and the header write: represented with the OLD entries, and its tail —
the orphaned entry — is not zero -/
theorem orphan_tail {file used es tail} (h : FileRep file used es tail) (k : Key) (z : Nat)
    (hroom : entryLen k ≤ tail.length + z) :
    FileRep (sliceWrite (file ++ zeros z) used (encEntry (fresh k))) used es
      (encEntry (fresh k) ++ (tail ++ zeros z).drop (entryLen k)) ∧
    ¬ ZeroTail (encEntry (fresh k) ++ (tail ++ zeros z).drop (entryLen k)) :=
  ⟨h.write_entry (fresh k) z hroom, orphan_tail_not_zero _ _⟩

theorem run_extends (initSize : Nat) (ops rest : List Op) {d2 effs2} (h : run initSize (ops ++ rest) = .ok (d2, effs2)) :
    ∃ d1 effs1 tr, run initSize ops = .ok (d1, effs1) ∧ effs2 = effs1 ++ tr := by
  unfold run at h ⊢
  cases hi : init initSize [] with
  | error e => simp [hi, bind, Except.bind] at h
  | ok r0 =>
    obtain ⟨d0, tr0⟩ := r0
    simp only [hi, bind, Except.bind, runFrom_append] at h ⊢
    cases h1 : runFrom initSize d0 ops with
    | error e => simp [h1] at h
    | ok r1 =>
      obtain ⟨d1, t1⟩ := r1
      simp only [h1] at h ⊢
      cases h2 : runFrom initSize d1 rest with
      | error e => simp [h2] at h
      | ok r2 =>
        obtain ⟨d2', t2⟩ := r2
        simp only [h2, Except.ok.injEq, Prod.mk.injEq] at h
        exact ⟨d1, _, t2, rfl, by rw [← h.2]; simp⟩

/-- EXACTLY which states a cut inside one operation can show.  Take any history `ops` and a next operation `op` (any cut
of any longer history `ops ++ op :: rest` that lies between the last effect of `ops` and the last effect of `op` is such
a cut, by `run_extends`).  At every cut from the end of `ops` to the end of `op` the reader returns the state after `ops`,
or that state plus `op`'s new key at (0, 0), or the state after `op` — nothing written later, nothing else. -/
theorem cut_in_operation (initSize pageSize : Nat) (ops : List Op) (op : Op) (hi : 8 ≤ initSize) (hp : 4 ≤ pageSize)
    (hf : FitsAll (ops ++ [op])) :
    ∃ d effs d' tr, run initSize ops = .ok (d, effs) ∧ run initSize (ops ++ [op]) = .ok (d', effs ++ tr) ∧
      ∀ j, ∃ file items, cut (effs ++ tr) (effs.length + j) = some file ∧
        readAllValuesFromFile pageSize file = .ok items ∧
        (tr3 items = Spec.MmapDict.run [] (ops.map toSpec) ∨
         tr3 items = Spec.MmapDict.step (Spec.MmapDict.run [] (ops.map toSpec)) (toSpec op) ∨
         ∃ key, (toSpec op).key? = some key ∧ (Spec.MmapDict.run [] (ops.map toSpec)).has key = false ∧
           tr3 items = Spec.MmapDict.run [] (ops.map toSpec) ++ [(key, 0, 0)]) := by
  have hr0 := freshStore_rep initSize hi
  have hfit : 8 + (need [] ops + need (ops.foldl opSeen []) [op]) < 2147483648 := need_append ops [op] [] ▸ hf
  obtain ⟨d, tr0, es, tail, hrun, hr, _, ht, hu, hm, _⟩ :=
    runFrom_ok initSize ops hr0 (Nat.lt_of_le_of_lt (Nat.add_le_add_left (Nat.le_add_right _ _) _) hfit)
  have hS : triples es = Spec.MmapDict.run [] (ops.map toSpec) := by rw [ht]; rfl
  have hk : keys es = ops.foldl opSeen [] := by rw [← triples_keys, hS, keys_run]; rfl
  obtain ⟨d', tr, es', tail', hstep, hr', _, ht', _, _, hcuts⟩ :=
    step_ok hr op initSize (by rw [hk, hu, Nat.add_assoc]; exact hfit)
  refine ⟨d, _, d', tr, run_eq initSize hi hrun,
    run_eq initSize hi (by simp [runFrom_append, hrun, runFrom, hstep, bind, Except.bind]), ?_⟩
  intro j
  -- the cut is a cut of `op`'s own effects, taken from the file `ops` left
  rw [cut_add, (applyEffects_ctor initSize hi tr0).trans hm.apply]
  obtain ⟨file, hs, hc⟩ := hcuts _ (cut_mem_states (some d.file) tr j)
  rcases hc with hc | hc | ⟨key, hkey, hn, hc⟩
  · obtain ⟨items, hrd, ht⟩ := hc.read pageSize hp
    exact ⟨file, items, hs, hrd, Or.inl (by rw [ht, hS])⟩
  · obtain ⟨items, hrd, ht⟩ := hc.read pageSize hp
    exact ⟨file, items, hs, hrd, Or.inr (Or.inl (by rw [ht, ht', hS]))⟩
  · obtain ⟨items, hrd, ht⟩ := hc.read pageSize hp
    refine ⟨file, items, hs, hrd, Or.inr (Or.inr ⟨key, by rw [toSpec_key, hkey], ?_, ?_⟩)⟩
    · rw [← hS]; exact Bool.eq_false_iff.mpr (mt (has_triples es key).mp hn)
    · rw [ht, triples_append, hS]; rfl

/-- never written, never read — with the completed prefix: every key and every (value, timestamp) pair a reader returns
at a cut inside operation `op` after the completed history `ops` was an argument of an operation of `ops ++ [op]` (or is
the initial zero pair of a key one of them created).  Nothing of what the writer does later can appear. -/
theorem never_written_never_read (initSize pageSize : Nat) (ops : List Op) (op : Op) (hi : 8 ≤ initSize) (hp : 4 ≤ pageSize)
    (hf : FitsAll (ops ++ [op])) :
    ∃ d effs d' tr, run initSize ops = .ok (d, effs) ∧ run initSize (ops ++ [op]) = .ok (d', effs ++ tr) ∧
      ∀ j file items, cut (effs ++ tr) (effs.length + j) = some file →
        readAllValuesFromFile pageSize file = .ok items →
        ∀ x ∈ tr3 items, Written ((ops ++ [op]).map toSpec) x.1 x.2.1 x.2.2 := by
  obtain ⟨d, effs, d', tr, h1, h2, _⟩ := cut_in_operation initSize pageSize ops op hi hp hf
  refine ⟨d, effs, d', tr, h1, h2, ?_⟩
  -- the cut is a cut of the history `ops ++ [op]`, so what is read there is one of its prefix states
  obtain ⟨d'', effs', hrun, hall⟩ := every_cut_readable initSize pageSize (ops ++ [op]) hi hp hf
  rw [h2] at hrun
  cases hrun
  intro j file items hc hrd x hx
  rcases hall (effs.length + j) with h0 | ⟨file', items', hc', hrd', hpre⟩
  · rw [h0.2] at hc; cases hc
  · rw [hc] at hc'; cases hc'
    rw [hrd] at hrd'; cases hrd'
    exact (prefixFrom_written [] _ _ hpre x hx).resolve_left (fun h => by cases h)

/-- the cuts of the constructor (file created; sized; header written) all read as the empty state -/
theorem constructor_cuts_read_empty (initSize pageSize : Nat) (ops : List Op) (hi : 8 ≤ initSize) (hp : 4 ≤ pageSize)
    (hf : FitsAll ops) :
    ∃ d effs, run initSize ops = .ok (d, effs) ∧ ∀ k, 1 ≤ k → k ≤ 3 →
      ∃ file, cut effs k = some file ∧ readAllValuesFromFile pageSize file = .ok [] := by
  obtain ⟨d, tr, hrun, _, _⟩ := run_shape initSize ops hi hf
  refine ⟨d, _, hrun, ?_⟩
  intro k h1 h3
  have hfr := (freshStore_rep initSize hi).file
  obtain rfl | rfl | rfl : k = 1 ∨ k = 2 ∨ k = 3 := by omega
  · exact ⟨[], rfl, fromFile_empty pageSize⟩
  · exact ⟨zeros initSize, by simp [cut, applyEffects, applyEffect, truncate], fromFile_zeros pageSize initSize hp⟩
  · exact ⟨(freshStore initSize).file, cut_ctor initSize tr hi (Nat.le_refl 3),
      by simpa [scanOut] using hfr.fromFile_ok pageSize hp⟩

/-- a value update of an existing key is ONE effect, a 16-byte slice write at the key's value field: the file goes from
the old state directly to the new one (never through a zeroed field) -/
theorem value_update_single_effect {d es1 e es2 tail} (h : Rep d (es1 ++ e :: es2) tail) (hk : e.key ∉ keys es1)
    (v t : UInt64) :
    ∃ d' q, writeValue d e.key v t = .ok (d', [.sliceWrite q (le64 v ++ le64 t)]) ∧
      (le64 v ++ le64 t).length = packTwoDoublesSlice ∧
      states (some d.file) [.sliceWrite q (le64 v ++ le64 t)] = [some d.file, some d'.file] ∧
      Rep d' (es1 ++ ⟨e.key, v, t⟩ :: es2) tail :=
  let ⟨q, hst, hr⟩ := storeValue_ok h hk v t
  ⟨_, q, by simp [writeValue, ensure_present h e.key (by simp), hst, bind, Except.bind],
    by simp [packTwoDoublesSlice], by simp [states, applyEffect], hr⟩

/-- the file a history's writer leaves behind if it stops after `k` effects (`none`: no file yet, or the history does
not run) -/
def cutFile (initSize : Nat) (ops : List Op) (k : Nat) : Option Bytes :=
  match run initSize ops with
  | .ok (_, effs) => cut effs k
  | .error _ => none

/-- one dead or busy worker cannot fail the scrape: over any number of worker files, each left behind by an arbitrary
history at an arbitrary, independent cut, the collector's reading loop succeeds -/
theorem one_file_cannot_fail_scrape (initSize pageSize : Nat) (hi : 8 ≤ initSize) (hp : 4 ≤ pageSize) (files : List Bytes)
    (h : ∀ f ∈ files, ∃ ops k, FitsAll ops ∧ cutFile initSize ops k = some f) :
    ∃ r, readMetrics pageSize files = .ok r := by
  apply readMetrics_ok
  intro f hf
  obtain ⟨ops, k, hfit, hc⟩ := h f hf
  obtain ⟨d, effs, hrun, hall⟩ := every_cut_readable initSize pageSize ops hi hp hfit
  simp only [cutFile, hrun] at hc
  rcases hall k with h0 | ⟨file, items, hc', hrd, _⟩
  · rw [h0.2] at hc; cases hc
  · rw [hc] at hc'; cases hc'
    exact ⟨items, hrd⟩

theorem scrape_ok_of_shapes (pageSize : Nat) (hp : 4 ≤ pageSize) (files : List Bytes)
    (h : ∀ f ∈ files, (∃ es, CutRep f es) ∨ (∃ n, 4 ≤ n ∧ f = zeros n) ∨ f.length < 4) :
    ∃ r, readMetrics pageSize files = .ok r := by
  apply readMetrics_ok
  intro f hf
  rcases h f hf with ⟨es, u, tl, hfr, _⟩ | ⟨n, _, rfl⟩ | hs
  · exact ⟨_, hfr.fromFile_ok pageSize hp⟩
  · exact ⟨_, fromFile_zeros pageSize n hp⟩
  · exact ⟨_, fromFile_short pageSize f hs⟩

/-- THE TWO-CUT READ.  `read_all_values_from_file` reads the first block (and with it the header) and, if the header says
so, the rest with a second `read()`.  Let the first read see the file at cut `k1` and the second at any later cut `k2`
(8-aligned page size, as every real one).  Then the reader still succeeds; it returns exactly the KEYS an atomic read at
`k1` returns — the entries the header it read covers, never an unpublished entry; and every value and every timestamp it
returns is one that an atomic read at `k1` or at `k2` returns for that key (both of which are prefix states by
`every_cut_readable`).  For the one entry that crosses the page boundary value and timestamp may come from different cuts. -/
theorem two_cut_read (initSize pageSize : Nat) (ops : List Op) (hi : 8 ≤ initSize) (hp8 : 8 ≤ pageSize)
    (hpm : pageSize % 8 = 0) (hf : FitsAll ops) :
    ∃ d effs, run initSize ops = .ok (d, effs) ∧ ∀ k1 k2, 1 ≤ k1 → k1 ≤ k2 →
      ∃ f1 f2 items items1 items2, cut effs k1 = some f1 ∧ cut effs k2 = some f2 ∧
        readAllValuesFromFile pageSize f1 = .ok items1 ∧ readAllValuesFromFile pageSize f2 = .ok items2 ∧
        readAllValuesFromFile2 pageSize f1 f2 = .ok items ∧
        (tr3 items).map (·.1) = (tr3 items1).map (·.1) ∧
        ∀ x ∈ tr3 items,
          (∃ a, (a ∈ tr3 items1 ∨ a ∈ tr3 items2) ∧ a.1 = x.1 ∧ a.2.1 = x.2.1) ∧
          (∃ b, (b ∈ tr3 items1 ∨ b ∈ tr3 items2) ∧ b.1 = x.1 ∧ b.2.2 = x.2.2) := by
  have hp : 4 ≤ pageSize := Nat.le_trans (by decide) hp8
  obtain ⟨d, effs, hrun, hall⟩ := every_cut_readable initSize pageSize ops hi hp hf
  obtain ⟨d', tr, es', _, hrun', _, _, _, _, hmono, _⟩ := runFrom_ok initSize ops (freshStore_rep initSize hi) hf
  rw [run_eq initSize hi hrun'] at hrun
  cases hrun
  refine ⟨_, _, run_eq initSize hi hrun', ?_⟩
  intro k1 k2 h1 h12
  obtain ⟨f2, items2, hc2, hrd2, _⟩ := (hall k2).resolve_left (fun h => by omega)
  rcases cut_cases initSize tr hi k1 with h | h | h | h
  · omega
  · -- zero-length first snapshot: the guard returns the empty state
    exact ⟨[], f2, [], [], items2, h.2, hc2, fromFile_empty pageSize, hrd2, fromFile2_short pageSize [] f2 (by simp), rfl,
      by intro x hx; cases hx⟩
  · -- all-zero first snapshot: header 0, nothing is read
    exact ⟨zeros initSize, f2, [], [], items2, h.2, hc2, fromFile_zeros pageSize initSize hp, hrd2,
      fromFile2_zeros pageSize initSize hp f2, rfl, by intro x hx; cases hx⟩
  · obtain ⟨g1, e1, g2, e2, hg1, ⟨u1, tl1, hf1, _⟩, hg2, ⟨u2, tl2, hf2, _⟩, hext⟩ := hmono.pair (k1 - 3) (k2 - 3) (by omega)
    obtain ⟨esM, hread, hkeys, hprov⟩ := two_snapshot_read pageSize hf1 hf2 hext hp8 hpm
    refine ⟨g1, g2, scanOut 8 esM, scanOut 8 e1, scanOut 8 e2, by rw [cut_ctor initSize tr hi h.1, hg1],
      by rw [cut_ctor initSize tr hi (Nat.le_trans h.1 h12), hg2],
      hf1.fromFile_ok pageSize hp, hf2.fromFile_ok pageSize hp, hread, ?_, ?_⟩
    · simp only [tr3]; rw [scanOut_triples, scanOut_triples, triples_keys, triples_keys, hkeys]
    · simp only [tr3]; rw [scanOut_triples, scanOut_triples, scanOut_triples]
      intro x hx
      obtain ⟨e, he, rfl⟩ := List.mem_map.mp hx
      obtain ⟨⟨y, hy, hy1, hy2⟩, ⟨z, hz, hz1, hz2⟩⟩ := hprov e he
      exact ⟨⟨_, hy.imp List.mem_map_of_mem List.mem_map_of_mem, hy1, hy2⟩,
        ⟨_, hz.imp List.mem_map_of_mem List.mem_map_of_mem, hz1, hz2⟩⟩

/-- EVERY file reachable by any number of generations (`Reach`: start from no file; a writer opens what is there, runs any
history that fits, stops dead after any number of file effects; repeat) is readable by the collector and can be taken
over by yet another writer, whose store satisfies the crash-tolerant invariant -/
theorem every_cut_readable_gen (initSize pageSize : Nat) (hi : 8 ≤ initSize) (hp : 4 ≤ pageSize) {f : Option Bytes}
    (h : Reach f) :
    f = none ∨ ∃ file items d' tr' es tl, f = some file ∧ readAllValuesFromFile pageSize file = .ok items ∧
      init initSize file = .ok (d', tr') ∧ Rep d' es tl := by
  have hg := reach_good h
  cases f with
  | none => exact Or.inl rfl
  | some file =>
    obtain ⟨⟨items, hrd⟩, d', tr', es, tl, hinit, hr⟩ := good_usable initSize pageSize hi hp hg
    exact Or.inr ⟨file, items, d', tr', es, tl, rfl, hrd, hinit, hr⟩

/-- … and what is read at a cut of generation n+1 is a prefix state of THAT generation's history, started from what its
writer found in the file left by generation n (`contentOf`: what the reader returns on it) -/
theorem gen_cut_prefix_state (initSize pageSize : Nat) (hi : 8 ≤ initSize) (hp : 4 ≤ pageSize) {f : Option Bytes}
    (h : Reach f) (ops : List Op) (hfit : GenFits initSize f ops) (k : Nat) :
    Reach (genCut initSize f ops k) ∧
    ∀ file, genCut initSize f ops k = some file → ∃ items, readAllValuesFromFile pageSize file = .ok items ∧
      PrefixFrom (contentOf pageSize f) (ops.map toSpec) (tr3 items) :=
  ⟨Reach.crash initSize hi ops k h hfit, (genCut_ok initSize pageSize hi hp (reach_good h) ops hfit k).2⟩

/-- the scrape over any number of worker files, each after any number of generations -/
theorem scrape_ok_gen (pageSize : Nat) (hp : 4 ≤ pageSize) (files : List Bytes) (h : ∀ f ∈ files, Reach (some f)) :
    ∃ r, readMetrics pageSize files = .ok r := by
  apply readMetrics_ok
  intro f hf
  exact (good_usable 8 pageSize (Nat.le_refl 8) hp (reach_good (h f hf))).1

/-- a fresh writer's history is the first generation -/
example (ops : List Op) (k : Nat) (hf : GenFits 64 none ops) : Reach (genCut 64 none ops k) :=
  Reach.crash 64 (by decide) ops k Reach.start hf

/-- every file name `mark_process_dead` removes (`gauge_<mode>_<pid>.db`, mode starting with `live` — both extracted from
multiprocess.py) is one whose disappearance `_read_metrics` tolerates -/
theorem removed_files_are_tolerated (mode : List Char) (h : removeModePrefix.isPrefixOf mode = true) :
    tolerated removeTyp mode = true := by
  simp only [tolerated, removeTyp, vanishTyp, removeModePrefix, vanishModePrefix] at h ⊢
  simp [h]

/-- the scrape over a listing in which live-gauge files have vanished and every remaining file is at any cut of any
generation: it succeeds, and returns one result per file that is still there (the vanished ones are skipped) -/
theorem scrape_skips_vanished_live_gauges (pageSize : Nat) (hp : 4 ≤ pageSize) (listed : List Listed)
    (h : ∀ f ∈ listed, match f.content with
      | some b => Reach (some b)
      | none => tolerated f.typ f.mode = true) :
    ∃ r, readMetricsListed pageSize listed = .ok r ∧ r.length = (listed.filter (·.content.isSome)).length := by
  induction listed with
  | nil => exact ⟨[], rfl, rfl⟩
  | cons f rest ih =>
    obtain ⟨r, hr, hl⟩ := ih (fun g hg => h g (List.mem_cons_of_mem _ hg))
    have hf := h f (by simp)
    cases hc : f.content with
    | none =>
      simp only [hc] at hf
      exact ⟨r, by simp [readMetricsListed, hc, hf, hr, vanishCaught], by simp [hc, hl]⟩
    | some b =>
      simp only [hc] at hf
      obtain ⟨items, hi⟩ := (good_usable 8 pageSize (Nat.le_refl 8) hp (reach_good hf)).1
      exact ⟨items :: r, by simp [readMetricsListed, hc, hi, hr, bind, Except.bind], by simp [hc, hl]⟩

/-- what the code does for any OTHER vanished file: FileNotFoundError escapes and ends the scrape.  This does not
contradict the property under the stated assumption that nobody but `mark_process_dead` removes worker files
(`removed_files_are_tolerated`: it removes tolerated names only); see harness/obligations/C11.json. -/
theorem other_vanished_file_escapes (pageSize : Nat) (f : Listed) (rest : List Listed) (hc : f.content = none)
    (ht : tolerated f.typ f.mode = false) : readMetricsListed pageSize (f :: rest) = .error .fileNotFound := by
  simp [readMetricsListed, hc, ht]

example : tolerated "gauge".toList "liveall".toList = true ∧ tolerated "gauge".toList "all".toList = false ∧
    tolerated "counter".toList "123.db".toList = false := by decide +kernel

def demoOps : List Op :=
  [.write ['a'] 1 2, .write ['é', 'x'] 0x7ff8000000000001 0x8000000000000000,
   .write ['k', 'e', 'y', '-', '3'] 5 6, .reopen, .write ['a'] 7 8, .read ['n', 'e', 'w']]

theorem demo_fits : FitsAll demoOps := by unfold FitsAll; decide +kernel

/-- a concrete history (64-byte initial file, so the third key forces a doubling): all its cuts are readable -/
example : ∃ d effs, run 64 demoOps = .ok (d, effs) ∧ ∀ k,
    (k = 0 ∧ cut effs k = none) ∨ ∃ file items, cut effs k = some file ∧
      readAllValuesFromFile 4096 file = .ok items ∧ PrefixState (demoOps.map toSpec) (tr3 items) :=
  every_cut_readable 64 4096 demoOps (by decide) (by decide) demo_fits

example : ∃ d effs, run 64 demoOps = .ok (d, effs) ∧ ∀ k, 1 ≤ k →
    ∃ file d' tr', cut effs k = some file ∧ init 64 file = .ok (d', tr') ∧ PrefixState (demoOps.map toSpec) (absOf d') ∧
      ∀ ops2, d'.used + need (d'.positions.map (·.1)) ops2 < 2147483648 → ∃ d'' tr'' es tl,
        runFrom 64 d' ops2 = .ok (d'', tr'') ∧ Rep d'' es tl ∧
        absOf d'' = Spec.MmapDict.run (absOf d') (ops2.map toSpec) ∧ readAllValues d'' = .ok (absOf d'') ∧
        (readAllValuesFromFile 4096 (close d'')).map tr3 = .ok (absOf d'') :=
  continuation_from_cut 64 4096 demoOps (by decide) (by decide) demo_fits

example : CutRep (freshStore 64).file [] := ⟨_, _, (freshStore_rep 64 (by decide)).file, by simp⟩

example : ∃ r, readMetrics 4096 [(freshStore 64).file, zeros 64, [], [1, 2, 3]] = .ok r :=
  scrape_ok_of_shapes 4096 (by decide) _ (by
    intro f hf
    simp only [List.mem_cons, List.not_mem_nil, or_false] at hf
    rcases hf with rfl | rfl | rfl | rfl
    · exact Or.inl ⟨[], _, _, (freshStore_rep 64 (by decide)).file, by simp⟩
    · exact Or.inr (Or.inl ⟨64, by decide, rfl⟩)
    · exact Or.inr (Or.inr (by decide))
    · exact Or.inr (Or.inr (by decide)))

end PromVerif.Props.C11
