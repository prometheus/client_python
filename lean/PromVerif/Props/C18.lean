/-
C18 — write_to_textfile replaces the target atomically or not at all.

Every theorem is about the effect lists that the GENERATED skeleton of `write_to_textfile` (`Generated/Textfile.lean`,
re-extracted from the source on every run) compiles to, and quantifies over

* every registry (`P.collectors`: any number of collectors with any rendered output, including none → empty exposition),
* every way the OS / buffered writer splits `f.write(data)` into pieces and every choice, per piece, of whether it
  reaches the file at `write()` or only at `close()` (`P.cuts`, `P.lastFlush`),
* every initial file system (`c.fs`: target absent or present with any content, a stale temporary file, other files),
* every fault position, exception class and amount of partial work of the faulting effect (`f : Fault`; a position past
  the end is the fault-free call),
* every cut point (`List.take m`) and, for two writers, every interleaving (`Interleave`).

Trusted (DESIGN §4): `rename(2)`/`os.replace` switch the target atomically; (pid, thread ident) is unique among
concurrently running writers (used only to discharge the hypothesis `tmp₁ ≠ tmp₂`, cf. `tmp_names_distinct`).

Documented limit F16 (`base_exception_leaves_tmp`): an exception that is not an `Exception` (KeyboardInterrupt,
SystemExit, GeneratorExit) bypasses `except Exception:`; the target is still intact but the temporary file stays.  The
property's fault list ("a collector raising part-way, an encoding error, a failing write, flush or rename, the process
being killed") does not contain it.
-/
import PromVerif.Model.Textfile
import PromVerif.Spec.Textfile
import PromVerif.Lemmas.TextfileName
import PromVerif.Lemmas.TextfileMany

namespace PromVerif.Props.C18
open PromVerif.Generated.Textfile PromVerif.Model.Textfile PromVerif.Spec.Textfile

/-- the extractor found `write_to_textfile` in a shape it understands -/
theorem extract_ok : extractOk = true := by decide

/-- the extracted skeleton: open TMP 'wb' → generate → write → close → rename TMP→TARGET as the last effect (so no
effect before the rename names the target and nothing can fail after it); the handler catches `Exception`, removes
exactly the temporary file when it exists, and re-raises; the temporary name is target + non-empty suffix containing pid
and thread ident -/
theorem skeleton_wellformed : wellformed = true := by
  rw [wellformed, handlerOk, String.toList_ofList]
  decide +kernel

/-- tmp = target ++ non-empty suffix, hence `tmp ≠ target` (whichever pid the name uses) -/
theorem tmp_ne_target (path : Path) (pid ip tid : Nat) : tmpName tmpPathParts path pid ip tid ≠ path := by
  obtain ⟨s, rest, hs, hne⟩ : ∃ s rest, tmpPathParts = .path :: .lit s :: rest ∧ s ≠ [] := ⟨_, _, rfl, by decide⟩
  intro h
  rw [hs, tmpName_head] at h
  exact hne (List.append_eq_nil_iff.mp (List.append_right_eq_self.mp h)).1

/-- "unique per concurrent writer": writers whose LIVE (pid, thread ident) pairs differ — two threads of a process, a
process and its forked child, unrelated processes — use different temporary files, whatever pid was current when the
module was imported.  Rests on the generated name being `path.<os.getpid()>.<thread ident>` (first line of the proof);
with the pid taken from a constant cached at import it is false, see `cached_pid_loses_distinctness`. -/
theorem tmp_names_distinct (path : Path) (pid1 ip1 tid1 pid2 ip2 tid2 : Nat) (h : (pid1, tid1) ≠ (pid2, tid2)) :
    tmpName tmpPathParts path pid1 ip1 tid1 ≠ tmpName tmpPathParts path pid2 ip2 tid2 := by
  have hs : tmpPathParts = canonParts := by decide
  intro e
  rw [hs, tmpName_canon, tmpName_canon] at e
  have e' := List.append_cancel_left e
  simp only [List.cons.injEq, true_and] at e'
  obtain ⟨a, b⟩ := split_unique _ _ _ _ (dot_not_mem_natDigits pid1) (dot_not_mem_natDigits pid2) e'
  exact h (by rw [natDigits_inj a, natDigits_inj b])

/-- what a name built from a pid cached at import loses: a process and the child it forks (different live pids, same
import-time pid, both on their main thread and hence with equal thread idents) get the SAME temporary file -/
theorem cached_pid_loses_distinctness (path : Path) (pid1 pid2 ip tid : Nat) :
    tmpName cachedParts path pid1 ip tid = tmpName cachedParts path pid2 ip tid := by
  rw [tmpName_cached, tmpName_cached]

example : tmpName tmpPathParts "m.prom".toList 12 7 3 = "m.prom.12.3".toList := by
  repeat rw [String.toList_ofList]
  decide +kernel
example : tmpName tmpPathParts "m.prom".toList 1 7 23 = "m.prom.1.23".toList := by
  repeat rw [String.toList_ofList]
  decide +kernel
example : tmpName cachedParts "m.prom".toList 12 7 3 = tmpName cachedParts "m.prom".toList 13 7 3 := by
  repeat rw [String.toList_ofList]
  decide +kernel

/-- AT EVERY INSTANT of every call — fault-free or with any single fault of any class at any effect (open, each
collector, the final encoding, each piece of the write, close/flush, rename), cut after any number `m` of effects (this is also the state a
reader sees, and the state left by a kill) — the target holds its complete previous content (`none` = it did not exist)
or the complete new exposition.  Never anything else: when `P.new` happens to be empty the empty file IS the complete
new exposition, and it appears only through the rename. -/
theorem target_always_old_or_new (P : Params) (f : Fault) (c : Cfg) (hne : P.tmp ≠ P.target) (m : Nat) :
    OldOrNew (c.fs.get P.target) P.new ((exec ((faultedRun P f).take m) c).fs.get P.target) :=
  target_prefix P.new hne _ c (faultedRun_private P f) (faultedRun_ready P f _) m

/-- a call in which effect `f.pos` raises an `Exception`: the target is untouched, the temporary file is gone, and the
caller sees that very exception object -/
theorem failure_is_clean (P : Params) (f : Fault) (c : Cfg) (hne : P.tmp ≠ P.target)
    (hpos : f.pos < (body P).length) (hexc : f.exc.cls.isException = true) :
    (exec (faultedRun P f) c).fs.get P.target = c.fs.get P.target ∧
    (exec (faultedRun P f) c).fs.get P.tmp = none ∧
    outcome P f = .error f.exc := by
  have hc : catches caughtClass f.exc.cls = true := by rw [catches_caughtClass, hexc]
  refine ⟨target_exec_noRen hne _ c (faultedRun_private P f) (faultedRun_noRen hpos), ?_, outcome_of_lt hpos⟩
  rw [file_exec hne _ c (faultedRun_private P f)]
  exact execV_run_no_tmp P f _ (fun _ => hc)

/-- a call in which nothing raises installs the complete new exposition and leaves no temporary file; it returns -/
theorem success_installs_new (P : Params) (c : Cfg) (hne : P.tmp ≠ P.target) :
    (exec (normalRun P) c).fs.get P.target = some P.new ∧
    (exec (normalRun P) c).fs.get P.tmp = none ∧
    (∀ f : Fault, (body P).length ≤ f.pos → faultedRun P f = normalRun P ∧ outcome P f = .ok ()) := by
  refine ⟨?_, ?_, fun f hf => ⟨faultedRun_past_end hf, outcome_past_end hf⟩⟩
  · -- before the rename the temporary file holds the exposition (`execV_pre`); the rename moves it to the target
    have hfile : (exec ((pre P).map fun x => normal x.1) c).fs.get P.tmp = some P.new := by
      rw [file_exec hne _ c (pre_private P), execV_pre]
    have hren : isPrivate P.tmp P.target (normal (Eff.rename P.tmp P.target)).1 = true := by simp [normal, isPrivate]
    have hisRen : isRen (normal (Eff.rename P.tmp P.target)) = true := rfl
    rw [normalRun_eq, exec_append, exec_cons, exec_nil, target_step hne _ _ hren, if_pos hisRen, hfile]
  · rw [file_exec hne _ c (normalRun_private P), execV_normalRun]

/-- nothing but the target and the writer's own temporary path is ever touched -/
theorem other_files_untouched (P : Params) (f : Fault) (c : Cfg) (q : Path) (h1 : P.tmp ≠ q) (h2 : P.target ≠ q)
    (m : Nat) : (exec ((faultedRun P f).take m) c).fs.get q = c.fs.get q :=
  frame_exec h1 h2 _ c (fun s hs => faultedRun_private P f s (List.mem_of_mem_take hs))

/-- the process is killed after any number of effects of a call (no handler runs): the target is intact.  The
temporary file may remain (`crash_may_leave_tmp`) — the property forbids a leftover only "when the call raises". -/
theorem crash_leaves_target_intact (P : Params) (c : Cfg) (hne : P.tmp ≠ P.target) (m : Nat) :
    OldOrNew (c.fs.get P.target) P.new ((exec ((normalRun P).take m) c).fs.get P.target) :=
  target_prefix P.new hne _ c (normalRun_private P) (normalRun_ready P _) m

theorem crash_may_leave_tmp (P : Params) (c : Cfg) :
    ∃ m, (exec ((normalRun P).take m) c).fs.get P.tmp ≠ none := by
  -- after the open alone
  refine ⟨1, ?_⟩
  rw [normalRun_eq]
  show (c.fs.set P.tmp []).get P.tmp ≠ none
  rw [Fs.get_set_same]
  exact Option.some_ne_none _

/-- F16, documented limit: a fault whose class derives from `BaseException` only (KeyboardInterrupt, SystemExit,
GeneratorExit), at any effect after the open, is not caught: the caller sees it and the target is intact
(`target_always_old_or_new` covers it), but the temporary file is left behind. -/
theorem base_exception_leaves_tmp (P : Params) (f : Fault) (c : Cfg) (hne : P.tmp ≠ P.target)
    (h0 : 1 ≤ f.pos) (hpos : f.pos < (body P).length) (hexc : f.exc.cls.isException = false) :
    (exec (faultedRun P f) c).fs.get P.tmp ≠ none ∧
    (exec (faultedRun P f) c).fs.get P.target = c.fs.get P.target ∧
    outcome P f = .error f.exc := by
  have hc : catches caughtClass f.exc.cls = false := by rw [catches_caughtClass, hexc]
  refine ⟨?_, target_exec_noRen hne _ c (faultedRun_private P f) (faultedRun_noRen hpos), ?_⟩
  · -- the run starts with the completed open and nothing in it removes the file
    obtain ⟨tl, htl⟩ := faultedRun_head h0 hpos
    have hnr := faultedRun_keepsFile hpos hc
    rw [file_exec hne _ c (faultedRun_private P f), ← Option.isSome_iff_ne_none]
    rw [htl] at hnr ⊢
    exact execV_keeps_file tl _ (List.forall_mem_cons.mp hnr).2 rfl
  · exact outcome_of_lt hpos

/-- two calls on the same target with distinct temporary names, each fault-free or faulted in any way, interleaved in
any way, cut at any point: the target holds the old content or one of the two complete new expositions, and no third
file is touched -/
theorem two_writers_never_partial (P1 P2 : Params) (f1 f2 : Fault) (htgt : P2.target = P1.target)
    (h12 : P1.tmp ≠ P2.tmp) (h1 : P1.tmp ≠ P1.target) (h2 : P2.tmp ≠ P1.target)
    (zs : List (Bool × Step)) (hi : Interleave (faultedRun P1 f1) (faultedRun P2 f2) zs) (c : Cfg2) (m : Nat) :
    OldOrNew2 (c.fs.get P1.target) P1.new P2.new ((exec2 (zs.take m) c).fs.get P1.target) := by
  exact target_prefix2 hi c
    (InvN.pair h1 h2 h12 (.start (faultedRun_private P1 f1) (faultedRun_ready P1 f1 (view P1.tmp ⟨c.fs, c.l1⟩)))
      (.start (htgt ▸ faultedRun_private P2 f2) (faultedRun_ready P2 f2 (view P2.tmp ⟨c.fs, c.l2⟩)))) m

/-- two fault-free calls, any interleaving: at every point the target is old / new₁ / new₂; at the end it is new₁ or
new₂ (one complete exposition installed — the one whose rename came last) and neither temporary file remains -/
theorem two_writers_each_complete (P1 P2 : Params) (htgt : P2.target = P1.target)
    (h12 : P1.tmp ≠ P2.tmp) (h1 : P1.tmp ≠ P1.target) (h2 : P2.tmp ≠ P1.target)
    (zs : List (Bool × Step)) (hi : Interleave (normalRun P1) (normalRun P2) zs) (c : Cfg2) :
    (∀ m, OldOrNew2 (c.fs.get P1.target) P1.new P2.new ((exec2 (zs.take m) c).fs.get P1.target)) ∧
    OneInstalled P1.new P2.new ((exec2 zs c).fs.get P1.target) ∧
    (exec2 zs c).fs.get P1.tmp = none ∧ (exec2 zs c).fs.get P2.tmp = none := by
  have inv := InvN.pair h1 h2 h12 (.start (normalRun_private P1) (normalRun_ready P1 (view P1.tmp ⟨c.fs, c.l1⟩)))
    (.start (htgt ▸ normalRun_private P2) (normalRun_ready P2 (view P2.tmp ⟨c.fs, c.l2⟩)))
  obtain ⟨a, b, hfin⟩ := exec2_final hi c inv
  rw [execV_normalRun] at a b
  refine ⟨target_prefix2 hi c inv, hfin ?_, a, b⟩
  -- writer 1's rename is among its effects
  rw [normalRun_eq, List.countP_append]
  exact Nat.succ_ne_zero _

/-! ### any number of concurrent writers, any schedule

`ws` is any list of writers (a call's parameters + at most one fault of any class at any of its effects; a fault position
past the end = no fault).  A schedule is any list of writer indices saying who executes its next effect; every prefix of a
schedule is a schedule, so a statement "for every schedule" is a statement about every instant; a writer that is not
scheduled again has been killed at that point, and the schedule ending is everything being killed.  `Independent` is the
hypothesis that makes the writers independent: one target, temporary names different from it (`tmp_ne_target`) and from
each other (`tmp_names_distinct`: pid × thread ident).  Proved by the invariant `InvN` over the shared file-system state,
by induction on the schedule (`Lemmas/TextfileMany.lean`) — nothing is enumerated. -/

/-- ANY NUMBER OF WRITERS, ANY SCHEDULE, EVERY INSTANT: the target is what it was before anybody moved (absent or the
old content) or the COMPLETE exposition of one of the writers -/
theorem writers_never_partial (T : Path) (ws : List Writer) (ind : Independent T ws) (fs0 : Fs) (sch : List Nat) :
    (runSched sch (initN fs0 ws)).fs.get T = fs0.get T ∨
    ∃ w ∈ ws, (runSched sch (initN fs0 ws)).fs.get T = some w.1.new := by
  obtain ⟨_, h⟩ := InvN.run sch (initN_inv ind fs0)
  rcases h with h | ⟨i, hi, h⟩
  · left; exact h.1
  · right
    have hi' : i < ws.length := by simpa using hi
    rw [dataOf_get fs0 ws i hi'] at h
    exact ⟨ws[i], List.getElem_mem hi', h⟩

/-- for every writer `i`, at every instant `c` of every schedule:
 1. the rename instant — when `i`'s next effect is its (completed) rename, the target holds `i`'s OWN complete exposition
    right after it, whatever the others have done in between;
 2. a writer whose call raises (one of its effects faults) never changes the target, at any of its steps;
 3. once `i` has finished — returned, or raised an exception its handler catches — no temporary file of its own is left,
    whatever the others are still doing. -/
theorem writers_each_complete_or_clean (T : Path) (ws : List Writer) (ind : Independent T ws) (fs0 : Fs)
    (sch : List Nat) (i : Nat) (hi : i < ws.length) :
    (∀ s r, remOf (runSched sch (initN fs0 ws)) i = s :: r → isRen s = true →
        (stepN i (runSched sch (initN fs0 ws))).fs.get T = some ws[i].1.new) ∧
    (ws[i].2.pos < (body ws[i].1).length →
        (stepN i (runSched sch (initN fs0 ws))).fs.get T = (runSched sch (initN fs0 ws)).fs.get T) ∧
    (remOf (runSched sch (initN fs0 ws)) i = [] →
        (ws[i].2.pos < (body ws[i].1).length → ws[i].2.exc.cls.isException = true) →
        (runSched sch (initN fs0 ws)).fs.get ws[i].1.tmp = none) := by
  obtain ⟨inv, _⟩ := InvN.run sch (initN_inv ind fs0)
  have hi' : i < (dataOf fs0 ws).length := by simpa using hi
  have hw := inv.w i hi'
  rw [dataOf_get fs0 ws i hi] at hw
  refine ⟨?_, ?_, ?_⟩
  · intro s r hrem hs
    have := inv.step_ren i hi' hrem hs
    rwa [dataOf_get fs0 ws i hi] at this
  · intro hpos
    exact inv.step_noRen i fun s hs => faultedRun_noRen hpos s (hw.suf.subset hs)
  · intro hdone hexc
    have hfile := congrArg View.file hw.fin
    rw [hdone] at hfile
    simp only [execV_nil, viewOf, view] at hfile
    rw [hfile]
    apply execV_run_no_tmp
    intro hp
    rw [catches_caughtClass, hexc hp]

/-- the two-writer statement as the instance `ws = [w₁, w₂]` of the general one -/
theorem two_writers_never_partial_sched (w1 w2 : Writer) (htgt : w2.1.target = w1.1.target)
    (h12 : w1.1.tmp ≠ w2.1.tmp) (h1 : w1.1.tmp ≠ w1.1.target) (h2 : w2.1.tmp ≠ w1.1.target) (fs0 : Fs) (sch : List Nat) :
    OldOrNew2 (fs0.get w1.1.target) w1.1.new w2.1.new ((runSched sch (initN fs0 [w1, w2])).fs.get w1.1.target) := by
  have ind : Independent w1.1.target [w1, w2] := .of_pairwise (by simp [htgt, h1, h2]) (by simp [h12])
  rcases writers_never_partial _ _ ind fs0 sch with h | ⟨w, hw, h⟩
  · exact Or.inl h
  · simp only [List.mem_cons, List.not_mem_nil, or_false] at hw
    rcases hw with rfl | rfl
    · exact Or.inr (Or.inl h)
    · exact Or.inr (Or.inr h)

/-- …and in the `Interleave` form, for two calls starting with fresh handles: the instance of
`two_writers_never_partial` — itself proved from the invariant for any number of writers, every prefix of an
interleaving being a schedule of the two-writer instance (`exec2_as_schedule`) -/
theorem two_writers_never_partial_corollary (w1 w2 : Writer) (htgt : w2.1.target = w1.1.target)
    (h12 : w1.1.tmp ≠ w2.1.tmp) (h1 : w1.1.tmp ≠ w1.1.target) (h2 : w2.1.tmp ≠ w1.1.target) (fs0 : Fs)
    (zs : List (Bool × Step)) (hi : Interleave (runOf w1) (runOf w2) zs) (m : Nat) :
    OldOrNew2 (fs0.get w1.1.target) w1.1.new w2.1.new ((exec2 (zs.take m) ⟨fs0, {}, {}⟩).fs.get w1.1.target) :=
  two_writers_never_partial w1.1 w2.1 w1.2 w2.2 htgt h12 h1 h2 zs hi ⟨fs0, {}, {}⟩ m

/-! ### non-vacuity: concrete, non-trivial instances of the hypotheses -/

/-- registry of two collectors, the write split into three pieces (first flushed at once, second buffered), an
existing target, an unrelated file and a stale temporary file -/
def exP : Params :=
  { target := "m.prom".toList, tmp := tmpName tmpPathParts "m.prom".toList 12 12 3,
    collectors := [[1, 2, 3], [4, 5]], cuts := [(2, true), (1, false)], lastFlush := false }

def exC : Cfg := ⟨[("m.prom".toList, [9, 9]), ("other".toList, [7]), (exP.tmp, [8])], {}⟩

example : exP.tmp ≠ exP.target := tmp_ne_target _ _ _ _
example : (body exP).length = 9 := by decide +kernel
example : (exec (normalRun exP) exC).fs = [("m.prom".toList, [1, 2, 3, 4, 5]), ("other".toList, [7])] := by decide +kernel
/-- after 6 effects (open, two collectors, encode, two pieces) the target is still old and tmp holds only the flushed piece -/
example : (exec ((normalRun exP).take 6) exC).fs.get exP.target = some [9, 9] ∧
    (exec ((normalRun exP).take 6) exC).fs.get exP.tmp = some [1, 2] := by decide +kernel
/-- a collector (effect 2) raises ValueError: handler runs, everything as before, the caller sees the exception -/
example : (exec (faultedRun exP ⟨2, ⟨.valueError, 77⟩, 0⟩) exC).fs = [("m.prom".toList, [9, 9]), ("other".toList, [7])]
    ∧ outcome exP ⟨2, ⟨.valueError, 77⟩, 0⟩ = .error ⟨.valueError, 77⟩ := by
  rw [faultedRun, outcome, catches_caughtClass]
  exact ⟨by decide +kernel, rfl⟩
/-- F16 instance: KeyboardInterrupt from the same collector leaves the (empty) temporary file -/
example : (exec (faultedRun exP ⟨2, ⟨.keyboardInterrupt, 1⟩, 0⟩) exC).fs.get exP.tmp = some [] := by
  rw [faultedRun, catches_caughtClass]
  decide +kernel

def exP2 : Params :=
  { target := "m.prom".toList, tmp := tmpName tmpPathParts "m.prom".toList 12 12 4, collectors := [[6]], lastFlush := true }

example : exP.tmp ≠ exP2.tmp := tmp_names_distinct _ _ _ _ _ _ _ (by decide)
example : Interleave (normalRun exP) (normalRun exP2) (merge [true, false, false, true, false] (normalRun exP) (normalRun exP2)) :=
  merge_interleave _ _ _
/-- writer 2 renames in the middle of writer 1's call; writer 1's rename comes last and wins -/
example : (exec2 (merge [true, false, false, true, false, false, false, false] (normalRun exP) (normalRun exP2))
    ⟨exC.fs, {}, {}⟩).fs = [("m.prom".toList, [1, 2, 3, 4, 5]), ("other".toList, [7])] := by decide +kernel

def exP3 : Params :=
  { target := "m.prom".toList, tmp := tmpName tmpPathParts "m.prom".toList 13 13 3, collectors := [[7, 7]], lastFlush := false }

/-- writer 0 and writer 2 complete, writer 1's `close` raises OSError after one byte reached its temporary file -/
def exWs : List Writer := [(exP, ⟨99, ⟨.osError, 0⟩, 0⟩), (exP2, ⟨4, ⟨.osError, 5⟩, 1⟩), (exP3, ⟨99, ⟨.osError, 0⟩, 0⟩)]

example : Independent "m.prom".toList exWs := by
  have d (p1 t1 p2 t2 : Nat) (h : (p1, t1) ≠ (p2, t2)) :=
    tmp_names_distinct "m.prom".toList p1 p1 t1 p2 p2 t2 h
  refine .of_pairwise ?_ (.cons ?_ (.cons ?_ (.cons ?_ .nil)))
  · intro w hw
    simp only [exWs, List.mem_cons, List.not_mem_nil, or_false] at hw
    rcases hw with rfl | rfl | rfl <;> exact ⟨rfl, tmp_ne_target _ _ _ _⟩
  · intro w hw
    simp only [List.mem_cons, List.not_mem_nil, or_false] at hw
    rcases hw with rfl | rfl
    · exact d 12 3 12 4 (by decide)
    · exact d 12 3 13 3 (by decide)
  · intro w hw
    simp only [List.mem_cons, List.not_mem_nil, or_false] at hw
    rcases hw with rfl
    exact d 12 4 13 3 (by decide)
  · intro w hw
    cases hw

/-- round-robin until everybody is done: writer 2 (the shortest call) renames first, writer 0 last and wins; the faulted
writer 1 has removed its temporary file; the stale file under writer 0's name is gone and the unrelated file untouched -/
example : (runSched ((List.range 40).map (· % 3)) (initN exC.fs exWs)).fs
    = [("m.prom".toList, [1, 2, 3, 4, 5]), ("other".toList, [7])] := by decide +kernel
/-- cut in the middle (12 moves): the target is still the old content and all three temporary files exist -/
example : ((runSched ((List.range 12).map (· % 3)) (initN exC.fs exWs)).fs.get "m.prom".toList = some [9, 9]) ∧
    ((runSched ((List.range 12).map (· % 3)) (initN exC.fs exWs)).fs.map (·.1)).length = 5 := by decide +kernel

end PromVerif.Props.C18
