/-
C10 — the mmap store returns exactly what was written, across growth and reopen.

Model: `Model/MmapDict.lean` (bytes of the file, capacity, used, positions).  Spec: `Spec/MmapDict.lean` (insertion-ordered
map key → (value, timestamp) as 64-bit patterns).  All theorems are for every history, every key (any encoded length, any
Unicode scalar values), every pair of 64-bit patterns, any number of doublings and reopens.  The only hypotheses:
`8 ≤ initSize` (the initial file holds a header), `4 ≤ pageSize`, and `Fits`: the file stays below 2^31 bytes
(`struct.pack('i', used)` raises from there on — see harness/obligations/C10.json, assumptions).
-/
import PromVerif.Model.MmapDict
import PromVerif.Spec.MmapDict
import PromVerif.Lemmas.MmapStep

namespace PromVerif.Props.C10
open PromVerif.Py PromVerif.Model.MmapDict PromVerif.Generated.Mmap PromVerif.Lemmas.Mmap
open PromVerif.Spec.MmapDict (Store)

/-- the extractor found every site of mmap_dict.py in the shape it understands -/
theorem extract_ok : extractOk = true := by decide

/-! ### layout arithmetic, for every key length (all residues mod 8), on the two extracted source expressions -/

/-- reader and writer agree on the padding; the value field is 8-aligned; the key is padded by 1..8 bytes -/
theorem layout_all_lengths (n : Nat) :
    n + padCountWriter n = paddedLenReader n ∧ (lenFieldSkip + paddedLenReader n) % 8 = 0 ∧
    n < paddedLenReader n ∧ paddedLenReader n ≤ n + 8 ∧ (lenFieldSkip + paddedLenReader n + valueSkip) % 8 = 0 := by
  rw [paddedLenReader_eq, padCountWriter_eq]
  have := layout n
  unfold lenFieldSkip valueSkip
  omega

example : paddedLenReader 0 = 4 ∧ paddedLenReader 3 = 4 ∧ paddedLenReader 4 = 12 ∧ paddedLenReader 11 = 12 := by decide +kernel

/-- the abstraction: what `read_value` returns for every key of the in-memory index, in index order -/
abbrev abs (d : MmapedDict) : Store := absOf d

/-- representation invariant without the zero tail (this is what survives a crash, C11): the file is header + the encoded
entries of some entry list `es` with distinct keys + any tail; `used` counts exactly the entries; capacity = file
length; positions = offsets of the value fields of `es`, in order -/
def Inv (d : MmapedDict) : Prop := ∃ es tail, Rep d es tail

/-- the full invariant: additionally every byte beyond `used` is zero -/
def WF (d : MmapedDict) : Prop := ∃ es tail, Rep d es tail ∧ ZeroTail tail

theorem abs_eq {d es tail} (h : Rep d es tail) : abs d = triples es := h.absOf_eq

theorem WF.inv {d} (h : WF d) : Inv d := let ⟨es, tail, hr, _⟩ := h; ⟨es, tail, hr⟩

/-- what `WF` says in plain terms: header ≥ 8 and equal to the stored counter, entries tile [8, used) in multiples of 8,
capacity = file length ≥ used, every indexed value field is 8-aligned and inside the used region, the index has one
position per key, bytes beyond `used` are zero -/
theorem wf_facts {d} (h : WF d) :
    8 ≤ d.used ∧ d.used % 8 = 0 ∧ unpackInt d.file headerPos = .ok (d.used : Int) ∧
    d.capacity = d.file.length ∧ d.used ≤ d.capacity ∧
    (∀ x ∈ d.positions, x.2 % 8 = 0 ∧ 8 ≤ x.2 ∧ x.2 + 16 ≤ d.used) ∧ (d.positions.map (·.1)).Nodup ∧
    (∀ b ∈ d.file.drop d.used, b = 0) := by
  obtain ⟨es, tail, hr, hz⟩ := h
  have hu := hr.file.used_eq
  refine ⟨hu ▸ Nat.le_add_right 8 _, by rw [hu, Nat.add_mod, encEntries_length_mod es], hr.file.unpack_header, hr.cap,
    by rw [hr.cap_eq]; exact Nat.le_add_right _ _, ?_, ?_, ?_⟩
  · intro x hx
    rw [hr.pos] at hx
    obtain ⟨h1, h2, h3⟩ := posOf_aligned es 8 (Nat.dvd_refl 8) x hx
    exact ⟨Nat.mod_eq_zero_of_dvd h1, h2, hu ▸ h3⟩
  · rw [hr.keys_eq]; exact hr.nodup
  · intro b hb
    rw [hr.file.file_eq, ← List.append_assoc, List.drop_left' (by rw [List.length_append, hdr_length, hu])] at hb
    exact hz b hb

/-- room for the entry an operation may have to create: the file stays below 2^31 bytes -/
def Fits (d : MmapedDict) (op : Op) : Prop := d.used + opNeed (d.positions.map (·.1)) op < 2147483648

/-- the same for a whole history of a fresh writer: one entry per distinct key -/
def FitsAll (ops : List Op) : Prop := 8 + need [] ops < 2147483648

/-- a fresh store (absent or empty file) opens, is well formed and empty -/
theorem wf_init (initSize : Nat) (h : 8 ≤ initSize) :
    ∃ d tr, init initSize [] = .ok (d, tr) ∧ WF d ∧ abs d = [] := by
  exact ⟨freshStore initSize, _, init_fresh initSize h, ⟨[], _, freshStore_rep initSize h, zeroTail_zeros _⟩,
    abs_eq (freshStore_rep initSize h)⟩

example : ∃ d tr, init 64 [] = .ok (d, tr) ∧ WF d ∧ abs d = [] := wf_init 64 (by decide)

/-- every operation succeeds, preserves the invariant and refines the spec step:
`abs (step d op) = Spec.step (abs d) op` -/
theorem inv_step {d} (h : Inv d) (op : Op) (initSize : Nat) (hf : Fits d op) :
    ∃ d' tr, step initSize d op = .ok (d', tr) ∧ Inv d' ∧ abs d' = Spec.MmapDict.step (abs d) (toSpec op) := by
  obtain ⟨es, tail, hr⟩ := h
  obtain ⟨d', tr, es', tail', hs, hr', _, ht, _⟩ := step_ok hr op initSize (hr.keys_eq ▸ hf)
  exact ⟨d', tr, hs, ⟨es', tail', hr'⟩, by rw [abs_eq hr', abs_eq hr, ht]⟩

/-- … and the zero tail is preserved as well -/
theorem wf_step {d} (h : WF d) (op : Op) (initSize : Nat) (hf : Fits d op) :
    ∃ d' tr, step initSize d op = .ok (d', tr) ∧ WF d' ∧ abs d' = Spec.MmapDict.step (abs d) (toSpec op) := by
  obtain ⟨es, tail, hr, hz⟩ := h
  obtain ⟨d', tr, es', tail', hs, hr', hz', ht, _⟩ := step_ok hr op initSize (hr.keys_eq ▸ hf)
  exact ⟨d', tr, hs, ⟨es', tail', hr', hz' hz⟩, by rw [abs_eq hr', abs_eq hr, ht]⟩

theorem abs_step {d d' tr} (h : Inv d) (op : Op) (initSize : Nat) (hf : Fits d op)
    (hs : step initSize d op = .ok (d', tr)) : abs d' = Spec.MmapDict.step (abs d) (toSpec op) := by
  obtain ⟨d'', tr'', hs', _, ha⟩ := inv_step h op initSize hf
  rw [hs] at hs'
  cases hs'
  exact ha

/-- `read_all_values()` returns the abstract state: every key once, in first-write order, with the last value and
timestamp bit for bit (by `inv_step`, `abs` follows the spec) -/
theorem read_all_eq_spec {d} (h : Inv d) : readAllValues d = .ok (abs d) := by
  obtain ⟨es, tail, hr⟩ := h
  exact (hr.readers 4 (Nat.le_refl 4)).1

/-- the collector's file reader on the bytes returns what `read_all_values()` returns on the handle -/
theorem reader_agrees {d} (h : Inv d) (pageSize : Nat) (hp : 4 ≤ pageSize) :
    (readAllValuesFromFile pageSize (close d)).map (fun items => items.map fun (x : Item) => (x.1, x.2.1, x.2.2.1))
      = readAllValues d := by
  obtain ⟨es, tail, hr⟩ := h
  rw [(hr.readers pageSize hp).1, (hr.readers pageSize hp).2]

/-- close and reopen by a new writer, at any point: same state (indeed the same object), no file effect -/
theorem reopen_preserves {d} (h : Inv d) (initSize : Nat) :
    ∃ d', init initSize (close d) = .ok (d', []) ∧ abs d' = abs d ∧ Inv d' ∧ d' = d := by
  obtain ⟨es, tail, hr⟩ := h
  exact ⟨d, init_reopen hr initSize, rfl, ⟨es, tail, hr⟩, rfl⟩

/-- `read_value` after reopen returns the stored pair of every key -/
theorem read_value_after_reopen {d} (h : Inv d) (initSize : Nat) (k : Key) (v t : UInt64) (hk : (k, v, t) ∈ abs d) :
    ∃ d', init initSize (close d) = .ok (d', []) ∧ readValue d' k = .ok ((v, t), d', []) := by
  obtain ⟨es, tail, hr⟩ := h
  refine ⟨d, init_reopen hr initSize, ?_⟩
  rw [abs_eq hr] at hk
  obtain ⟨e, he, hke⟩ := List.mem_map.mp hk
  cases hke
  obtain ⟨es1, es2, rfl⟩ := List.append_of_mem he
  have hnd := hr.nodup
  rw [keys_append, keys_cons, List.nodup_append] at hnd
  exact readValue_present hr (fun hm => hnd.2.2 _ hm _ List.mem_cons_self rfl)

/-- the doubling loop terminates from any capacity ≥ 1 for any demand, through an increasing chain of capacities, and
ends with room for the entry (the fuel of the model, `need`, always suffices) -/
theorem growth_terminates (cap need : Nat) (h : 1 ≤ cap) :
    ∃ caps, growCaps need cap need = .ok caps ∧ List.Pairwise (· ≤ ·) (cap :: caps) ∧ need ≤ lastCap cap caps :=
  growCaps_ok need cap need h (Nat.le_add_right _ _)

example : growCaps 60 64 60 = .ok [] := rfl
example : growCaps 100 64 100 = .ok [128] := rfl
example : growCaps 1000 64 1000 = .ok [128, 256, 512, 1024] := rfl

/-- every history of a fresh writer runs without error, ends well formed, and all three readers return the spec state
(`reopen` steps included at any point, any number of times; any growth) -/
theorem run_refines (initSize pageSize : Nat) (ops : List Op) (hi : 8 ≤ initSize) (hp : 4 ≤ pageSize) (hf : FitsAll ops) :
    ∃ d tr, run initSize ops = .ok (d, tr) ∧ WF d ∧ abs d = Spec.MmapDict.run [] (ops.map toSpec) ∧
      readAllValues d = .ok (Spec.MmapDict.run [] (ops.map toSpec)) ∧
      (readAllValuesFromFile pageSize (close d)).map (fun items => items.map fun (x : Item) => (x.1, x.2.1, x.2.2.1))
        = .ok (Spec.MmapDict.run [] (ops.map toSpec)) := by
  have hr0 := freshStore_rep initSize hi
  obtain ⟨d, tr, es, tail, hrun, hr, hz, ht, _⟩ := runFrom_ok initSize ops hr0 hf
  have ha : abs d = Spec.MmapDict.run [] (ops.map toSpec) := by rw [abs_eq hr, ht]; rfl
  rw [← ha]
  exact ⟨d, _, run_eq initSize hi hrun, ⟨es, tail, hr, hz (zeroTail_zeros _)⟩, rfl, (hr.readers pageSize hp).1,
    (hr.readers pageSize hp).2⟩

/-! ### what the spec state is: every key once, in first-write order, last value bit for bit -/

theorem spec_keys_first_write_order (ops : List Op) :
    (Spec.MmapDict.run [] (ops.map toSpec)).map (·.1) = ops.foldl opSeen [] ∧
    ((Spec.MmapDict.run [] (ops.map toSpec)).map (·.1)).Nodup := by
  have hnd : ∀ (ops : List Op) (seen : List Key), seen.Nodup → (ops.foldl opSeen seen).Nodup := by
    intro ops
    induction ops with
    | nil => exact fun _ h => h
    | cons op ops ih => exact fun seen h => ih _ (opSeen_nodup h op)
  exact ⟨keys_run ops [], keys_run ops [] ▸ hnd ops [] List.nodup_nil⟩

/-- the value and timestamp a key holds are the last ones written, bit for bit; other keys are untouched -/
theorem spec_last_write_wins (s : Store) (k k' : Key) (v t : UInt64) :
    (s.write k v t).get k = some (v, t) ∧ (k' ≠ k → (s.write k v t).get k' = s.get k') := by
  induction s with
  | nil => exact ⟨by simp [Store.write, Store.get], fun h => by simp [Store.write, Store.get, Ne.symm h]⟩
  | cons e s ih =>
    by_cases h : e.1 = k
    · exact ⟨by simp [Store.write, Store.get, h], fun hne => by simp [Store.write, Store.get, h, Ne.symm hne]⟩
    · refine ⟨by simpa [Store.write, Store.get, h] using ih.1, fun hne => ?_⟩
      have := ih.2 hne
      simp only [Store.get] at this
      simp only [Store.write, h, if_false, Store.get, List.find?_cons]
      cases e.1 == k' with
      | true => rfl
      | false => exact this

/-! ### non-vacuity: a concrete 3-write history over a 64-byte file that crosses a doubling, then reopens and overwrites -/

def demoOps : List Op :=
  [.write ['a'] 1 2, .write ['é', 'x'] 0x7ff8000000000001 0x8000000000000000,
   .write ['k', 'e', 'y', '-', '3'] 5 6, .reopen, .write ['a'] 7 8, .read ['n', 'e', 'w']]

theorem demo_fits : FitsAll demoOps := by unfold FitsAll; decide +kernel

example : ∃ d tr, run 64 demoOps = .ok (d, tr) ∧ WF d ∧
    abs d = [(['a'], 7, 8), (['é', 'x'], 0x7ff8000000000001, 0x8000000000000000), (['k', 'e', 'y', '-', '3'], 5, 6),
             (['n', 'e', 'w'], 0, 0)] := by
  obtain ⟨d, tr, h1, h2, h3, _⟩ := run_refines 64 4096 demoOps (by decide) (by decide) demo_fits
  exact ⟨d, tr, h1, h2, by rw [h3]; decide +kernel⟩

/-- the hypotheses of the step and reader theorems are met by concrete states: the fresh 64-byte store, and the store
after the demo history (four keys, one doubling, a reopen) -/
example : WF (freshStore 64) :=
  ⟨[], _, freshStore_rep 64 (by decide), zeroTail_zeros _⟩

example : Fits (freshStore 64) (.write ['k', 'e', 'y'] 1 2) := by unfold Fits; decide +kernel

example : ∃ d, Inv d ∧ (abs d).length = 4 ∧ readAllValues d = .ok (abs d) ∧
    (∃ d', init 64 (close d) = .ok (d', []) ∧ abs d' = abs d) := by
  obtain ⟨d, tr, _, h2, h3, _⟩ := run_refines 64 4096 demoOps (by decide) (by decide) demo_fits
  obtain ⟨d', hd', ha, _⟩ := reopen_preserves h2.inv 64
  exact ⟨d, h2.inv, by rw [h3]; decide +kernel, read_all_eq_spec h2.inv, d', hd', ha⟩

end PromVerif.Props.C10
