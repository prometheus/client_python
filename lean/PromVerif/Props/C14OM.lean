/-
C14 (OpenMetrics half) — the OpenMetrics parser is total: any input ends in families or ValueError.

Statement of the property for the model: for every input string and every choice of the number parameters
(`int()`, `float()`, comparisons, `math.isnan`, `Timestamp.__float__`, the regex classes), `omParse` returns `.ok` or
`.error .valueError` — never another class, never `timeout` (= the loops terminate).

History: on the snapshot this was false in seven ways (KeyError, TypeError, AttributeError ×3 sites, IndexError ×2
sites, OverflowError), and two of the repairs opened two more (TypeError in `_check_histogram`, OverflowError in
`Timestamp.__float__`); all nine are repaired in /repo (e804336, 979e8ea, 74e3eee, 6c551bc, 007bfee, afb5815, 3aca2ff,
2c736ec, a186a64).  The model follows the repaired code and branches on each guard as extracted from the source, so a
removed guard breaks `om_parser_total` and the corresponding `regress_*` theorem.

What is proved, for every input and every parameter choice:
* `parse_timestamp_total`, `parse_remaining_text_total`, `parse_sample_total`, `parse_labels_om_total`
  (incl. termination of the label loop), `nh_detector_total`, `unquote_unescape_total`: only ValueError escapes from
  the per-line functions; the `parts[1]` IndexError of `_parse_timestamp` is unreachable;
* `group_for_sample_guarded`: the three `del d[...]` KeyError sites are guarded by the label checks of the main loop;
* `om_parser_total`: the whole parser (tokenisation of every line incl. `_parse_nh_sample` / `_parse_nh_struct`, the
  line/family fold, `build_metric`, `_check_histogram`), with no hypothesis on the input.
-/
import PromVerif.Lemmas.OMTotal
import PromVerif.Lemmas.OMFold
import PromVerif.Lemmas.OMToyDoc

namespace PromVerif.Props.C14OM
open PromVerif.Py PromVerif.Model.ParseCore PromVerif.Model.OMParse PromVerif.Generated.OMParse
open PromVerif.Lemmas.OM PromVerif.Lemmas.OMToy

/-- the extractor found every site of the OpenMetrics parser in the shape it understands -/
theorem extract_ok : extractOk = true := by decide

def inRanges (rs : List (Nat × Nat)) (c : Char) : Bool := rs.any (fun r => r.1 ≤ c.toNat && c.toNat ≤ r.2)

/-- the hand-written matchers of `_parse_nh_struct` are exact for the interpreter's classes: `:` is not a `\w`
character, none of `: , ] -` is a `\d` character, and no `\d` character is whitespace -/
theorem regex_classes_exact :
    inRanges reWordRanges ':' = false ∧
    (inRanges reDigitRanges ':' = false ∧ inRanges reDigitRanges ',' = false ∧ inRanges reDigitRanges ']' = false ∧
      inRanges reDigitRanges '-' = false) ∧
    (reDigitRanges.all (fun r => reSpaceRanges.all (fun s => decide (r.2 < s.1 ∨ s.2 < r.1)))) = true := by
  decide +kernel

/-- `_parse_timestamp`: only ValueError, for every text and every `int()` / `float()` -/
theorem parse_timestamp_total (P : Params) (ts : Str) : ∀ e, parseTimestamp P ts = .error e → e = .valueError :=
  parseTimestamp_safe P ts

/-- `parse_labels(s, True)`: only ValueError and the `while sub_labels:` loop terminates (no `timeout`) -/
theorem parse_labels_om_total (legacy : Bool) (s : Str) : ∀ e, parseLabels legacy s true = .error e → e = .valueError :=
  parseLabels_om_safe legacy s

/-- `_parse_remaining_text` (value, timestamp, exemplar state machine): only ValueError -/
theorem parse_remaining_text_total (P : Params) (text : Str) : ∀ e, parseRemainingText P text = .error e → e = .valueError :=
  parseRemainingText_safe P text

/-- `_parse_sample`: only ValueError -/
theorem parse_sample_total (P : Params) (text : Str) : ∀ e, parseSample P text = .error e → e = .valueError :=
  parseSample_safe P text

/-- the native-histogram detector: `None`, a position, or ValueError -/
theorem nh_detector_total (text : Str) : ∀ e, nhDetect text = .error e → e = .valueError :=
  nhDetect_safe text

/-- the `del d['quantile']` / `del d[name]` / `del d['le']` sites of `_group_for_sample` cannot raise once the label
checks of the main loop have passed on a sample that has labels -/
theorem group_for_sample_guarded (P : Params) (n : Str) (typ : Option Str) (s : OSample) (l : Labels)
    (hl : s.labels = some l) (hpre : preChecks P n typ s = .ok ()) : ∃ g, groupForSample s n (typ.getD []) = .ok g :=
  (groupForSample_guarded_some P n typ s l hl hpre).elim fun d hd => ⟨some d, hd⟩

example : (parseTimestamp toyP cs!"1.5").toOption = some (some (.stamp 1 500000000)) := by decide +kernel
example : (parseTimestamp toyP cs!"-1.5").toOption = some (some (.stamp (-1) (-500000000))) := by decide +kernel
example : (parseTimestamp toyP cs!"2e0").toOption = some (some (.flt 5)) := by decide +kernel
example : errOf (parseTimestamp toyP cs!"1.x") = some .valueError := by decide +kernel

/-! ## regressions: the classes found on the unrepaired parser are gone (kernel-evaluated on the model, which
branches on the guards extracted from the source — removing a guard flips its flag in `Generated/OMParse.lean`) -/

/-- 979e8ea: a native-histogram value without a required field is a ValueError (was KeyError) -/
theorem regress_nh_missing_field : errOf (parseDoc "# TYPE a histogram\na {foo:1}\n# EOF\n") = some .valueError := by rw [parseDoc_ofList]; decide +kernel

/-- 74e3eee: a native-histogram sample named `<family>_total` is accepted (was TypeError in `math.isnan(None)`) -/
theorem regress_nh_total :
    isOkDoc "# TYPE a histogram\na_total {count:1,sum:1,schema:1,zero_threshold:1,zero_count:1}\n# EOF\n" = true := by rw [isOkDoc_ofList]; decide +kernel

/-- 74e3eee: … and one named `<family>_gcount` (was AttributeError `None.is_integer`) -/
theorem regress_nh_gcount :
    isOkDoc "# TYPE a histogram\na_gcount {count:1,sum:1,schema:1,zero_threshold:1,zero_count:1}\n# EOF\n" = true := by rw [isOkDoc_ofList]; decide +kernel

/-- 6c551bc: the suffix rule applies to a name given inside the braces (was AttributeError `None.get`) -/
theorem regress_nh_quoted_bucket :
    errOf (parseDoc "# TYPE a histogram\n{\"a_bucket\"} {count:1,sum:1,schema:1,zero_threshold:1,zero_count:1}\n# EOF\n") = some .valueError := by
  rw [parseDoc_ofList]; decide +kernel

/-- 007bfee: a group mixing a `Timestamp` and a float timestamp is compared (was AttributeError) … -/
theorem regress_mixed_timestamps : isOkDoc "a 1 1.5\na 1 2e0\n# EOF\n" = true := by rw [isOkDoc_ofList]; decide +kernel

/-- … in both orders, and going backwards is the ordinary ValueError -/
theorem regress_mixed_timestamps_backwards : errOf (parseDoc "a 1 2e0\na 1 1.5\n# EOF\n") = some .valueError := by rw [parseDoc_ofList]; decide +kernel

/-- afb5815: an integer value too large for a float is accepted (was OverflowError; the toy limit is 10^6) -/
theorem regress_huge_int : isOkDoc "# TYPE a counter\na_total 1000000\n# EOF\n" = true := by rw [isOkDoc_ofList]; decide +kernel

/-- e804336 (F8): a metadata name token made of whitespace other than the space is a ValueError (was IndexError) -/
theorem f8_repaired_metadata : errOf (parseDoc "# HELP \t x\n# EOF\n") = some .valueError := by rw [parseDoc_ofList]; decide +kernel

/-- … and so is a sample whose quoted name is blank -/
theorem f8_repaired_sample_name : errOf (parseDoc "{\" \"} 1\n# EOF\n") = some .valueError := by rw [parseDoc_ofList]; decide +kernel

/-- `_unquote_unescape` is total since the repair -/
theorem unquote_unescape_total (t : Str) : ∀ e, unquoteUnescape t = .error e → e = .valueError :=
  PromVerif.Lemmas.TextTotal.unquoteUnescape_safe_all t

/-- 2c736ec: `_check_histogram` skips native-histogram samples — one named `<family>_gsum` is accepted (was TypeError
from `None < 0`, reachable once 74e3eee let such samples into the list) -/
theorem regress_nh_gsum :
    isOkDoc "# TYPE a histogram\na_gsum {count:1,sum:1,schema:1,zero_threshold:1,zero_count:1}\n# EOF\n" = true := by rw [isOkDoc_ofList]; decide +kernel

/-- a186a64: a `Timestamp` whose seconds do not fit a float is compared by its seconds (was OverflowError in
`Timestamp.__float__`, introduced by 007bfee; the toy limit is 10^6) -/
theorem regress_huge_timestamp : errOf (parseDoc "a 1 1000000\na 1 2e0\n# EOF\n") = some .valueError := by rw [parseDoc_ofList]; decide +kernel

theorem regress_huge_timestamp_forward : isOkDoc "a 1 2e0\na 1 1000000\n# EOF\n" = true := by rw [isOkDoc_ofList]; decide +kernel

/-- bc8d08a (F18): a backslash-escaped quote inside an exemplar label value no longer derails the exemplar state
machine (was ValueError "Invalid line") -/
theorem regress_exemplar_escaped_quote :
    isOkDoc "# TYPE a counter\na_total 1 # {t=\"q\\\"q\"} 1\n# EOF\n" = true := by rw [isOkDoc_ofList]; decide +kernel

/-- 64745db: `-0.5` is not read as `Timestamp(0, 500000000)` any more (the sign was lost); it is left to `float()` -/
theorem regress_neg_zero_timestamp : (parseTimestamp toyP cs!"-0.5").toOption ≠ some (some (.stamp 0 500000000)) := by decide +kernel

/-- **the OpenMetrics parser is total**: for every input string and every choice of the number parameters and regex
classes — `int()`, `float()`, the comparisons, `math.isnan/isinf`, `float.is_integer`, `Timestamp.__float__`, `\w \s
\d` — the model of `list(text_string_to_metric_families(text))` returns families or raises ValueError: no other class,
and no `timeout` (the label loop, the scanners, the regex matchers and the fold terminate within their fuel).
The two hypotheses are interpreter facts about the parameters, not restrictions of the input: `float("NaN")` is a NaN
(the `le` test relies on it), and no `\d` character is whitespace (`_compose_deltas` relies on it;
`regex_classes_exact` checks it on the interpreter's tables).  The proof uses every guard extracted from the source
(`Generated.OMParse.nhStructCatchesKeyError`, `nhSkipsChecks`, `nhSuffixRecheck`, `tsCoerce`, `tsOverflowFallback`,
`histSkipsNh`, `nanGuardsFloat`, and the F8 repair in the shared `unquoteUnescape`): removing one breaks it. -/
theorem om_parser_total (P : Params) (hnan : NaNLiteral P) (hd : DigitsNotSpace P) (text : Str) :
    ∀ e, omParse P text = .error e → e = .valueError :=
  omParse_safe P hnan hd text

/-- termination: the fuel of the model's loops always suffices -/
theorem om_parser_no_timeout (P : Params) (hnan : NaNLiteral P) (hd : DigitsNotSpace P) (text : Str) :
    omParse P text ≠ .error .timeout := by
  intro h
  have := om_parser_total P hnan hd text _ h
  cases this

/-- the two interpreter facts hold for the toy instance (non-vacuity) -/
example : NaNLiteral toyP := by
  intro f h
  have : toyP.pyFloat sNaN = some 0 := by decide
  rw [this] at h; cases h; decide

example : DigitsNotSpace toyP := by
  intro c h
  have h' : c.isDigit = true := h
  simp only [Char.isDigit, Bool.and_eq_true, decide_eq_true_eq] at h'
  obtain ⟨h1, h2⟩ := h'
  have e1 : c.val.toNat = c.toNat := rfl
  have a1 : 48 ≤ c.toNat := by have := UInt32.le_iff_toNat_le.mp h1; simpa [e1] using this
  have a2 : c.toNat ≤ 57 := by have := UInt32.le_iff_toNat_le.mp h2; simpa [e1] using this
  simp only [isPySpace]
  simp
  omega

end PromVerif.Props.C14OM
