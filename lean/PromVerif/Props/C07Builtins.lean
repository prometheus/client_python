/-
C07, continued — the three BUILT-IN custom collectors of the default `REGISTRY` (`GCCollector`, `PlatformCollector`,
`ProcessCollector`) satisfy the precondition `ClaimsCover` of `restricted_is_filter`, and what exactly they yield.

Theorems are about `Model/Builtins.lean` (which constructor calls are made, with which literals, is extracted from the
three source files: `Generated/Builtins.lean`), over EVERY environment reading: any `gc.get_stats()` list, any platform
strings, any outcome of every file access of `ProcessCollector.collect` (value, `OSError`, other exception), any
namespace, legacy validation on or off.

The registry model assumes `collect()` of a registered collector yields the same families at registration (when the
claims are computed under `auto_describe`) and later: a `ProcessCollector` whose `/proc` reads fail at one time and not at
another is outside that assumption (its family NAMES are fixed — `process_collect_exact` — but which of them appear is not).
-/
import PromVerif.Lemmas.Builtins
import PromVerif.Props.C07Families

set_option autoImplicit false

namespace PromVerif.Props.C07Builtins
open PromVerif.Py PromVerif.Model.Families PromVerif.Model.Builtins
open PromVerif.Generated.Builtins PromVerif.Generated.Families
open PromVerif.Model.Registry (Name MType Collector Op SamplesCovered)
open PromVerif.Props.C07Families (FamilyCollector)

variable {α : Type}

/-- the extractor found the three collectors in the expected shape: only `*MetricFamily` constructor calls (of the eight
classes) and `add_metric`, literal names, no `add_sample` -/
theorem extract_ok : PromVerif.Generated.Builtins.extractOk = true := by decide

private def sGeneration : Name := ['g', 'e', 'n', 'e', 'r', 'a', 't', 'i', 'o', 'n']
private def nCollected : Name := ['p', 'y', 't', 'h', 'o', 'n', '_', 'g', 'c', '_', 'o', 'b', 'j', 'e', 'c', 't', 's', '_', 'c', 'o', 'l', 'l', 'e', 'c', 't', 'e', 'd']
private def nUncollectable : Name := ['p', 'y', 't', 'h', 'o', 'n', '_', 'g', 'c', '_', 'o', 'b', 'j', 'e', 'c', 't', 's', '_', 'u', 'n', 'c', 'o', 'l', 'l', 'e', 'c', 't', 'a', 'b', 'l', 'e']
private def nCollections : Name := ['p', 'y', 't', 'h', 'o', 'n', '_', 'g', 'c', '_', 'c', 'o', 'l', 'l', 'e', 'c', 't', 'i', 'o', 'n', 's']
private def kCollected : Name := ['c', 'o', 'l', 'l', 'e', 'c', 't', 'e', 'd']
private def kUncollectable : Name := ['u', 'n', 'c', 'o', 'l', 'l', 'e', 'c', 't', 'a', 'b', 'l', 'e']
private def kCollections : Name := ['c', 'o', 'l', 'l', 'e', 'c', 't', 'i', 'o', 'n', 's']
private def sTotal : Name := ['_', 't', 'o', 't', 'a', 'l']
private def nPythonInfo : Name := ['p', 'y', 't', 'h', 'o', 'n', '_', 'i', 'n', 'f', 'o']
private def kVersion : Name := ['v', 'e', 'r', 's', 'i', 'o', 'n']
private def kImplementation : Name := ['i', 'm', 'p', 'l', 'e', 'm', 'e', 'n', 't', 'a', 't', 'i', 'o', 'n']
private def kMajor : Name := ['m', 'a', 'j', 'o', 'r']
private def kMinor : Name := ['m', 'i', 'n', 'o', 'r']
private def kPatchlevel : Name := ['p', 'a', 't', 'c', 'h', 'l', 'e', 'v', 'e', 'l']
private def kJvmVersion : Name := ['j', 'v', 'm', '_', 'v', 'e', 'r', 's', 'i', 'o', 'n']
private def kJvmRelease : Name := ['j', 'v', 'm', '_', 'r', 'e', 'l', 'e', 'a', 's', 'e']
private def kJvmVendor : Name := ['j', 'v', 'm', '_', 'v', 'e', 'n', 'd', 'o', 'r']
private def kJvmName : Name := ['j', 'v', 'm', '_', 'n', 'a', 'm', 'e']
private def sVmem : Name := ['v', 'i', 'r', 't', 'u', 'a', 'l', '_', 'm', 'e', 'm', 'o', 'r', 'y', '_', 'b', 'y', 't', 'e', 's']
private def sRss : Name := ['r', 'e', 's', 'i', 'd', 'e', 'n', 't', '_', 'm', 'e', 'm', 'o', 'r', 'y', '_', 'b', 'y', 't', 'e', 's']
private def sStart : Name := ['s', 't', 'a', 'r', 't', '_', 't', 'i', 'm', 'e', '_', 's', 'e', 'c', 'o', 'n', 'd', 's']
private def sCpu : Name := ['c', 'p', 'u', '_', 's', 'e', 'c', 'o', 'n', 'd', 's']
private def sOpenFds : Name := ['o', 'p', 'e', 'n', '_', 'f', 'd', 's']
private def sMaxFds : Name := ['m', 'a', 'x', '_', 'f', 'd', 's']
private def vVmem : Name := ['v', 'm', 'e', 'm']
private def vRss : Name := ['r', 's', 's']
private def vStart : Name := ['s', 't', 'a', 'r', 't', '_', 't', 'i', 'm', 'e']
private def vCpu : Name := ['c', 'p', 'u']
private def sProcess : Name := ['p', 'r', 'o', 'c', 'e', 's', 's', '_']
private def sNsProcess : Name := ['_', 'p', 'r', 'o', 'c', 'e', 's', 's', '_']

/-- the families of the first `try` (from `<pid>/stat`), for the prefix `pfx` -/
def statFams (pfx : Name) (vals : Name → α) : List (Fam α) :=
  [gaugeValueFam (pfx ++ sVmem) (processStatSites.getD 0 default).doc (vals vVmem),
   gaugeValueFam (pfx ++ sRss) (processStatSites.getD 1 default).doc (vals vRss),
   gaugeValueFam (pfx ++ sStart) (processStatSites.getD 2 default).doc (vals vStart),
   counterValueFam (pfx ++ sCpu) (processStatSites.getD 3 default).doc (vals vCpu)]

/-- the families of the second `try` (from `<pid>/limits` and `<pid>/fd`) -/
def fdFams (pfx : Name) (maxFds openFds : α) : List (Fam α) :=
  [gaugeValueFam (pfx ++ sOpenFds) (processFdSites.getD 1 default).doc openFds,
   gaugeValueFam (pfx ++ sMaxFds) (processFdSites.getD 0 default).doc maxFds]

private theorem tryOSError_ok {b : Except BErr (List (Fam α))} {r : List (Fam α)} (h : tryOSError b = .ok r) :
    r = [] ∨ b = .ok r := by
  unfold tryOSError at h
  split at h
  · split at h
    · cases h; exact Or.inl rfl
    · cases h
  · exact Or.inr h

private theorem try_valueError_ne_ok {r : List (Fam α)} : tryOSError (.error (.py .valueError)) ≠ .ok r :=
  fun h => nomatch h

private theorem cpu_name (pfx : Name) : counterName (siteName (processStatSites.getD 3 default) pfx) = pfx ++ sCpu := by
  have : siteName (processStatSites.getD 3 default) pfx = (pfx ++ sCpu) ++ counterStrip := by
    rw [List.append_assoc]; rfl
  rw [this, counterName_total]

/-- what the first `try` statement leaves in `result` when `collect()` goes on: nothing after a swallowed `OSError`;
with `<pid>/stat` read, the four families — a constructor's `ValueError` (the namespace makes an invalid metric name)
is not swallowed, and the body raises no `OSError` of its own -/
private theorem try_stat_ok {env : Env} {pfx : Name} {st : PyM (Name → α)} {r : List (Fam α)}
    (h : tryOSError (statBody env pfx st) = .ok r) :
    ((r = [] ∧ ∃ e, st = .error e) ∨ ∃ vals, st = .ok vals ∧ r = statFams pfx vals) ∧ ∀ f, f ∈ r → Built env f := by
  cases st with
  | error e =>
    rcases tryOSError_ok h with rfl | hb
    · exact ⟨.inl ⟨rfl, e, rfl⟩, fun _ hf => nomatch hf⟩
    · cases hb
  | ok vals =>
    have h3 := build_counter_value env (processStatSites.getD 3 default) pfx (vals vCpu) rfl
    rw [cpu_name] at h3
    have hm : mapE (fun s => build env s pfx none (some (vals s.key)) []) processStatSites = .ok (statFams pfx vals) ∨
        mapE (fun s => build env s pfx none (some (vals s.key)) []) processStatSites = .error .valueError :=
      mapE_cons_cases (build_gauge_value env (processStatSites.getD 0 default) pfx (vals vVmem) rfl)
        (mapE_cons_cases (build_gauge_value env (processStatSites.getD 1 default) pfx (vals vRss) rfl)
          (mapE_cons_cases (build_gauge_value env (processStatSites.getD 2 default) pfx (vals vStart) rfl)
            (mapE_cons_cases h3 (.inl rfl))))
    unfold statBody at h
    dsimp only at h
    rcases hm with hm | hm
    · rw [hm] at h
      cases h
      exact ⟨.inr ⟨vals, rfl, rfl⟩, fun f hf => by obtain ⟨s, _, hs⟩ := mapE_ok_mem _ _ _ hm f hf; exact build_built hs⟩
    · rw [hm] at h
      exact absurd h try_valueError_ne_ok

/-- … and the second: nothing after an `OSError` on `limits` or on listing `fd`; with both read, the two families —
when no `Max open file` line was found `max_fds` was never bound and `UnboundLocalError` leaves `collect()`, as does a
constructor's `ValueError` -/
private theorem try_fd_ok {env : Env} {pfx : Name} {lim : PyM (Option α)} {fds : PyM α} {r : List (Fam α)}
    (h : tryOSError (fdBody env pfx lim fds) = .ok r) :
    ((r = [] ∧ ((∃ e, lim = .error e) ∨ ∃ l e, lim = .ok l ∧ fds = .error e)) ∨
      ∃ m n, lim = .ok (some m) ∧ fds = .ok n ∧ r = fdFams pfx m n) ∧ ∀ f, f ∈ r → Built env f := by
  cases lim with
  | error e =>
    rcases tryOSError_ok h with rfl | hb
    · exact ⟨.inl ⟨rfl, .inl ⟨e, rfl⟩⟩, fun _ hf => nomatch hf⟩
    · cases hb
  | ok lim =>
    cases fds with
    | error e =>
      rcases tryOSError_ok h with rfl | hb
      · exact ⟨.inl ⟨rfl, .inr ⟨lim, e, rfl, rfl⟩⟩, fun _ hf => nomatch hf⟩
      · unfold fdBody at hb
        dsimp only at hb
        split at hb
        · cases hb
        · cases hb
    | ok n =>
      have hopen := build_gauge_value env (processFdSites.getD 1 default) pfx n rfl
      unfold fdBody at h
      dsimp only at h
      cases lim with
      | none =>
        rcases hopen with h1 | h1
        · rw [h1] at h; cases h
        · rw [h1] at h; exact absurd h try_valueError_ne_ok
      | some m =>
        dsimp only at h
        rcases build_gauge_value env (processFdSites.getD 0 default) pfx m rfl with h0 | h0
        · rcases hopen with h1 | h1
          · rw [h0, h1] at h
            cases h
            refine ⟨.inr ⟨m, n, rfl, rfl, rfl⟩, fun f hf => ?_⟩
            rcases List.mem_cons.1 hf with rfl | hf
            · exact build_built h1
            · cases List.mem_singleton.1 hf
              exact build_built h0
          · rw [h0, h1] at h
            exact absurd h try_valueError_ne_ok
        · rw [h0] at h
          exact absurd h try_valueError_ne_ok

/-- `/proc` unavailable at construction (`_btime` falsy): `collect()` returns `[]`, whatever the reads would give -/
theorem process_unavailable (env : Env) (p : ProcEnv α) (h : p.btime = false) : processCollect env p = .ok [] := by
  unfold processCollect
  rw [h]
  rfl

private theorem processCollect_eq (env : Env) (p : ProcEnv α) (hb : p.btime = true) :
    processCollect env p = (tryOSError (statBody env (prefixOf p.ns) p.stat)).bind fun r1 =>
      (tryOSError (fdBody env (prefixOf p.ns) p.limits p.fds)).map (r1 ++ ·) := by
  unfold processCollect
  rw [hb, Bool.not_true, if_neg Bool.false_ne_true]
  cases tryOSError (statBody env (prefixOf p.ns) p.stat) with
  | error e => rfl
  | ok r1 =>
    cases tryOSError (fdBody env (prefixOf p.ns) p.limits p.fds) with
    | error e => rfl
    | ok r2 => rfl

private theorem processCollect_ok {env : Env} {p : ProcEnv α} {fams : List (Fam α)} (hb : p.btime = true)
    (h : processCollect env p = .ok fams) :
    ∃ r1 r2, tryOSError (statBody env (prefixOf p.ns) p.stat) = .ok r1 ∧
      tryOSError (fdBody env (prefixOf p.ns) p.limits p.fds) = .ok r2 ∧ fams = r1 ++ r2 := by
  rw [processCollect_eq env p hb] at h
  cases h1 : tryOSError (statBody env (prefixOf p.ns) p.stat) with
  | error e => rw [h1] at h; cases h
  | ok r1 =>
    cases h2 : tryOSError (fdBody env (prefixOf p.ns) p.limits p.fds) with
    | error e => rw [h1, h2] at h; cases h
    | ok r2 => rw [h1, h2] at h; cases h; exact ⟨r1, r2, rfl, rfl, rfl⟩

/-- `fams` is what `collect()` of one of the three built-in collectors returns, for some environment -/
inductive Yields {α : Type} (env : Env) : List (Fam α) → Prop
  | gc (stats : List (Name → α)) (fams : List (Fam α)) (h : gcCollect env stats = .ok fams) : Yields env fams
  | platform (ofNat : Nat → α) (p : PlatformEnv) (metrics : List (Fam α)) (h : platformInit env ofNat p = .ok metrics) :
      Yields env (platformCollect metrics)
  | process (p : ProcEnv α) (fams : List (Fam α)) (h : processCollect env p = .ok fams) : Yields env fams

/-- **Every family a built-in collector yields is constructed by a modelled `*MetricFamily` constructor** (and
`add_metric` calls): for every environment in which `collect()` returns. -/
theorem builtin_families_built (env : Env) (fams : List (Fam α)) (h : Yields env fams) : ∀ f, f ∈ fams → Built env f := by
  intro f hf
  cases h with
  | gc stats _ h =>
    unfold gcCollect at h
    split at h
    · cases h
    · next fams0 hm =>
      obtain ⟨g, hg, hgf⟩ := List.mem_map.1 (pick_mem _ _ _ h f hf)
      cases hgf
      obtain ⟨s, _, hs⟩ := mapE_ok_mem _ _ _ hm f hg
      exact build_built hs
  | platform ofNat p metrics h =>
    unfold platformInit at h
    split at h
    · cases h
    · next g hg =>
      cases h
      cases List.mem_singleton.1 hf
      exact build_built hg
  | process p _ h =>
    cases hb : p.btime with
    | false =>
      rw [process_unavailable env p hb] at h
      cases h
      cases hf
    | true =>
      obtain ⟨r1, r2, h1, h2, rfl⟩ := processCollect_ok hb h
      rcases List.mem_append.1 hf with hf | hf
      · exact (try_stat_ok h1).2 f hf
      · exact (try_fd_ok h2).2 f hf

/-- a registered built-in collector: no `describe()` (none of the three classes defines one), `collect()` as modelled -/
def BuiltinCollector (env : Env) (c : Collector) : Prop :=
  c.describe = none ∧ ∃ (α : Type) (fams : List (Fam α)), Yields env fams ∧ c.families = fams.map toFamily

/-- **`ClaimsCover` holds for the three built-in collectors under `auto_describe`** (the default `REGISTRY` is
`CollectorRegistry(auto_describe=True)`): every sample name they emit is among the names `_get_names` records. -/
theorem builtin_collectors_claims_cover (env : Env) (c : Collector) (h : BuiltinCollector env c) :
    FamilyCollector env true c ∧ SamplesCovered true c := by
  obtain ⟨hd, β, fams, hy, hc⟩ := h
  have hf : FamilyCollector env true c := ⟨β, fams, builtin_families_built env fams hy, hc, Or.inl ⟨hd, rfl⟩⟩
  exact ⟨hf, hf.covered⟩

/-- **The filter theorem applies to the default registry's content without hypothesis**: after any history of an
auto-describing registry whose registered collectors are built-in collectors, collectors written against the family
constructors, or any other collector covering its claims (every built-in metric class does:
`C07.builtin_claims_cover`), `restricted_registry(names).collect()` is the per-sample-name filter of `collect()`. -/
theorem restricted_is_filter_default_registry (env : Env) (ti : Option PromVerif.Model.Registry.Labels)
    (ops : List Op) (names : List Name)
    (h : ∀ c, Op.register c ∈ ops → BuiltinCollector env c ∨ FamilyCollector env true c ∨ SamplesCovered true c) :
    (PromVerif.Model.Registry.restrictedCollect names (PromVerif.Model.Registry.run (PromVerif.Model.Registry.init true ti) ops).1).families.Perm
      ((PromVerif.Model.Registry.collect (PromVerif.Model.Registry.run (PromVerif.Model.Registry.init true ti) ops).1).families.filterMap
        (PromVerif.Spec.Registry.restrictTo names)) := by
  refine PromVerif.Props.C07.restricted_is_filter_covered true ti ops names ?_
  intro c hc
  rcases h c hc with hb | hf | hs
  · exact (builtin_collectors_claims_cover env c hb).2
  · exact hf.covered
  · exact hs

/-- one family of the gc collector: a counter named `n` with label `generation`, one `<n>_total` sample per generation
labelled `generation=str(i)`, carrying `stat[key]` -/
def gcFam (n d key : Name) (stats : List (Name → α)) : Fam α :=
  { cls := .counter, name := n, documentation := d, typ := .counter, unit := [], labelnames := [sGeneration],
    samples := stats.zipIdx.map fun sg => ⟨n ++ sTotal, [(sGeneration, natStr sg.2)], .obj (sg.1 key), none, none⟩ }

private theorem gcFamily_exact (env : Env) (stats : List (Name → α)) (s : Site) (hcls : s.cls = 1)
    (hp : s.prefixed = false) (hl : s.labels = some [sGeneration]) (hn : counterName s.name = s.name)
    (hv : PromVerif.Model.Validation.validateMetricName env.legacy s.name = .ok ()) :
    gcFamily env stats s = .ok (gcFam s.name s.doc s.key stats) := by
  have hname : ctorName .counter (siteName s []) = s.name := by
    unfold siteName
    rw [hp]
    exact hn
  unfold gcFamily
  rw [build_eq env s [] s.labels none _ .counter (by rw [hcls]; rfl) (.inr (.inl rfl)) (Bool.and_false _), hname]
  unfold validated
  rw [hv, hl]
  show Except.ok (⟨_, _, _, _, _, List.map _ (List.map _ _), _⟩ : Fam α) = _
  rw [List.map_map]
  rfl

/-- **`GCCollector.collect()`**: for every `gc.get_stats()` list (any number of generations) exactly the three counter
families `python_gc_objects_collected`, `python_gc_objects_uncollectable`, `python_gc_collections`, in this order, each
with one `<name>_total` sample per generation labelled `generation="0"`, `"1"`, … carrying that generation's
`collected` / `uncollectable` / `collections` entry; it never raises. -/
theorem gc_collect_exact (env : Env) (stats : List (Name → α)) :
    gcCollect env stats = .ok
      [gcFam nCollected (gcSites.getD 0 default).doc kCollected stats,
       gcFam nUncollectable (gcSites.getD 1 default).doc kUncollectable stats,
       gcFam nCollections (gcSites.getD 2 default).doc kCollections stats] := by
  have h0 := gcFamily_exact env stats (gcSites.getD 0 default) rfl rfl rfl rfl (validate_of_isOk (by decide +kernel) _)
  have h1 := gcFamily_exact env stats (gcSites.getD 1 default) rfl rfl rfl rfl (validate_of_isOk (by decide +kernel) _)
  have h2 := gcFamily_exact env stats (gcSites.getD 2 default) rfl rfl rfl rfl (validate_of_isOk (by decide +kernel) _)
  have hm : mapE (gcFamily env stats) gcSites = .ok [_, _, _] := mapE_ok_cons h0 (mapE_ok_cons h1 (mapE_ok_cons h2 rfl))
  unfold gcCollect
  rw [hm]
  rfl

private def exEnv : Env := ⟨true, fun _ => some true⟩

/-- two generations: `[{collected: 10, uncollectable: 0, collections: 3}, {collected: 7, …: 1, …: 2}]` -/
private def exStats : List (Name → Nat) :=
  [fun k => if k = kCollected then 10 else if k = kUncollectable then 0 else 3,
   fun k => if k = kCollected then 7 else if k = kUncollectable then 1 else 2]

example : ((gcFam nCollected [] kCollected exStats).samples.map fun s => (s.name, s.labels, s.value)) =
    [(nCollected ++ sTotal, [(sGeneration, ['0'])], .obj 10), (nCollected ++ sTotal, [(sGeneration, ['1'])], .obj 7)] := by
  decide +kernel

example : ∃ fams, gcCollect exEnv exStats = .ok fams ∧ fams.map (·.name) = [nCollected, nUncollectable, nCollections] ∧
    fams.map (fun f => f.samples.length) = [2, 2, 2] :=
  ⟨_, gc_collect_exact exEnv exStats, by decide +kernel, by decide +kernel⟩

/-- the `python_info` family: a GAUGE (not an info family) named `python_info` whose label names are the keys and whose one
sample, value `1`, carries the key/value pairs -/
def pythonInfoFam (doc : Name) (one : α) (data : List (Name × Name)) : Fam α :=
  { cls := .gauge, name := nPythonInfo, documentation := doc, typ := .gauge, unit := [],
    labelnames := data.map Prod.fst, samples := [⟨nPythonInfo, data, .obj one, none, none⟩] }

/-- the keys of the two dict literals of `_info()` and `_java()` are distinct: `info.update(...)` only appends -/
private theorem platformKeys_nodup : (platformInfoKeys ++ platformJavaKeys).Nodup := by decide +kernel

private theorem map_fst_pair (f : Name → Name) (l : List Name) : (l.map fun k => (k, f k)).map Prod.fst = l := by
  rw [List.map_map]
  exact List.map_id l

/-- the `_info()` entries in the order of the dict literal, then (on Jython) those of `_java()` -/
private theorem platformData_eq (p : PlatformEnv) :
    platformData p = (platformInfoKeys.map fun k => (k, p.info k)) ++
      (match p.java with
       | none => []
       | some j => platformJavaKeys.map fun k => (k, j k)) := by
  unfold platformData
  dsimp only
  rw [mkDict_of_nodup _ (by rw [map_fst_pair]; exact (List.nodup_append.1 platformKeys_nodup).1)]
  cases p.java with
  | none => exact (List.append_nil _).symm
  | some j =>
    refine foldl_dSet_nodup _ _ ?_
    rw [List.map_append, map_fst_pair, map_fst_pair]
    exact platformKeys_nodup

private theorem platformData_nodup (p : PlatformEnv) : ((platformData p).map Prod.fst).Nodup := by
  rw [platformData_eq, List.map_append, map_fst_pair]
  cases p.java with
  | none => rw [List.map_nil, List.append_nil]; exact (List.nodup_append.1 platformKeys_nodup).1
  | some j => rw [map_fst_pair]; exact platformKeys_nodup

private theorem pythonInfoFam_eq (doc : Name) (one : α) (data : List (Name × Name)) (hn : (data.map Prod.fst).Nodup) :
    simpleFam .gauge nPythonInfo doc (data.map Prod.fst) [(data.map Prod.snd, one)] = pythonInfoFam doc one data := by
  have hz : zipDict (data.map Prod.fst) (data.map Prod.snd) = data := by
    have hzip := List.zip_unzip data
    rw [List.unzip_eq_map] at hzip
    unfold zipDict
    rw [hzip, mkDict_of_nodup _ hn]
  show (⟨.gauge, nPythonInfo, doc, .gauge, [], [⟨nPythonInfo, zipDict (data.map Prod.fst) (data.map Prod.snd), .obj one,
    none, none⟩], data.map Prod.fst⟩ : Fam α) = _
  rw [hz]
  rfl

private theorem platform_exact (env : Env) (ofNat : Nat → α) (p : PlatformEnv) :
    platformInit env ofNat p = .ok [pythonInfoFam platformSite.doc (ofNat 1) (platformData p)] := by
  have hv : PromVerif.Model.Validation.validateMetricName env.legacy (ctorName .gauge (siteName platformSite [])) = .ok () :=
    validate_of_isOk (n := nPythonInfo) (by decide +kernel) _
  unfold platformInit
  rw [build_eq env platformSite [] _ none _ .gauge rfl (.inr (.inr rfl)) (Bool.and_false _)]
  unfold validated
  rw [hv]
  exact congrArg (fun g => Except.ok [g]) (pythonInfoFam_eq _ _ _ (platformData_nodup p))

/-- **`PlatformCollector`** (system is not `"Java"`): for every answer of the platform object, `collect()` returns one
gauge family `python_info` with the label names `version, implementation, major, minor, patchlevel` and ONE sample
`python_info{version=…, implementation=…, major=…, minor=…, patchlevel=…} 1`. -/
theorem platform_python_info (env : Env) (ofNat : Nat → α) (p : PlatformEnv) (hj : p.java = none) :
    platformInit env ofNat p = .ok [pythonInfoFam platformSite.doc (ofNat 1)
      [(kVersion, p.info kVersion), (kImplementation, p.info kImplementation), (kMajor, p.info kMajor),
       (kMinor, p.info kMinor), (kPatchlevel, p.info kPatchlevel)]] := by
  rw [platform_exact, platformData_eq, hj]
  rfl

/-- … and on Jython (`system() == "Java"`) the four `jvm_*` labels follow. -/
theorem platform_python_info_java (env : Env) (ofNat : Nat → α) (p : PlatformEnv) (j : Name → Name)
    (hj : p.java = some j) :
    platformInit env ofNat p = .ok [pythonInfoFam platformSite.doc (ofNat 1)
      [(kVersion, p.info kVersion), (kImplementation, p.info kImplementation), (kMajor, p.info kMajor),
       (kMinor, p.info kMinor), (kPatchlevel, p.info kPatchlevel), (kJvmVersion, j kJvmVersion),
       (kJvmRelease, j kJvmRelease), (kJvmVendor, j kJvmVendor), (kJvmName, j kJvmName)]] := by
  rw [platform_exact, platformData_eq, hj]
  rfl

private def exPlatform : PlatformEnv :=
  ⟨fun k => if k = kVersion then ['3', '.', '1', '2'] else if k = kMajor then ['3'] else ['x'], none⟩

example : ∃ f, (platformInit exEnv (fun n => n) exPlatform) = .ok [f] ∧ f.typ = .gauge ∧
    f.samples.map (fun s => (s.name, s.labels.map Prod.fst, s.value)) =
      [(nPythonInfo, [kVersion, kImplementation, kMajor, kMinor, kPatchlevel], .obj 1)] :=
  ⟨_, platform_python_info exEnv (fun n => n) exPlatform rfl, by decide +kernel, by decide +kernel⟩

/-- `process_` or `<namespace>_process_` -/
def processPrefix (ns : Name) : Name := if ns.isEmpty then sProcess else ns ++ sNsProcess

private theorem mapE_cons_ok {β γ ε : Type} {f : β → Except ε γ} {b : β} {bs : List β} {r : List γ}
    (h : mapE f (b :: bs) = .ok r) : ∃ c cs, f b = .ok c ∧ mapE f bs = .ok cs ∧ r = c :: cs :=
  mapE_cons_eq_ok h

/-- **`ProcessCollector.collect()`, whenever it returns**: nothing when `/proc` was not readable at construction
(`_btime` is 0); otherwise `process_virtual_memory_bytes`, `process_resident_memory_bytes`,
`process_start_time_seconds` (gauges) and `process_cpu_seconds` (counter, sample `process_cpu_seconds_total`) exactly when
`<pid>/stat` could be read — all four or none —, followed by `process_open_fds`, `process_max_fds` (gauges, in this
order) exactly when `<pid>/limits` and `<pid>/fd` could both be read — both or none.  Every family carries one
label-less sample with the value read; with a namespace EVERY name starts with `<namespace>_process_`.
An `OSError` of a read drops exactly the families of ITS `try` statement: what the other statement computed is still
returned (a failing `limits` keeps the four `stat` families; a failing `stat` still yields the two fd families). -/
theorem process_collect_exact (env : Env) (p : ProcEnv α) (fams : List (Fam α)) (h : processCollect env p = .ok fams) :
    fams =
      if p.btime then
        (match p.stat with
         | .ok vals => statFams (prefixOf p.ns) vals
         | .error _ => []) ++
        (match p.limits, p.fds with
         | .ok (some m), .ok n => fdFams (prefixOf p.ns) m n
         | _, _ => [])
      else [] := by
  cases hb : p.btime with
  | false =>
    rw [process_unavailable env p hb] at h
    cases h
    rfl
  | true =>
    obtain ⟨r1, r2, h1, h2, rfl⟩ := processCollect_ok hb h
    rw [if_pos rfl]
    congr 1
    · rcases (try_stat_ok h1).1 with ⟨rfl, e, hs⟩ | ⟨vals, hs, rfl⟩
      · rw [hs]
      · rw [hs]
    · rcases (try_fd_ok h2).1 with ⟨rfl, ⟨e, hl⟩ | ⟨l, e, hl, hf⟩⟩ | ⟨m, n, hl, hf, rfl⟩
      · rw [hl]
      · rw [hl, hf]
        cases l <;> rfl
      · rw [hl, hf]

/-- `ProcessCollector(namespace='ns')`: `stat` readable (values 1, 2, 3, 4 by variable), `limits` missing (`FileNotFoundError`) -/
private def exProc : ProcEnv Nat :=
  { ns := ['n', 's'], btime := true,
    stat := .ok fun k => if k = vVmem then 1 else if k = vRss then 2 else if k = vStart then 3 else 4,
    limits := .error .fileNotFound, fds := .ok 5 }

-- the failing `limits` read drops the two fd families and keeps the four of `stat`, all prefixed `ns_process_`
example : ∃ fams, processCollect exEnv exProc = .ok fams ∧
    fams.map (fun f => (f.name, f.typ, f.samples.map fun s => (s.name, s.value))) =
      [(['n', 's', '_', 'p', 'r', 'o', 'c', 'e', 's', 's', '_', 'v', 'i', 'r', 't', 'u', 'a', 'l', '_', 'm', 'e', 'm', 'o', 'r', 'y', '_', 'b', 'y', 't', 'e', 's'], .gauge, [(['n', 's', '_', 'p', 'r', 'o', 'c', 'e', 's', 's', '_', 'v', 'i', 'r', 't', 'u', 'a', 'l', '_', 'm', 'e', 'm', 'o', 'r', 'y', '_', 'b', 'y', 't', 'e', 's'], .obj 1)]),
       (['n', 's', '_', 'p', 'r', 'o', 'c', 'e', 's', 's', '_', 'r', 'e', 's', 'i', 'd', 'e', 'n', 't', '_', 'm', 'e', 'm', 'o', 'r', 'y', '_', 'b', 'y', 't', 'e', 's'], .gauge, [(['n', 's', '_', 'p', 'r', 'o', 'c', 'e', 's', 's', '_', 'r', 'e', 's', 'i', 'd', 'e', 'n', 't', '_', 'm', 'e', 'm', 'o', 'r', 'y', '_', 'b', 'y', 't', 'e', 's'], .obj 2)]),
       (['n', 's', '_', 'p', 'r', 'o', 'c', 'e', 's', 's', '_', 's', 't', 'a', 'r', 't', '_', 't', 'i', 'm', 'e', '_', 's', 'e', 'c', 'o', 'n', 'd', 's'], .gauge, [(['n', 's', '_', 'p', 'r', 'o', 'c', 'e', 's', 's', '_', 's', 't', 'a', 'r', 't', '_', 't', 'i', 'm', 'e', '_', 's', 'e', 'c', 'o', 'n', 'd', 's'], .obj 3)]),
       (['n', 's', '_', 'p', 'r', 'o', 'c', 'e', 's', 's', '_', 'c', 'p', 'u', '_', 's', 'e', 'c', 'o', 'n', 'd', 's'], .counter, [(['n', 's', '_', 'p', 'r', 'o', 'c', 'e', 's', 's', '_', 'c', 'p', 'u', '_', 's', 'e', 'c', 'o', 'n', 'd', 's', '_', 't', 'o', 't', 'a', 'l'], .obj 4)])] := by
  exact exists_ok_of_isOk (by decide +kernel) fun fams h => by rw [process_collect_exact _ _ fams h]; decide +kernel

-- everything readable, no namespace: six families, `open_fds` before `max_fds`
example : ∃ fams, processCollect exEnv { exProc with ns := [], limits := .ok (some 9) } = .ok fams ∧
    fams.map (·.name) = [sProcess ++ sVmem, sProcess ++ sRss, sProcess ++ sStart, sProcess ++ sCpu, sProcess ++ sOpenFds,
      sProcess ++ sMaxFds] := by
  exact exists_ok_of_isOk (by decide +kernel) fun fams h => by rw [process_collect_exact _ _ fams h]; decide +kernel

/-- the prefix is the extracted one -/
theorem process_prefix (ns : Name) : prefixOf ns = processPrefix ns := rfl

/-- **A failing read yields exactly what the other `try` statement computes.**  An `OSError` while reading
`<pid>/stat` is swallowed: `collect()` goes on and returns (only) the fd families — or raises what the second
statement raises. -/
theorem process_stat_oserror (env : Env) (p : ProcEnv α) (e : PyErr) (hb : p.btime = true) (hs : p.stat = .error e)
    (hc : caught e = true) :
    processCollect env p =
      (match tryOSError (fdBody env (prefixOf p.ns) p.limits p.fds) with
       | .error e => .error e
       | .ok r2 => .ok r2) := by
  have h1 : tryOSError (statBody env (prefixOf p.ns) (.error e : PyM (Name → α))) = .ok [] := if_pos hc
  rw [processCollect_eq env p hb, hs, h1]
  cases tryOSError (fdBody env (prefixOf p.ns) p.limits p.fds) with
  | error e => rfl
  | ok r => rfl

/-- an `OSError` on `limits`, or on listing `fd` after `limits` was scanned without a `Max open file` line (`max_fds`
unbound), keeps exactly the families the first `try` computed -/
theorem process_fd_oserror (env : Env) (p : ProcEnv α) (e : PyErr) (hb : p.btime = true) (hc : caught e = true)
    (hl : p.limits = .error e ∨ (p.limits = .ok none ∧ p.fds = .error e)) :
    processCollect env p = tryOSError (statBody env (prefixOf p.ns) p.stat) := by
  have h2 : tryOSError (fdBody env (prefixOf p.ns) p.limits p.fds) = .ok [] := by
    rcases hl with hl | ⟨hl, hf⟩
    · rw [hl]; exact if_pos hc
    · rw [hl, hf]; exact if_pos hc
  rw [processCollect_eq env p hb, h2]
  cases tryOSError (statBody env (prefixOf p.ns) p.stat) with
  | error e => rfl
  | ok r => exact congrArg Except.ok (List.append_nil r)

/-- any other exception of a read (`ValueError` / `IndexError` from `float(parts[20])` on a corrupt `stat`, …) is NOT
swallowed: it leaves `collect()` and nothing is returned -/
theorem process_other_exception_propagates (env : Env) (p : ProcEnv α) (e : PyErr) (hb : p.btime = true)
    (hs : p.stat = .error e) (hc : caught e = false) : processCollect env p = .error (.py e) := by
  have h1 : tryOSError (statBody env (prefixOf p.ns) (.error e : PyM (Name → α))) = .error (.py e) :=
    if_neg (by rw [hc]; exact Bool.false_ne_true)
  rw [processCollect_eq env p hb, hs, h1]
  rfl

/-- **Observation (the code as it is)**: when `limits` is readable but has no `Max open file` line, `max_fds` is never
bound and `result.extend([open_fds, max_fds])` raises `UnboundLocalError` — not an `OSError`, so `collect()` raises
although the four `stat` families were computed. -/
theorem process_no_limit_line_unbound_local :
    processCollect exEnv { exProc with limits := .ok none } = .error .unboundLocal := by rfl

end PromVerif.Props.C07Builtins
