/-
C13 — float rendering is exact, injective and canonical.

`floatToGoString` rewrites the text produced by `repr`.  These theorems quantify over every text in
the `repr` grammar (digit strings of unbounded length); the IEEE facts they are combined with
(`float(repr d) = d`, `float` depends only on the denoted value) are in the trusted base and are
re-validated by the harness on every generated double.
-/
import PromVerif.Model.Utils
import PromVerif.Spec.Decimal
import PromVerif.Lemmas.Decimal

namespace PromVerif.Props.C13
open PromVerif.Py PromVerif.Spec PromVerif.Model.Utils PromVerif.Generated.Utils

/-- the extractor found every site of `floatToGoString` in the shape it understands -/
theorem extract_ok : extractOk = true := by decide

/-- `I.F` as printed by `repr` for a finite double in [1e-4, 1e16): digits, non-empty, no leading zero -/
structure PlainRepr (I F : List Char) : Prop where
  idig : allDigits I = true
  fdig : allDigits F = true
  ine : I ≠ []
  fne : F ≠ []
  nolead : I.head? = some '0' → I = ['0']

/-- exponent form `D[.F]e[+-]DD+` -/
structure ExpRepr (s : List Char) : Prop where
  shape : ∃ (d : Char) (F ex : List Char), isDigit d = true ∧ allDigits F = true ∧ '.' ∉ ex ∧
    (s = d :: 'e' :: ex ∨ s = d :: '.' :: F ++ 'e' :: ex)

private theorem digit_facts {c : Char} (h : isDigit c = true) :
    c ≠ '.' ∧ c ≠ 'e' ∧ c ≠ '-' ∧ c ≠ 'i' ∧ c ≠ 'n' ∧ c ≠ '+' := by
  refine ⟨?_, ?_, ?_, ?_, ?_, ?_⟩ <;> exact isDigit_ne h (by decide)

theorem PlainRepr.digits {i0 : Char} {I' F : List Char} (h : PlainRepr (i0 :: I') F) :
    isDigit i0 = true ∧ allDigits (I' ++ F) = true := by
  have := h.idig
  rw [allDigits_cons, Bool.and_eq_true] at this
  exact ⟨this.1, by rw [allDigits_append, this.2, h.fdig]; rfl⟩

theorem PlainRepr.no_e {I F : List Char} (h : PlainRepr I F) : 'e' ∉ I ++ '.' :: F := by
  have hI : 'e' ∉ I := not_mem_of_allDigits h.idig (by decide)
  have hF : 'e' ∉ F := not_mem_of_allDigits h.fdig (by decide)
  simp [hI, hF]

theorem floatToGoString_digit {c : Char} {r : List Char} (hc : isDigit c = true) :
    floatToGoString (c :: r) = goFinite (isPos (c :: r)) (c :: r) := by
  obtain ⟨_, _, hminus, hi, hn, _⟩ := digit_facts hc
  unfold floatToGoString
  rw [if_neg (by simp [hi]), if_neg (by simp [hminus]), if_neg (by simp [hn])]

private theorem nonzero_digit {c : Char} (h : isDigit c = true) (h0 : c ≠ '0') :
    ('1' ≤ c && c ≤ '9') = true := by
  simp only [isDigit, Bool.and_eq_true, decide_eq_true_eq] at h ⊢
  refine ⟨?_, h.2⟩
  -- on code points: from `48 ≤ c` and `c ≠ 48` to `49 ≤ c`
  have h1 := h.1
  rw [Char.le_def, UInt32.le_iff_toNat_le] at h1 ⊢
  have : c.val.toNat ≠ ('0' : Char).val.toNat := fun e => h0 (Char.ext (UInt32.toNat_inj.mp e))
  change 48 ≤ _ at h1
  change _ ≠ 48 at this
  change 49 ≤ _
  omega

private theorem fmtExp_eq_exp2 (n : Nat) : fmtExp n = exp2 n := by
  unfold fmtExp exp2 zpad expMinWidth
  split
  · next h =>
    unfold decDigits; simp [h]
  · next h =>
    have := decDigits_length_two n (by omega)
    have h0 : 2 - (decDigits n).length = 0 := by omega
    simp [h0]

private theorem mantissa_strip (i0 : Char) (rest : List Char) (hdot : i0 ≠ '.') (h0 : i0 ≠ '0')
    (hr : allDigits rest = true) :
    rstripSet (fun c => stripChars.contains c) (i0 :: '.' :: rest)
      = (if stripZeros rest = [] then [i0] else i0 :: '.' :: stripZeros rest) := by
  -- on digits, stripping `0` and `.` is stripping `0`
  have hcongr : rstripSet (fun c => stripChars.contains c) rest = stripZeros rest := by
    apply rstripSet_congr
    intro c hc
    have := isDigit_ne ((List.all_eq_true.mp hr) c hc) (d := '.') (by decide)
    by_cases hc0 : c = '0' <;> simp [stripChars, this, hc0]
  rw [rstripSet, rstripSet, hcongr]
  cases stripZeros rest with
  | nil => simp [stripChars, hdot, h0]
  | cons y ys => simp

/-- **Canonical spelling.** For every positive plain repr with more than six integer digits — any digit
count from 7 upwards, any trailing-zero pattern — the rendering is exactly Go's spelling. -/
theorem go_big (i0 : Char) (I' F : List Char) (h : PlainRepr (i0 :: I') F) (hbig : 6 ≤ I'.length) :
    floatToGoString (i0 :: I' ++ '.' :: F) = goFormat i0 (I' ++ F) I'.length := by
  obtain ⟨hi0, hrest⟩ := h.digits
  have hne0 : i0 ≠ '0' := by
    intro e
    obtain ⟨_, rfl⟩ := List.cons.inj (h.nolead (congrArg some e))
    exact absurd hbig (by decide)
  obtain ⟨hdot, he, hminus, _, _, _⟩ := digit_facts hi0
  have hpos : isPos (i0 :: I' ++ '.' :: F) = true := by
    unfold isPos
    split
    · next heq => simp at heq; exact absurd heq.1 hminus
    · simp [he, nonzero_digit hi0 hne0]
  have hfind : findChar '.' (i0 :: I' ++ '.' :: F) = some (I'.length + 1) :=
    findChar_append_of_not_mem (a := i0 :: I') (not_mem_of_allDigits h.idig (by decide))
  have hthr : decide (I'.length + 1 > dotThreshold) = true := by
    simp [dotThreshold]; omega
  have hmant : List.take 1 (i0 :: I' ++ '.' :: F) ++ ['.'] ++ List.take (I'.length + 1 - 1) (List.drop 1 (i0 :: I' ++ '.' :: F))
      ++ List.drop (I'.length + 1 + 1) (i0 :: I' ++ '.' :: F) = i0 :: '.' :: (I' ++ F) := by
    simp [List.take_append, List.drop_append]
  rw [List.cons_append, floatToGoString_digit hi0, ← List.cons_append]
  unfold goFinite
  rw [hfind, hpos]
  simp only [hthr, Bool.and_self, if_true]
  rw [hmant, mantissa_strip i0 (I' ++ F) hdot hne0 hrest]
  simp [goFormat, fmtExp_eq_exp2, expLit]

/-- the spelling is canonical: `D(.D*[1-9])?e+DD+`, exponent of at least two digits and no longer than
needed -/
theorem goFormat_canonical (i0 : Char) (rest : List Char) (n : Nat) (hi : isDigit i0 = true) (h0 : i0 ≠ '0')
    (hr : allDigits rest = true) : GoCanonical (goFormat i0 rest n) :=
  ⟨i0, stripZeros rest, exp2 n, hi, h0, allDigits_stripZeros hr, stripZeros_last rest,
    exp2_digits n, exp2_length n, exp2_shortest n, rfl⟩

theorem denote_plain (i0 : Char) (I' F : List Char) (h : PlainRepr (i0 :: I') F) :
    denote (i0 :: I' ++ '.' :: F) = some ⟨false, parseDigits (i0 :: I' ++ F), -(F.length : Int)⟩ := by
  have hIdot : '.' ∉ i0 :: I' := not_mem_of_allDigits h.idig (by decide)
  have hF : fracOf (some F) = some F := by
    cases hFF : F with
    | nil => exact absurd hFF h.fne
    | cons y ys => rfl
  rw [List.cons_append, denote_of_head (digit_facts h.digits.1).2.2.1, ← List.cons_append,
    denoteBody_of_splits (splitFirst_of_not_mem h.no_e) (splitFirst_append_of_not_mem hIdot) hF rfl h.idig h.ine h.fdig,
    Int.zero_sub]

theorem denote_goFormat (i0 : Char) (rest : List Char) (n : Nat) (hi : isDigit i0 = true)
    (hr : allDigits rest = true) :
    denote (goFormat i0 rest n)
      = some ⟨false, parseDigits (i0 :: stripZeros rest), (n : Int) - ((stripZeros rest).length : Int)⟩ := by
  obtain ⟨hdot, he, hminus, _, _, _⟩ := digit_facts hi
  have hfd := allDigits_stripZeros hr
  have hexp : expOf (some ('+' :: exp2 n)) = some (n : Int) := by
    simp [expOf, parseExp?, parseNat?_of_digits (exp2_ne_nil n) (exp2_digits n), exp2_value]
  have hI : allDigits [i0] = true := by rw [allDigits_cons, hi]; rfl
  -- the mantissa is `i0` or `i0.frac`: it has no `e`, and splits at `.` into `i0` and the fraction
  obtain ⟨t, F, hmant, hnoe, h2, hF⟩ : ∃ t F,
      (if stripZeros rest = [] then [i0] else i0 :: '.' :: stripZeros rest) = i0 :: t ∧ 'e' ∉ i0 :: t ∧
      splitFirst '.' (i0 :: t) = ([i0], F) ∧ fracOf F = some (stripZeros rest) := by
    cases hs : stripZeros rest with
    | nil => exact ⟨[], none, rfl, by simp [Ne.symm he], splitFirst_of_not_mem (by simp [Ne.symm hdot]), rfl⟩
    | cons y ys =>
      refine ⟨'.' :: y :: ys, some (y :: ys), rfl, ?_,
        splitFirst_append_of_not_mem (a := [i0]) (by simp [Ne.symm hdot]), rfl⟩
      have := not_mem_of_allDigits (d := 'e') (hs ▸ hfd) (by decide)
      simpa [Ne.symm he] using this
  unfold goFormat
  simp only []
  rw [hmant, List.append_assoc, List.cons_append, denote_of_head hminus]
  exact denoteBody_of_splits (splitFirst_append_of_not_mem hnoe) h2 hF hexp hI (by simp) hfd

/-- **Exactness.** For every positive plain repr with more than six integer digits the rendering
denotes the same rational number as the repr, hence (trusted: `float` depends only on the denoted
value, and `float(repr d) = d`) parses back to the identical double. -/
theorem go_preserves_value (i0 : Char) (I' F : List Char) (h : PlainRepr (i0 :: I') F) (hbig : 6 ≤ I'.length) :
    ∃ a b, denote (floatToGoString (i0 :: I' ++ '.' :: F)) = some a ∧
      denote (i0 :: I' ++ '.' :: F) = some b ∧ a.eqv b := by
  obtain ⟨hi0, hrest⟩ := h.digits
  rw [go_big i0 I' F h hbig, denote_goFormat i0 (I' ++ F) I'.length hi0 hrest]
  rw [denote_plain i0 I' F h]
  refine ⟨_, _, rfl, rfl, rfl, ?_⟩
  obtain ⟨k, hk⟩ := stripZeros_decomp (I' ++ F)
  refine ⟨k, Or.inl ⟨?_, ?_⟩⟩
  · have hl := congrArg List.length hk
    simp at hl ⊢
    omega
  · show parseDigits (i0 :: I' ++ F) = parseDigits (i0 :: stripZeros (I' ++ F)) * 10 ^ k
    have : i0 :: I' ++ F = (i0 :: stripZeros (I' ++ F)) ++ List.replicate k '0' := by
      rw [List.cons_append, List.cons_append, ← hk]
    rw [this, parseDigits_append, parseDigits_replicate_zero]
    simp

/-- Everything else is left as `repr` wrote it: a plain repr with at most six integer digits … -/
theorem go_small (I F : List Char) (h : PlainRepr I F) (hsmall : I.length ≤ 6) :
    floatToGoString (I ++ '.' :: F) = I ++ '.' :: F := by
  have hIdot : '.' ∉ I := not_mem_of_allDigits h.idig (by decide)
  cases hI : I with
  | nil => exact absurd hI h.ine
  | cons x xs =>
    have hx : isDigit x = true := (hI ▸ h).digits.1
    rw [List.cons_append, floatToGoString_digit hx, ← List.cons_append]
    unfold goFinite
    rw [← hI, findChar_append_of_not_mem hIdot]
    have : decide (I.length > dotThreshold) = false := by simp [dotThreshold]; omega
    simp [this]

/-- … every negative number (the library only rewrites positive values) … -/
theorem go_negative (t : List Char) (h1 : t ≠ ['i', 'n', 'f']) :
    floatToGoString ('-' :: t) = '-' :: t := by
  unfold floatToGoString
  rw [if_neg (by simp), if_neg (by simp [h1]), if_neg (by simp)]
  unfold goFinite isPos
  cases findChar '.' ('-' :: t) <;> simp

/-- … and every exponent-form repr (`1e+16`, `1.5e-07`, …). -/
theorem go_exp (s : List Char) (h : ExpRepr s) : floatToGoString s = s := by
  obtain ⟨d, F, ex, hd, hF, hex, hs⟩ := h.shape
  have hdot := (digit_facts hd).1
  rcases hs with hs | hs
  · subst hs
    rw [floatToGoString_digit hd]
    unfold goFinite
    have : findChar '.' (d :: 'e' :: ex) = none := by
      apply findChar_none_of_not_mem
      simp [Ne.symm hdot, hex]
    rw [this]
  · subst hs
    rw [List.cons_append, floatToGoString_digit hd]
    unfold goFinite
    have : findChar '.' (d :: ('.' :: F ++ 'e' :: ex)) = some 1 := by
      simp [findChar, hdot]
    rw [this]
    simp [dotThreshold]

theorem go_special :
    floatToGoString ['i', 'n', 'f'] = ['+', 'I', 'n', 'f'] ∧
    floatToGoString ['-', 'i', 'n', 'f'] = ['-', 'I', 'n', 'f'] ∧
    floatToGoString ['n', 'a', 'n'] = ['N', 'a', 'N'] := by decide

/-- **Injectivity on the rewritten range**: two big positive plain reprs with one rendering denote the
same number (and then, `repr` being injective on doubles, are the same double). -/
theorem go_injective_big (i0 j0 : Char) (I' J' F G : List Char)
    (h1 : PlainRepr (i0 :: I') F) (h2 : PlainRepr (j0 :: J') G) (b1 : 6 ≤ I'.length) (b2 : 6 ≤ J'.length)
    (heq : floatToGoString (i0 :: I' ++ '.' :: F) = floatToGoString (j0 :: J' ++ '.' :: G)) :
    ∃ a b c, denote (i0 :: I' ++ '.' :: F) = some a ∧ denote (j0 :: J' ++ '.' :: G) = some b ∧
      a.eqv c ∧ b.eqv c := by
  obtain ⟨a1, b1', e1, e2, e3⟩ := go_preserves_value i0 I' F h1 b1
  obtain ⟨a2, b2', f1, f2, f3⟩ := go_preserves_value j0 J' G h2 b2
  rw [heq, f1] at e1
  cases e1
  exact ⟨b1', b2', a1, e2, f2, e3.symm, f3.symm⟩

/-- A rewritten rendering against an exponent-form repr: only the `e` is proved here; the harness checks the
cross-branch case on doubles (trusted: `repr` switches to exponent form at 1e16). -/
theorem go_big_has_exponent (i0 : Char) (I' F : List Char) (h : PlainRepr (i0 :: I') F) (hbig : 6 ≤ I'.length) :
    'e' ∈ floatToGoString (i0 :: I' ++ '.' :: F) ∧ 'e' ∉ (i0 :: I' ++ '.' :: F) := by
  rw [go_big i0 I' F h hbig]
  exact ⟨by simp [goFormat], h.no_e⟩

-- Non-vacuity: concrete reprs meeting the hypotheses, and what the theorems give on them.
example : PlainRepr ['1','5','0','0','0','0','0','0','0','0','0'] ['0'] :=
  ⟨by decide, by decide, by decide, by decide, by decide⟩
example : floatToGoString ['1','5','0','0','0','0','0','0','0','0','0','.','0'] = ['1','.','5','e','+','1','0'] := by
  decide +kernel
example : floatToGoString ['1','0','0','0','0','0','0','.','0'] = ['1','e','+','0','6'] := by decide +kernel
example : floatToGoString ['1','2','3','4','5','6','7','.','1','2','5']
    = ['1','.','2','3','4','5','6','7','1','2','5','e','+','0','6'] := by decide +kernel
example : floatToGoString ['9','9','9','9','9','9','.','0'] = ['9','9','9','9','9','9','.','0'] := by decide +kernel

end PromVerif.Props.C13
