/-
C19 — what the library's OWN handlers put on the wire.

M = `Model.GatewayHandlers` (`_make_handler.handle`, `default_handler`, `passthrough_redirect_handler`,
`basic_auth_handler.handle`, `_PrometheusRedirectHandler.redirect_request`) composed with `Model.Gateway`
(`_use_gateway` and the three public functions).  Every theorem quantifies over ALL urls, methods, header
lists, bodies, time-outs and over every behaviour of the opener (`opener : Wire β τ → Except PyErr Nat`, the
trusted urllib part).  The theorems depend on the extracted flags (`mhMethodInstalled`, `mhTimeoutPassed`,
`mhErrorFrom = 400`, `mhErrorClass = OSError`, the redirect tables): dropping `request.get_method = …`, losing
`timeout=timeout`, or moving the threshold breaks them.

Model of the code that exists: `redirect_request` re-sends PUT/POST only after 301/302/303 and refuses every
redirect of a DELETE and every 307/308 (`delete_redirect_refused`, `put_post_307_308_refused` are kernel-checked
statements of that; see the report — the doc-string of `passthrough_redirect_handler` promises "all HTTP methods").
-/
import PromVerif.Model.GatewayHandlers
import PromVerif.Props.C19

set_option autoImplicit false

namespace PromVerif.Props.C19Handlers
open PromVerif.Py PromVerif.Model.Gateway PromVerif.Model.GatewayHandlers PromVerif.Spec.Gateway
open PromVerif.Generated.Gateway

/-- `request.get_method = lambda: method` is there -/
theorem method_installed : mhMethodInstalled = true := by decide

/-- `open(request, timeout=timeout)` carries the caller's time-out -/
theorem timeout_keyword_present : mhTimeoutPassed = true := by decide

/-- `if resp.code >= 400: raise OSError(…)` -/
theorem error_threshold : mhErrorFrom = 400 ∧ errOfClass mhErrorClass = PyErr.osError := by decide

/-- `default_handler` builds on `HTTPHandler`, the passthrough handler on `_PrometheusRedirectHandler` -/
theorem base_handlers : defaultBase = "HTTPHandler".toList ∧ redirectBase = "_PrometheusRedirectHandler".toList := by
  rw [String.toList_ofList, String.toList_ofList]
  exact ⟨rfl, rfl⟩

section
variable {β τ : Type}

/-- the header loop adds every `(k, v)` once, in order -/
theorem addHeaders_eq (hs : List (Str × Str)) : addHeaders hs = hs := by
  rw [addHeaders, List.foldl_append_eq_append, List.nil_append, ← List.flatMap_def]
  exact List.flatMap_singleton' hs

example : addHeaders [("a".toList, "1".toList), ("a".toList, "2".toList)] = [("a".toList, "1".toList), ("a".toList, "2".toList)] := by
  repeat rw [String.toList_ofList]
  decide +kernel

/-- **The request handed to the opener is exactly the one the handler was given**: same URL, same method, every
header once and in order, same body, the caller's time-out — for every base handler class. -/
theorem sends_exactly (r : Request β τ) (base : Str) :
    makeRequest r base = ⟨r.url, r.method, r.headers, r.data, .given r.timeout, base⟩ := by
  unfold makeRequest
  rw [addHeaders_eq, if_pos method_installed, if_pos timeout_keyword_present]

example : makeRequest (β := Nat) (τ := Nat) ⟨"u".toList, "PUT".toList, 7, [("k".toList, "v".toList)], 3⟩ "B".toList
    = ⟨"u".toList, "PUT".toList, [("k".toList, "v".toList)], 3, .given 7, "B".toList⟩ := by
  repeat rw [String.toList_ofList]
  decide +kernel

/-- the handler calls the opener once, with that request, and then looks at the status -/
theorem default_handler_eq (r : Request β τ) (opener : Wire β τ → Except PyErr Nat) :
    defaultHandler r opener =
      statusOf (opener ⟨r.url, r.method, r.headers, r.data, .given r.timeout, defaultBase⟩) := by
  unfold defaultHandler makeHandler
  rw [sends_exactly]

/-- the same for the redirect-following handler -/
theorem passthrough_handler_eq (r : Request β τ) (opener : Wire β τ → Except PyErr Nat) :
    passthroughRedirectHandler r opener =
      statusOf (opener ⟨r.url, r.method, r.headers, r.data, .given r.timeout, redirectBase⟩) := by
  unfold passthroughRedirectHandler makeHandler
  rw [sends_exactly]

/-- **status ≥ 400 raises `OSError`** -/
theorem status_ge_400_raises (code : Nat) (h : 400 ≤ code) : checkStatus code = .error PyErr.osError := by
  unfold checkStatus
  rw [error_threshold.1, error_threshold.2, if_pos h]

/-- **status < 400 returns** -/
theorem status_lt_400_returns (code : Nat) (h : code < 400) : checkStatus code = .ok () := by
  unfold checkStatus
  rw [error_threshold.1, if_neg (by omega)]

example : checkStatus 400 = .error PyErr.osError ∧ checkStatus 399 = .ok () ∧ checkStatus 599 = .error PyErr.osError ∧
    checkStatus 202 = .ok () := ⟨rfl, rfl, rfl, rfl⟩

/-- the whole handler: the opener's answer decides; an exception raised inside urllib reaches the caller -/
theorem handler_outcome (r : Request β τ) (base : Str) (opener : Wire β τ → Except PyErr Nat) :
    (∀ code, opener (makeRequest r base) = .ok code → 400 ≤ code → makeHandler r base opener = .error PyErr.osError) ∧
    (∀ code, opener (makeRequest r base) = .ok code → code < 400 → makeHandler r base opener = .ok ()) ∧
    (∀ e, opener (makeRequest r base) = .error e → makeHandler r base opener = .error e) := by
  unfold makeHandler
  refine ⟨?_, ?_, ?_⟩
  · intro code ho hc
    rw [ho]
    exact status_ge_400_raises code hc
  · intro code ho hc
    rw [ho]
    exact status_lt_400_returns code hc
  · intro e ho
    rw [ho]
    rfl

example : makeHandler (β := Nat) (τ := Nat) ⟨[], [], 0, [], 0⟩ [] (fun _ => .ok 404) = .error PyErr.osError := rfl
example : makeHandler (β := Nat) (τ := Nat) ⟨[], [], 0, [], 0⟩ [] (fun _ => .ok 202) = .ok () := rfl
example : makeHandler (β := Nat) (τ := Nat) ⟨[], [], 0, [], 0⟩ [] (fun _ => .error .timeout) = .error .timeout := rfl

variable (g job : Str) (expo empty : β) (gk : List (Str × Str)) (t : τ) (base : Str)

/-- what `_use_gateway` puts on the wire for any method: the URL, that method, the single text content type, the
exposition unless the method is `DELETE`, the caller's time-out -/
theorem use_gateway_on_the_wire (m : Str) :
    makeRequest (useGateway m g job expo empty gk t) base =
      ⟨buildUrl g job gk, m, [("Content-Type".toList, "text/plain; version=0.0.4; charset=utf-8".toList)],
        if m ≠ deleteLit then expo else empty, .given t, base⟩ := by
  rw [sends_exactly, C19.content_type_is_text]
  rfl

/-- **`push_to_gateway` on the wire**: PUT, the URL of `_use_gateway`, the single text content type, the bytes of
`generate_latest(registry)`, the caller's time-out, for every base handler (`HTTPHandler` for the default one) -/
theorem push_on_the_wire :
    makeRequest (pushToGateway g job expo empty gk t) base =
      ⟨buildUrl g job gk, "PUT".toList, [("Content-Type".toList, "text/plain; version=0.0.4; charset=utf-8".toList)],
        expo, .given t, base⟩ := by
  rw [String.toList_ofList]
  exact use_gateway_on_the_wire g job expo empty gk t base methodPut

/-- **`pushadd_to_gateway` on the wire**: POST, otherwise the same -/
theorem pushadd_on_the_wire :
    makeRequest (pushaddToGateway g job expo empty gk t) base =
      ⟨buildUrl g job gk, "POST".toList, [("Content-Type".toList, "text/plain; version=0.0.4; charset=utf-8".toList)],
        expo, .given t, base⟩ := by
  rw [String.toList_ofList]
  exact use_gateway_on_the_wire g job expo empty gk t base methodPost

/-- **`delete_from_gateway` on the wire**: DELETE, an empty body -/
theorem delete_on_the_wire :
    makeRequest (deleteFromGateway g job expo empty gk t) base =
      ⟨buildUrl g job gk, "DELETE".toList, [("Content-Type".toList, "text/plain; version=0.0.4; charset=utf-8".toList)],
        empty, .given t, base⟩ := by
  rw [String.toList_ofList]
  exact use_gateway_on_the_wire g job expo empty gk t base methodDelete

/-- the URL on the wire still decodes (Pushgateway reading) to the job and the sorted grouping key -/
theorem wire_url_decodes (h : LegacyNames gk) :
    decodeUrlGo (gatewayBase g) (makeRequest (pushToGateway g job expo empty gk t) defaultBase).url
      = some ((['j', 'o', 'b'], job) :: sortByKey gk) := by
  rw [sends_exactly]
  exact C19.url_decodes_go g job gk h

end

example : makeRequest (pushToGateway "h:1/".toList "a b".toList (some 5) none [] (30 : Nat)) defaultBase =
    ⟨"http://h:1/metrics/job/a%20b".toList, "PUT".toList,
      [("Content-Type".toList, "text/plain; version=0.0.4; charset=utf-8".toList)], some 5, .given 30, "HTTPHandler".toList⟩ := by
  repeat rw [String.toList_ofList]
  decide +kernel
example : (makeRequest (deleteFromGateway "h".toList "j".toList (some 5) none [] (30 : Nat)) defaultBase).body = none ∧
    (makeRequest (deleteFromGateway "h".toList "j".toList (some 5) none [] (30 : Nat)) defaultBase).method = "DELETE".toList := by
  repeat rw [String.toList_ofList]
  decide +kernel

/-- `registry=None` is accepted and means the default `REGISTRY` for push / pushadd; delete never looks at it -/
theorem registry_none_is_default {β ρ : Type} (dflt : ρ) (gen : ρ → β) (empty : β) (reg : Option ρ) :
    bodyOf methodPut none dflt gen empty = gen dflt ∧ bodyOf methodPost none dflt gen empty = gen dflt ∧
    (∀ r, bodyOf methodPut (some r) dflt gen empty = gen r ∧ bodyOf methodPost (some r) dflt gen empty = gen r) ∧
    bodyOf methodDelete reg dflt gen empty = empty :=
  -- `method ≠ deleteLit` is decided on the three literals
  ⟨rfl, rfl, fun _ => ⟨rfl, rfl⟩, rfl⟩

example : bodyOf (ρ := Nat) methodPost none 7 (fun n => n + 1) 0 = 8 := by decide

section
variable {β τ : Type}

/-- **exactly one header is added, after the given ones: `Authorization: Basic base64(user:password)`**; URL,
method, body, time-out and base handler are those of the default handler -/
theorem basic_auth_wire (r : Request β τ) (u p : Str) (opener : Wire β τ → Except PyErr Nat) :
    basicAuthHandler r (some u) (some p) opener =
      statusOf (opener ⟨r.url, r.method,
          r.headers ++ [("Authorization".toList, "Basic ".toList ++ b64encodeStd (utf8 (u ++ [':'] ++ p)))],
          r.data, .given r.timeout, defaultBase⟩) := by
  have h1 : "Authorization".toList = authHeaderName := String.toList_ofList
  have h2 : "Basic ".toList = authPrefix := String.toList_ofList
  have h3 : [':'] = authSep := by decide
  unfold basicAuthHandler basicAuthRequest
  rw [default_handler_eq, h1, h2, h3]
  rfl

/-- without a user name or without a password it IS the default handler -/
theorem basic_auth_none_is_default (r : Request β τ) (u p : Option Str) (opener : Wire β τ → Except PyErr Nat)
    (h : u = none ∨ p = none) : basicAuthHandler r u p opener = defaultHandler r opener := by
  unfold basicAuthHandler basicAuthRequest
  rcases h with rfl | rfl
  · rfl
  · cases u <;> rfl

/-- the token is the standard-alphabet spelling of the URL-safe encoding -/
def urlChar (c : Char) : Char := if c = '+' then '-' else if c = '/' then '_' else c

/-- **the token decodes to `user:password`** (UTF-8): translate `+/` back to `-_` and use the base64 round trip -/
theorem basic_auth_token_decodes (u p : Str) :
    b64decode ((b64encodeStd (utf8 (u ++ [':'] ++ p))).map urlChar) = some (utf8 (u ++ [':'] ++ p)) := by
  have hmap : ∀ bs : List UInt8, (b64encodeStd bs).map urlChar = b64encode bs := by
    intro bs
    unfold b64encodeStd
    rw [List.map_map]
    have : ∀ c ∈ b64encode bs, (urlChar ∘ stdChar) c = c := by
      intro c hc
      have hne := C19.b64_alphabet_no_slash bs c hc
      simp only [Function.comp, urlChar, stdChar]
      by_cases h1 : c = '-'
      · subst h1; decide
      · by_cases h2 : c = '_'
        · subst h2; decide
        · simp [h1, h2, hne.1, hne.2.1]
    rw [List.map_congr_left this, List.map_id']
  rw [hmap]
  exact C19.b64_roundtrip _

example : authValue "usér".toList "p:w".toList = "Basic dXPDqXI6cDp3".toList := by
  repeat rw [String.toList_ofList]
  decide +kernel
example : b64encodeStd [0xfb, 0xff, 0xfe] = "+//+".toList := by
  repeat rw [String.toList_ofList]
  decide +kernel
example : authHeaders [("a".toList, "b".toList)] (some []) none = [("a".toList, "b".toList)] := by
  repeat rw [String.toList_ofList]
  decide +kernel

theorem escapeNewUrl_eq (newurl : Str) : escapeNewUrl newurl = replaceChar ' ' "%20".toList newurl := by
  rw [String.toList_ofList]
  rfl

/-- **a followed redirect is re-sent with the same method, the same body, the same headers and the same
time-out**, to the new URL with spaces escaped -/
theorem redirect_resends_same (w w' : Wire β τ) (code : Nat) (newurl : Str)
    (h : redirectRequest w code newurl = .ok w') :
    w'.method = w.method ∧ w'.body = w.body ∧ w'.headers = w.headers ∧ w'.timeout = w.timeout ∧
    w'.url = replaceChar ' ' "%20".toList newurl := by
  unfold redirectRequest at h
  split at h
  · injection h with h
    subst h
    exact ⟨rfl, rfl, rfl, rfl, escapeNewUrl_eq newurl⟩
  · cases h

/-- the extracted code and method tables, read off -/
theorem redirectAllowed_iff (code : Nat) (m : Str) :
    redirectAllowed code m = true ↔
      ((code ∈ [301, 302, 303, 307] ∧ m ∈ [['G', 'E', 'T'], ['H', 'E', 'A', 'D']]) ∨
       (code ∈ [301, 302, 303] ∧ m ∈ [['P', 'O', 'S', 'T'], ['P', 'U', 'T']])) := by
  simp only [redirectAllowed, redirSafeCodes, redirUnsafeCodes, redirSafeMethods, redirUnsafeMethods, Bool.or_eq_true,
    Bool.and_eq_true, List.contains_iff_mem]

/-- which redirects are followed: 301/302/303/307 for GET/HEAD, 301/302/303 for POST/PUT; everything else raises
`HTTPError` (an `OSError`) -/
theorem redirect_followed_iff (w : Wire β τ) (code : Nat) (newurl : Str) :
    (∃ w', redirectRequest w code newurl = .ok w') ↔
      ((code ∈ [301, 302, 303, 307] ∧ w.method ∈ ["GET".toList, "HEAD".toList]) ∨
       (code ∈ [301, 302, 303] ∧ w.method ∈ ["POST".toList, "PUT".toList])) := by
  rw [String.toList_ofList, String.toList_ofList, String.toList_ofList, String.toList_ofList, ← redirectAllowed_iff]
  unfold redirectRequest
  constructor
  · rintro ⟨w', h⟩
    split at h
    · next ha => exact ha
    · cases h
  · intro h
    rw [if_pos h]
    exact ⟨_, rfl⟩

theorem redirect_refused_is_oserror (w : Wire β τ) (code : Nat) (newurl : Str)
    (h : redirectAllowed code w.method = false) : redirectRequest w code newurl = .error PyErr.osError := by
  unfold redirectRequest
  rw [if_neg (by simp [h])]
  have : errOfClass redirErrorClass = PyErr.osError := by decide
  rw [this]

variable (g job : Str) (expo empty : β) (gk : List (Str × Str)) (t : τ)

/-- **push / pushadd after 301, 302, 303**: PUT stays PUT, POST stays POST, the exposition and the content type are
sent again, with the caller's time-out -/
theorem push_redirect_resent (code : Nat) (hc : code ∈ [301, 302, 303]) (newurl : Str) :
    redirectRequest (makeRequest (pushToGateway g job expo empty gk t) redirectBase) code newurl =
      .ok ⟨replaceChar ' ' "%20".toList newurl, "PUT".toList,
        [("Content-Type".toList, "text/plain; version=0.0.4; charset=utf-8".toList)], expo, .given t, redirectBase⟩ ∧
    redirectRequest (makeRequest (pushaddToGateway g job expo empty gk t) redirectBase) code newurl =
      .ok ⟨replaceChar ' ' "%20".toList newurl, "POST".toList,
        [("Content-Type".toList, "text/plain; version=0.0.4; charset=utf-8".toList)], expo, .given t, redirectBase⟩ := by
  have esc := escapeNewUrl_eq newurl
  have hput : redirectAllowed code "PUT".toList = true := by
    rw [String.toList_ofList]
    exact (redirectAllowed_iff code _).mpr (Or.inr ⟨hc, by simp⟩)
  have hpost : redirectAllowed code "POST".toList = true := by
    rw [String.toList_ofList]
    exact (redirectAllowed_iff code _).mpr (Or.inr ⟨hc, by simp⟩)
  refine ⟨?_, ?_⟩
  · rw [push_on_the_wire g job expo empty gk t redirectBase]
    simp only [redirectRequest, hput, esc, ↓reduceIte]
  · rw [pushadd_on_the_wire g job expo empty gk t redirectBase]
    simp only [redirectRequest, hpost, esc, ↓reduceIte]

/-- **Candidate finding (model of the code that exists): a DELETE is never re-sent** — whatever the redirect code,
`delete_from_gateway` through the passthrough handler raises `HTTPError` -/
theorem delete_redirect_refused (code : Nat) (newurl : Str) :
    redirectRequest (makeRequest (deleteFromGateway g job expo empty gk t) redirectBase) code newurl =
      .error PyErr.osError := by
  apply redirect_refused_is_oserror
  rw [sends_exactly]
  -- `DELETE` is in neither method table
  show (redirSafeCodes.contains code && false || redirUnsafeCodes.contains code && false) = false
  rw [Bool.and_false, Bool.and_false]
  rfl

/-- **… and 307 / 308 (the method-preserving redirects) are refused for PUT and POST** -/
theorem put_post_307_308_refused (code : Nat) (hc : code = 307 ∨ code = 308) (newurl : Str) :
    redirectRequest (makeRequest (pushToGateway g job expo empty gk t) redirectBase) code newurl = .error PyErr.osError ∧
    redirectRequest (makeRequest (pushaddToGateway g job expo empty gk t) redirectBase) code newurl = .error PyErr.osError := by
  refine ⟨?_, ?_⟩
  · apply redirect_refused_is_oserror
    rw [sends_exactly]
    show redirectAllowed code methodPut = false
    rcases hc with rfl | rfl <;> decide +kernel
  · apply redirect_refused_is_oserror
    rw [sends_exactly]
    show redirectAllowed code methodPost = false
    rcases hc with rfl | rfl <;> decide +kernel

end

example : redirectRequest (β := Nat) (τ := Nat) ⟨"u".toList, "PUT".toList, [("k".toList, "v".toList)], 3, .given 7, []⟩ 302 "http://h/a b".toList
    = .ok ⟨"http://h/a%20b".toList, "PUT".toList, [("k".toList, "v".toList)], 3, .given 7, []⟩ := by
  repeat rw [String.toList_ofList]
  rfl
example : redirectRequest (β := Nat) (τ := Nat) ⟨"u".toList, "DELETE".toList, [], 0, .given 7, []⟩ 302 "x".toList
    = .error PyErr.osError := by
  repeat rw [String.toList_ofList]
  rfl
example : redirectRequest (β := Nat) (τ := Nat) ⟨"u".toList, "PUT".toList, [], 0, .given 7, []⟩ 307 "x".toList
    = .error PyErr.osError := by
  repeat rw [String.toList_ofList]
  rfl

end PromVerif.Props.C19Handlers
