/-
C03 — text exposition parses back to exactly the exposed series.

Bottom-up: escaping (`unescape_escape`, `helpUnescape_helpEscape`), the scanner invariant (`scan_escape`,
`nextUnquoted_skips_quoted`), the label block (`parse_labels_render`), the sample line (`sample_line_roundtrip`).
Every theorem quantifies over ALL strings (no length bound).  `escape` is the chain of `.replace` calls re-extracted from
`openmetrics/exposition.py` on every run (`Generated.Expo.escapeChain`), the name patterns are the ones re-extracted
from `validation.py`.

Numbers are tokens: the exposition renders `repr(float(v))` through `floatToGoString`; the parser applies the parameters
`pyInt`, `pyFloat` (CPython `int()`, `float()`); the only laws used are stated as hypotheses next to the theorem.

Hypotheses forced by the proofs, and what the real code does at the excluded points:
* F2 — a metric / label name that the legacy pattern accepted although it ended in '\n' (`$` matches before a final line
  feed) was written bare and split the line: `Gauge('a','h',['l\n'])` → `a{l\n="v"} 1.0` → ValueError.  Repaired in
  /repo (`\Z`); the end-anchor kind is re-extracted on every run and `f2_repaired` is the theorem that depends on it — it
  (and with it every round-trip theorem below) stops checking if the pattern goes back to `$`.
* F20 — label names rejected by `_validate_labelname` (`__name__`, any `__…` name; under legacy validation every
  non-legacy name): the parser re-validates label names and raises ValueError, but several public paths write label
  names that were never validated: `Enum('__e', …)` / `Enum('a:b', …)` under legacy validation and
  `StateSetMetricFamily` (the metric name becomes a label name), `Info('i','h').info({'__k': 'v'})`, the `labels=`
  argument of every `*MetricFamily` helper, `Metric.add_sample`.  A violation of C03 reachable through the public API:
  a finding (witness theorem `f20_reserved_label_name_rejected`); `LabelsOK` excludes exactly these names.
* sample names `Metric()` would reject (empty; non-legacy under legacy validation) — only reachable through
  `Metric.add_sample`, which validates nothing: outside "expressible through the public API".
-/
import PromVerif.Model.TextExpo
import PromVerif.Model.TextParse
import PromVerif.Lemmas.TextParseRoundtrip

namespace PromVerif.Props.C03
open PromVerif.Py PromVerif.Model PromVerif.Model.Escape PromVerif.Model.ParseCore PromVerif.Model.Validation
open PromVerif.Model.TextExpo PromVerif.Model.TextParse
open PromVerif.Lemmas.Escape PromVerif.Lemmas.Scanner PromVerif.Lemmas.TextParse

attribute [local instance] decEqExcept

/-- the extractor found the escape chains, the munging table and the name patterns in the shape it understands -/
theorem extract_ok : PromVerif.Generated.Expo.extractOk = true ∧ PromVerif.Generated.Validation.extractOk = true := by decide

/-- `_replace_escaping(_escape(s)) == s` for every string -/
theorem unescape_escape (s : Str) : replaceEscaping (escape s) = s := Lemmas.Escape.unescape_escape s

example : replaceEscaping (escape "a\\\"\n\\n\\\\\"".toList) = "a\\\"\n\\n\\\\\"".toList := unescape_escape _
example : escape "\\\n\"".toList = "\\\\\\n\\\"".toList := by
  -- the literals are read as `String.ofList […]` (unification sees them so); evaluating `.toList` on them as they stand
  -- would decode UTF-8 bytes, once in the elaborator and once in the kernel
  repeat rw [String.toList_ofList]
  decide +kernel

/-- `_replace_help_escaping(help_escape(s)) == s` for every string (both HELP escaping sites of `generate_latest`) -/
theorem helpUnescape_helpEscape (s : Str) :
    replaceHelpEscaping (escapeHelp s) = s ∧ replaceHelpEscaping (escapeHelpTrailing s) = s :=
  ⟨Lemmas.Escape.helpUnescape_helpEscape s, by rw [escapeHelpTrailing_eq]; exact Lemmas.Escape.helpUnescape_helpEscape s⟩

example : escapeHelp "a\\n\n\"".toList = "a\\\\n\\n\"".toList := by
  repeat rw [String.toList_ofList]
  decide +kernel

/-- escaped text contains no raw line feed (so a rendered line is one line) -/
theorem escape_no_newline (s : Str) : '\n' ∉ escape s ∧ '\n' ∉ escapeHelp s :=
  ⟨newline_not_mem_escape s, newline_not_mem_escapeHelp s⟩

/-- **scanner invariant**: `_next_unquoted_char` scanning `escape v` from (inside quotes, even backslash parity) never
reports a position and ends in (inside quotes, even parity) — whatever characters are wanted -/
theorem scan_escape (chs : Char → Bool) (v : Str) :
    noHit chs (escape v) true false = true ∧ run (escape v) true false = (true, false) :=
  Lemmas.Scanner.scan_escape chs v

/-- hence in `"escape(v)"rest` the first unquoted occurrence of a character of `chs` ('"' ∉ chs) lies in `rest` -/
theorem nextUnquoted_skips_quoted (chs : Char → Bool) (hq : chs '"' = false) (v rest : Str) :
    nextUnquotedChar ('"' :: (escape v ++ ['"']) ++ rest) chs 0 =
      (nextUnquotedChar rest chs 0).map (· + ((escape v).length + 2)) :=
  Lemmas.Scanner.nextUnquoted_skips_quoted chs hq v rest

example : nextUnquotedChar ("\"" ++ "a,\\\"}\\\\" ++ "\"" ++ ",b}").toList (fun c => c == ',' || c == '}') 0 = some 9 := by
  repeat rw [String.toList_ofList]
  decide +kernel

/-- **`parse_labels` inverts the label rendering of `sample_line`**: for every label dict whose names the library's own
`_validate_labelname` accepts, with any label values — every character, every adjacency, empty —
bare or quoted names, any number of labels -/
theorem parse_labels_render {legacy : Bool} {ls : List (Str × Str)} (h : LabelsOK legacy ls) :
    parseLabels legacy (labelStr ls) false = .ok (sortByKey ls) :=
  Lemmas.TextParse.parse_labels_render h

example : LabelsOK false [("b".toList, "\\\"\n".toList), ("a b".toList, [])] := by
  repeat rw [String.toList_ofList]
  decide +kernel
example : LabelsOK true [("le".toList, "+Inf".toList), ("a".toList, "x\\".toList)] := by
  repeat rw [String.toList_ofList]
  decide +kernel
example : labelStr [("b".toList, "\\\"\n".toList), ("a b".toList, [])] = "\"a b\"=\"\",b=\"\\\\\\\"\\n\"".toList := by
  repeat rw [String.toList_ofList]
  decide +kernel

/-- F2 is repaired: no name accepted by the legacy patterns (as extracted from the current source) ends in a line feed -/
theorem f2_repaired (n : Str) :
    (isValidLegacyMetricName n = true → n.getLast? ≠ some '\n') ∧ (isValidLegacyLabelname n = true → n.getLast? ≠ some '\n') :=
  ⟨legacyMetric_no_newline, legacyLabel_no_newline⟩

example : isValidLegacyLabelname "l\n".toList = false ∧ validateLabelname true "l\n".toList = .error .valueError := by
  repeat rw [String.toList_ofList]
  decide +kernel

/-- **a rendered sample line parses back to the sample**: same name, the label dict, the value token as read by the
number parameters, the millisecond count `ms` standing for `ms / 1000`.  Laws used about numbers, as hypotheses:
`int(goString v)` fails and `float(goString v) = v`; `int(str(ms)) = ms`; `ms / 1000` does not overflow. -/
theorem sample_line_roundtrip (legacy : Bool) (pyInt : Str → Option Int) (pyFloat : Str → Option Nat) (s : Sample) (b : Nat)
    (h : SampleOK legacy s)
    (hi : pyInt (Utils.floatToGoString s.value) = none) (hf : pyFloat (Utils.floatToGoString s.value) = some b)
    (hms : ∀ m, millisOf s = some m → pyInt (intStr m) = some m ∧ intDivOverflows m = false) :
    parseSample legacy pyInt pyFloat (strip (sampleLine s)) =
      .ok ⟨s.name, sortByKey s.labels, .flt b, (millisOf s).map (fun m => ⟨.int m⟩)⟩ :=
  Lemmas.TextParse.sample_line_roundtrip legacy pyInt pyFloat s b h hi hf hms

/-- non-vacuity: a quoted UTF-8 name, an adversarial label value, a value above 2^53 and a timestamp -/
def exSample : Sample :=
  ⟨"a b".toList, [("l".toList, "x\\\"\n,}".toList), ("é".toList, [])], "1.2345678901234568e+19".toList, some ⟨.int 1, 1000⟩, none⟩

example : SampleOK false exSample := by
  unfold exSample
  repeat rw [String.toList_ofList]
  decide +kernel
example : sampleLine { exSample with ts := none } = "{\"a b\",l=\"x\\\\\\\"\\n,}\",\"é\"=\"\"} 1.2345678901234568e+19\n".toList := by
  unfold exSample
  repeat rw [String.toList_ofList]
  decide +kernel

/-- F20 witness: a reserved label name (as `Enum('__e', …)` produces) is written, quoted, and rejected by the parser -/
theorem f20_reserved_label_name_rejected :
    labelStr [("__e".toList, "a".toList)] = "\"__e\"=\"a\"".toList ∧
      parseLabels false (labelStr [("__e".toList, "a".toList)]) false = .error .valueError ∧
      parseLabels true (labelStr [("a:b".toList, "a".toList)]) false = .error .valueError := by
  repeat rw [String.toList_ofList]
  decide +kernel

/-- **HELP line round trip**: a rendered `# HELP` line (either HELP site of `generate_latest`) is the content below plus
a line feed; from the initial state the parser opens a family with exactly the written name — legacy or quoted with
separators inside — and a help text `helpDoc doc` that is `doc` up to trailing blanks (quotes, backslash-n adjacency and
leading blanks are preserved) -/
theorem help_line_roundtrip (legacy : Bool) (pyInt : Str → Option Int) (pyFloat : Str → Option Nat) {n : Str}
    (h : metricNameOK legacy n = true) (doc : Str) (tr : Bool) :
    helpLine n doc tr = helpContent n doc ++ ['\n'] ∧
    stepLine legacy pyInt pyFloat St.init (helpContent n doc) =
      .ok ({ name := n, doc := helpDoc doc, typ := "untyped".toList, samples := [], allowed := [n] }, []) ∧
    ∃ j, doc = helpDoc doc ++ j ∧ j.all isPySpace = true := by
  refine ⟨helpLine_eq n doc tr, ?_, helpDoc_spec doc⟩
  rw [stepLine_help legacy pyInt pyFloat St.init n doc, openFamily_new (out := []) (metricNameOK_ne_nil h) rfl]
  rfl

example : metricNameOK false "a b\"\\,{".toList = true ∧ metricNameOK true "a:b_total".toList = true := by
  repeat rw [String.toList_ofList]
  decide +kernel
example : helpDoc " x\\n\"\n  ".toList = " x\\n\"\n".toList := by
  repeat rw [String.toList_ofList]
  decide +kernel

/-- **TYPE line round trip**: after the HELP line of the same family the parser sets the written type and the allowed
sample names of that type -/
theorem type_line_roundtrip (legacy : Bool) (pyInt : Str → Option Int) (pyFloat : Str → Option Nat) (st : St) {n typ : Str}
    (h : metricNameOK legacy n = true) (ht : TypWord typ) (hst : st.name = n) :
    typeLine n typ = typeContent n typ ++ ['\n'] ∧
    stepLine legacy pyInt pyFloat st (typeContent n typ) =
      .ok ({ st with typ := typ, allowed := (allowedSuffixes typ).map (n ++ ·) }, []) := by
  refine ⟨typeLine_eq n typ, ?_⟩
  subst hst
  rw [stepLine_type legacy pyInt pyFloat st _ ht, openFamily_same]
  rfl

example : TypWord "histogram".toList ∧ TypWord "untyped".toList := by
  repeat rw [String.toList_ofList]
  decide +kernel

/-- **document-level round trip, samples**: for every expressible registry content — families of any of the eight types
from any source (instrumentation classes, `*MetricFamily` helpers, custom collectors whose sample names differ from the
family name), `_created`/`_gsum`/`_gcount` samples moved into trailing gauge families — the exposition parses, and the
parsed families carry exactly the exposed samples (name, label dict, value token, millisecond count), in exposition
order (`exposedSamples`: per family the non-trailing samples, then the trailing groups in sorted suffix order).
`Expressible` = per family: type in METRIC_TYPES, name accepted by `Metric()`; per sample `SampleGood`
(`SampleOK`, the number laws, name accepted by `Metric()`). -/
theorem text_roundtrip_samples (legacy : Bool) (pyInt : Str → Option Int) (pyFloat : Str → Option Nat) (fs : List Family)
    (h : Expressible legacy pyInt pyFloat fs) :
    ∃ fams, textParse legacy pyInt pyFloat (generateLatest fs) = .ok fams ∧
      flatten fams = (exposedSamples fs).map (expSample pyFloat) :=
  Lemmas.TextParse.text_roundtrip_samples legacy pyInt pyFloat fs h

/-- non-vacuity: a counter with an adversarial label value and help and a `_created` sample (moved to a trailing gauge
family), and a gauge with a UTF-8 name holding NaN -/
def exFams : List Family :=
  [⟨"c".toList, "help \\ x\n".toList, "counter".toList, [],
      [⟨"c_total".toList, [("l".toList, "x\"y\\".toList)], "1.0".toList, none, none⟩,
       ⟨"c_created".toList, [], "5.0".toList, none, none⟩]⟩,
   ⟨"é g".toList, [], "gauge".toList, [], [⟨"é g".toList, [], "nan".toList, none, none⟩]⟩]

example : Expressible false (fun _ => none) (fun _ => some 0) exFams := by
  unfold exFams
  repeat rw [String.toList_ofList]
  decide +kernel

example : (exposedSamples exFams).map (·.name) = ["c_total".toList, "c_created".toList, "é g".toList] := by
  -- `exFams` hides many short literals: decoding them is less work than as many rewrites
  decide +kernel

/-- **document-level round trip, families**: for an expressible registry whose families are regular (every sample name
within the suffix set of the written type: counter `_total`; gauge ''; summary '', `_count`, `_sum`; histogram `_bucket`,
`_count`, `_sum`) and whose consecutive written family names differ, the exposition parses to exactly `mungeText fs`:
per exposed family the main family — counter named without the `_total` put on the wire, info as gauge `name_info`,
stateset as gauge, gaugehistogram as histogram, unknown written `untyped` and read `unknown` — followed by one gauge
family `name+suffix` per `_created` / `_gcount` / `_gsum` group, each with the help text up to trailing blanks
(`helpDoc`) and its samples in order -/
theorem text_roundtrip_families (legacy : Bool) (pyInt : Str → Option Int) (pyFloat : Str → Option Nat) (fs : List Family)
    (h : Expressible legacy pyInt pyFloat fs) (hr : ∀ fam ∈ fs, RegularFam fam) (hd : NamesDiffer (fs.flatMap famBlocks)) :
    textParse legacy pyInt pyFloat (generateLatest fs) = .ok (mungeText pyFloat fs) :=
  Lemmas.TextParse.text_roundtrip_families legacy pyInt pyFloat fs h hr hd

example : (∀ fam ∈ exFams, RegularFam fam) ∧ NamesDiffer (exFams.flatMap famBlocks) := by
  decide +kernel

/-- the documented mapping on the example: counter `c` (written `c_total`) comes back as `c`, its `_created` sample as the
trailing gauge `c_created`, the UTF-8 gauge unchanged -/
example : (mungeText (fun _ => some 0) exFams).map (fun f => (f.name, f.typ, f.samples.map (·.name))) =
    [("c".toList, "counter".toList, ["c_total".toList]), ("c_created".toList, "gauge".toList, ["c_created".toList]),
     ("é g".toList, "gauge".toList, ["é g".toList])] := by
  decide +kernel

/-- non-vacuity with a timestamp: a gauge sample exposed with the millisecond count 1500 (1.5 s); `int()` is instantiated
by a function that reads exactly the token `1500` -/
def exFamsTs : List Family :=
  [⟨"g".toList, "h".toList, "gauge".toList, [],
      [⟨"g".toList, [("l".toList, "v\n".toList)], "2.5".toList, some ⟨.flt "1.5".toList, 1500⟩, none⟩]⟩]

theorem intStr_1500 : intStr 1500 = "1500".toList := by
  rw [String.toList_ofList]
  decide +kernel

def exInt (s : Str) : Option Int := if s = "1500".toList then some 1500 else none

example : Expressible false exInt (fun _ => some 0) exFamsTs ∧ (∀ fam ∈ exFamsTs, RegularFam fam) ∧
    NamesDiffer (exFamsTs.flatMap famBlocks) := by
  unfold exFamsTs
  repeat rw [String.toList_ofList]
  decide +kernel

/-- …and the parsed family carries the sample with the millisecond count 1500, to be divided by 1000 -/
example : (mungeText (fun _ => some 0) exFamsTs).map (fun f => (f.name, f.typ, f.samples.map (fun s => (s.name, s.labels, s.ts)))) =
    [("g".toList, "gauge".toList, [("g".toList, [("l".toList, "v\n".toList)], some ⟨.int 1500⟩)])] := by
  unfold exFamsTs
  repeat rw [String.toList_ofList]
  rfl

end PromVerif.Props.C03
