/-
C07, continued — the custom-collector API (`metrics_core.py`: the eight `*MetricFamily` constructors and `add_metric`)
satisfies the precondition `ClaimsCover` of `restricted_is_filter`.

Theorems are about `Model/Families.lean`.  Family objects are arbitrary results of a constructor call that returned
followed by any sequence of `add_metric` calls with any arguments (raising or not — a raising call may have appended
samples); values, timestamps and exemplars are opaque (`α`).  The claimed names are computed by the SAME functions the
registry model of C06/C07 uses (`Model.Registry.familyNames` / `getNames`, i.e. the extracted `type_suffixes` table).

Not covered (by construction of the API, not a gap of the proof): `Metric.add_sample` (`Model.Families.Metric.addSample`)
appends a sample under ANY name — it is documented "internal-only"; a collector using it can emit unclaimed names and
falls under the known finding `C07:undescribed-collector-not-restrictable` only if it also under-describes.
-/
import PromVerif.Lemmas.Families
import PromVerif.Props.C07

namespace PromVerif.Props.C07Families
open PromVerif.Py PromVerif.Model.Families PromVerif.Generated.Families
open PromVerif.Model.Registry (Name MType Collector Op SamplesCovered)

variable {α : Type}

theorem extract_ok : PromVerif.Generated.Families.extractOk = true := by decide

private def exEnv : Env := ⟨false, fun s => if s = ['-', '1'] then some false else if s = ['x'] then none else some true⟩

/-- `HistogramMetricFamily('h', 'help', labels=['l'], unit='sec')` -/
private def exHistCtor : Ctor Nat := .histogram ['h'] ['h', 'e', 'l', 'p'] none none (some [['l']]) ['s', 'e', 'c']

/-- `.add_metric(['a'], [('1.0', 3), ('+Inf', 5, ex)], 7)`, then one with a malformed first bound (raises after the buckets) -/
private def exHistAdds : List (AddCall Nat) :=
  [.histogram [['a']] [⟨['1', '.', '0'], 3, none⟩, ⟨['+', 'I', 'n', 'f'], 5, some 9⟩] (some 7) none,
   .histogram [['b']] [⟨['x'], 1, none⟩] (some 2) (some 4)]

private def exHist0 : Fam Nat :=
  { cls := .histogram, name := ['h', '_', 's', 'e', 'c'], documentation := ['h', 'e', 'l', 'p'], typ := .histogram,
    unit := ['s', 'e', 'c'], samples := [], labelnames := [['l']] }

private theorem exHist0_built : exHistCtor.run exEnv = .ok exHist0 := by rfl

private def exHist : Fam Nat := (runAdds exEnv exHist0 exHistAdds).1

/-- `CounterMetricFamily('c_total', 'help', value=1, created=2)` -/
private def exCounterCtor : Ctor Nat := .counter ['c', '_', 't', 'o', 't', 'a', 'l'] [] (some 1) none (some 2) [] none

/-- every class passes a member of `METRIC_TYPES` to `Metric.__init__`, and it is the type named after the class -/
theorem family_type_of_class (cls : Cls) : resolveType cls.typeLit = some cls.mtype := resolveType_cls cls

/-- **`add_metric` only appends**: after any sequence of calls the samples that were there are still there, unaltered
and in front, and name, type, documentation, unit and label names are unchanged. -/
theorem add_metric_appends (env : Env) (f : Fam α) (adds : List (AddCall α)) :
    (∃ new, (runAdds env f adds).1.samples = f.samples ++ new) ∧ (runAdds env f adds).1.name = f.name ∧
    (runAdds env f adds).1.typ = f.typ ∧ (runAdds env f adds).1.labelnames = f.labelnames ∧
    (runAdds env f adds).1.unit = f.unit ∧ (runAdds env f adds).1.documentation = f.documentation := by
  induction adds generalizing f with
  | nil => exact ⟨⟨[], (List.append_nil _).symm⟩, rfl, rfl, rfl, rfl, rfl⟩
  | cons c cs ih =>
    obtain ⟨⟨new, h1⟩, h2⟩ := ih (addMetric env f c).1
    refine ⟨⟨(newSamples env f c).1 ++ new, ?_⟩, h2⟩
    show (runAdds env (addMetric env f c).1 cs).1.samples = _
    rw [h1, ← List.append_assoc]
    rfl

example : (runAdds exEnv exHist0 exHistAdds).1.samples.take 4 = (runAdds exEnv exHist0 (exHistAdds.take 1)).1.samples := by
  decide +kernel

/-- **Every sample name a family object carries is a name the registry claims for that family.**  For every class,
every name, documentation, labels, unit and value arguments of the constructor (whenever it returns), and EVERY sequence
of `add_metric` calls with any arguments (whether they raise or not): the family's name and type are those the
constructor fixed (`add_metric` never changes them), and every sample name is `family.name ++ suf` with `suf = ""` or
`suf ∈ type_suffixes[family.type]` (the extracted table of `_get_names`) — hence a member of
`Model.Registry.familyNames (name, type)`, the list `_get_names` records for a described family of that name and type. -/
theorem family_sample_names_claimed (env : Env) (ctor : Ctor α) (f0 : Fam α) (adds : List (AddCall α))
    (h : ctor.run env = .ok f0) :
    (runAdds env f0 adds).1.name = f0.name ∧ (runAdds env f0 adds).1.typ = f0.typ ∧
    ∀ s, s ∈ (runAdds env f0 adds).1.samples →
      s.name ∈ PromVerif.Model.Registry.familyNames ((runAdds env f0 adds).1.name, (runAdds env f0 adds).1.typ) ∧
      ∃ suf, s.name = (runAdds env f0 adds).1.name ++ suf ∧
        (suf = [] ∨ suf ∈ PromVerif.Model.Registry.suffixesOf (runAdds env f0 adds).1.typ) := by
  obtain ⟨_, h2, h3, _⟩ := add_metric_appends env f0 adds
  have hw : WF (runAdds env f0 adds).1 := runAdds_wf env adds (ctor_wf h)
  refine ⟨h2, h3, fun s hs => ⟨wf_claimed hw s hs, ?_⟩⟩
  obtain ⟨suf, hsuf, hn⟩ := hw.names s hs
  exact ⟨suf, hn, hw.suffix_claimed hsuf⟩

-- the histogram family of the examples: name `h_sec`, two `_bucket`, `_count`, `_sum`, and the `_bucket` sample the
-- raising call left behind — all claimed
example : (exHist.samples.map (·.name)) =
    [['h', '_', 's', 'e', 'c', '_', 'b', 'u', 'c', 'k', 'e', 't'], ['h', '_', 's', 'e', 'c', '_', 'b', 'u', 'c', 'k', 'e', 't'],
     ['h', '_', 's', 'e', 'c', '_', 'c', 'o', 'u', 'n', 't'], ['h', '_', 's', 'e', 'c', '_', 's', 'u', 'm'],
     ['h', '_', 's', 'e', 'c', '_', 'b', 'u', 'c', 'k', 'e', 't']] ∧
    (runAdds exEnv exHist0 exHistAdds).2 = [none, some .valueError] := by decide +kernel

-- `CounterMetricFamily('c_total', …)`: the family is `c`, the samples `c_total` and `c_created`
example : ∃ f, exCounterCtor.run exEnv = .ok f ∧ f.name = ['c'] ∧
    f.samples.map (·.name) = [['c', '_', 't', 'o', 't', 'a', 'l'], ['c', '_', 'c', 'r', 'e', 'a', 't', 'e', 'd']] :=
  ⟨_, rfl, by decide +kernel, by decide +kernel⟩

/-- **Collectors whose families come from the constructors cover their claims.**  A collector whose `collect()`
returns any number of family objects, each built by one of the eight constructors and any `add_metric` calls, and
which either has no `describe()` and is registered under `auto_describe=True` (names computed from `collect()`), or
whose `describe()` returns families of (at least) the same names and types, emits only sample names that `_get_names`
records for it. -/
theorem family_ctor_claims_cover (env : Env) (ad : Bool) (c : Collector) (fams : List (Fam α))
    (hb : ∀ f, f ∈ fams → Built env f) (hc : c.families = fams.map toFamily)
    (hd : (c.describe = none ∧ ad = true) ∨
          (∃ d, c.describe = some d ∧ ∀ f, f ∈ fams → (f.name, f.typ) ∈ d)) :
    SamplesCovered ad c := by
  intro rf hrf smp hs
  rw [hc] at hrf
  obtain ⟨f, hf, rfl⟩ := List.mem_map.1 hrf
  obtain ⟨s, hs1, hs2⟩ := toFamily_sample hs
  have hcl := wf_claimed (built_wf (hb f hf)) s hs1
  rw [PromVerif.Model.Registry.familyNames_eq] at hcl
  rw [PromVerif.Model.Registry.mem_getNames_iff, hs2]
  unfold PromVerif.Spec.Registry.claims PromVerif.Model.Registry.described
  rcases hd with ⟨hn, rfl⟩ | ⟨d, hdd, hall⟩
  · simp only [hn, if_true, List.mem_flatMap]
    refine ⟨(f.name, f.typ), ?_, hcl⟩
    rw [hc, List.map_map]
    exact List.mem_map.2 ⟨f, hf, rfl⟩
  · simp only [hdd, List.mem_flatMap]
    exact ⟨(f.name, f.typ), hall f hf, hcl⟩

/-- a collector of the kind `family_ctor_claims_cover` speaks about -/
def FamilyCollector (env : Env) (ad : Bool) (c : Collector) : Prop :=
  ∃ (α : Type) (fams : List (Fam α)), (∀ f, f ∈ fams → Built env f) ∧ c.families = fams.map toFamily ∧
    ((c.describe = none ∧ ad = true) ∨ (∃ d, c.describe = some d ∧ ∀ f, f ∈ fams → (f.name, f.typ) ∈ d))

theorem FamilyCollector.covered {env : Env} {ad : Bool} {c : Collector} (h : FamilyCollector env ad c) :
    SamplesCovered ad c := by
  obtain ⟨β, fams, hb, hf, hd⟩ := h
  exact family_ctor_claims_cover env ad c fams hb hf hd

/-- **For registries of such collectors the filter theorem is unconditional**: after any history all of whose
`register` calls are for collectors built on the family constructors (auto-described, or describing what they collect),
`restricted_registry(names).collect()` is the per-sample-name filter of `collect()` (`C07.restricted_is_filter` with its
hypothesis `ClaimsCover` discharged). -/
theorem restricted_is_filter_family_collectors (env : Env) (ad : Bool) (ti : Option PromVerif.Model.Registry.Labels)
    (ops : List Op) (names : List Name) (h : ∀ c, Op.register c ∈ ops → FamilyCollector env ad c) :
    (PromVerif.Model.Registry.restrictedCollect names (PromVerif.Model.Registry.run (PromVerif.Model.Registry.init ad ti) ops).1).families.Perm
      ((PromVerif.Model.Registry.collect (PromVerif.Model.Registry.run (PromVerif.Model.Registry.init ad ti) ops).1).families.filterMap
        (PromVerif.Spec.Registry.restrictTo names)) :=
  PromVerif.Props.C07.restricted_is_filter_covered ad ti ops names fun c hc => (h c hc).covered

private theorem exHist_built : Built exEnv exHist := ⟨exHistCtor, exHist0, exHistAdds, exHist0_built, rfl⟩

/-- a collector without `describe()` returning the example histogram family -/
private def exCollector : Collector := ⟨7, none, [toFamily exHist]⟩

-- the hypotheses are satisfiable: the example collector under auto-describe; its claims and what restriction to
-- `h_sec_count` yields
example : FamilyCollector exEnv true exCollector :=
  ⟨Nat, [exHist], fun _ hf => List.mem_singleton.1 hf ▸ exHist_built, rfl, Or.inl ⟨rfl, rfl⟩⟩

example :
    PromVerif.Model.Registry.getNames true exCollector =
      [['h', '_', 's', 'e', 'c'], ['h', '_', 's', 'e', 'c', '_', 'b', 'u', 'c', 'k', 'e', 't'],
       ['h', '_', 's', 'e', 'c', '_', 's', 'u', 'm'], ['h', '_', 's', 'e', 'c', '_', 'c', 'o', 'u', 'n', 't'],
       ['h', '_', 's', 'e', 'c', '_', 'c', 'r', 'e', 'a', 't', 'e', 'd']] ∧
    ((PromVerif.Model.Registry.restrictedCollect [['h', '_', 's', 'e', 'c', '_', 'c', 'o', 'u', 'n', 't']]
        (PromVerif.Model.Registry.run (PromVerif.Model.Registry.init true none) [.register exCollector]).1).families.map
      (fun f => f.samples.map (·.name))) = [[['h', '_', 's', 'e', 'c', '_', 'c', 'o', 'u', 'n', 't']]] := by decide +kernel

/-- **The `_count` of a histogram family is its last bucket.**  A sample named `<name>_count` appended by
`HistogramMetricFamily.add_metric(labels, buckets, sum_value, timestamp)` carries the value of the LAST bucket
(`buckets[-1][1]`), the zipped labels without `le`, the call's timestamp and no exemplar; and it exists only when
`sum_value is not None` and `float(buckets[0][0]) >= 0`. -/
theorem histogram_family_count_is_last_bucket (env : Env) (f : Fam α) (labels : List Name) (buckets : List (Bucket α))
    (sumValue timestamp : Option α) (s : Sample α)
    (hs : s ∈ (HistogramMetricFamily.addMetric env f labels buckets sumValue timestamp).1)
    (hn : s.name = f.name ++ histogramCount) :
    ∃ bl, buckets.getLast? = some bl ∧ s.value = .obj bl.value ∧ s.labels = zipDict f.labelnames labels ∧
      s.timestamp = timestamp ∧ s.exemplar = none ∧ sumValue.isSome = true ∧
      ∃ b0, buckets.head? = some b0 ∧ env.floatGe0 b0.le = some true := by
  have hbc : histogramBucket ≠ histogramCount := by decide
  have hsc : histogramSum ≠ histogramCount := by decide
  obtain ⟨tail, h, htail⟩ := histogram_shape env f labels buckets sumValue timestamp
  rw [h] at hs
  rcases List.mem_append.1 hs with hs | hs
  · obtain ⟨b, _, rfl⟩ := List.mem_map.1 hs
    exact absurd (List.append_cancel_left hn) hbc
  · rcases htail with rfl | ⟨bl, sv', b0, h1, rfl, h3, h4, rfl⟩
    · cases hs
    · rcases List.mem_cons.1 hs with rfl | hs
      · exact ⟨bl, h1, rfl, rfl, rfl, rfl, rfl, b0, h3, h4⟩
      · cases List.mem_singleton.1 hs
        exact absurd (List.append_cancel_left hn) hsc

-- in the example family the `_count` sample has the value 5 of the `+Inf` bucket
example : (exHist.samples.filter (fun s => s.name = exHist.name ++ histogramCount)).map (·.value) = [.obj 5] := by decide +kernel

/-- **Labels are the zipped label names and values plus the class's extra label.**  Every sample appended by an
`add_metric(labels, …)` call carries `dict(zip(_labelnames, labels) + extra)` where `extra` is nothing, or — for the
two histogram classes — `le = <bound of one of the buckets>`, for info the `value` dict, for a state set
`<family name> = <one of the states>`; when the resulting keys are distinct the dict is that list itself, in that order
(so the label names are the declared label names followed by the extra one).
For `StateSetMetricFamily` this needs `len(labels) == len(_labelnames)`: the code zips
`_labelnames + (name,)` with `labels + (state,)`, so with fewer (or more) label values the state lands under a declared
label name (`stateset_label_count_needed`).  For the other classes a wrong number of values is silently truncated by
`zip`, which the statement covers as is. -/
theorem family_labels_are_zip (env : Env) (f : Fam α) (c : AddCall α)
    (hlen : c.isStateset = true → c.labels.length = f.labelnames.length) (s : Sample α)
    (hs : s ∈ (newSamples env f c).1) :
    ∃ extra, extra ∈ extraLabelChoices f c ∧ s.labels = mkDict (f.labelnames.zip c.labels ++ extra) ∧
      (((f.labelnames.zip c.labels ++ extra).map Prod.fst).Nodup → s.labels = f.labelnames.zip c.labels ++ extra) := by
  obtain ⟨extra, h1, h2⟩ := (newSamples_fits env f c s hs).labels hlen
  exact ⟨extra, h1, h2, fun hn => by rw [h2, mkDict_of_nodup _ hn]⟩

example : exHist.samples.map (·.labels) =
    [[(['l'], ['a']), (['l', 'e'], ['1', '.', '0'])], [(['l'], ['a']), (['l', 'e'], ['+', 'I', 'n', 'f'])],
     [(['l'], ['a'])], [(['l'], ['a'])], [(['l'], ['b']), (['l', 'e'], ['x'])]] := by decide +kernel

/-- `StateSetMetricFamily('e', 'help', labels=['a', 'b'])` -/
private def exState0 : Fam Nat :=
  { cls := .stateset, name := ['e'], documentation := [], typ := .stateset, unit := [], samples := [],
    labelnames := [['a'], ['b']] }

/-- **The label-count hypothesis of `family_labels_are_zip` is needed for state sets** (candidate finding
`C07:family-stateset-label-count`): `StateSetMetricFamily('e', '', labels=['a', 'b']).add_metric(['x'], {'on': True})`
yields the sample `e{a="x", b="on"}` — the state sits under the declared label `b`, and the label `e` that identifies
the state is missing. -/
theorem stateset_label_count_needed :
    (StateSetMetricFamily.init exEnv ['e'] [] none (some [['a'], ['b']]) : PyM (Fam Nat)) = .ok exState0 ∧
    ((addMetric exEnv exState0 (.stateset [['x']] [(['o', 'n'], true)] none)).1.samples.map (·.labels))
      = [[(['a'], ['x']), (['b'], ['o', 'n'])]] := by
  constructor
  · rfl
  · decide +kernel

-- with the right number of values the state is under the family name, states in sorted order
example : ((addMetric exEnv exState0 (.stateset [['x'], ['y']] [(['o', 'n'], true), (['o', 'f', 'f'], false)] none)).1.samples.map
      (fun s => (s.labels, s.value)))
    = [([(['a'], ['x']), (['b'], ['y']), (['e'], ['o', 'f', 'f'])], .int 0),
       ([(['a'], ['x']), (['b'], ['y']), (['e'], ['o', 'n'])], .int 1)] := by decide +kernel

end PromVerif.Props.C07Families
