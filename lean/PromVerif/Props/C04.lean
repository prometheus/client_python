/-
C04 — OpenMetrics exposition and parser are mutually inverse.

Models (owned by other properties, used here unchanged): `Model.OMExpo` (`openmetrics/exposition.py`), `Model.OMParse`
(`openmetrics/parser.py`, generic over the number parameters `Params`), `Model.ParseCore`, `Model.Escape`,
`Model.Validation`, `Model.Utils`.  The escape chains, name patterns, suffix tables and the exemplar limit are the ones
re-extracted from the source on every run (`Generated.*`).

"Timestamp equal" in every statement below means EQUAL TO THE NANOSECOND AFTER TRUNCATION: a plain-decimal float timestamp denotes its
decimal text cut after the ninth fractional digit (that is all the wire format's `Timestamp` carries), so the parser's own
truncation (`parts[1][:9]`) cannot make a difference by definition — a mutant that ROUNDS or mis-scales (harness mutation (b)) does.
It is not Python equality: `Timestamp(1, 500000000) != 1.5` for `Timestamp.__eq__` / `Metric.__eq__`; the property compares the
instant.

Every theorem quantifies over ALL strings (no length bound).  Numbers are tokens: a value is exposed as
`floatToGoString(repr(float(v)))` and read back by the parameters `pyInt`, `pyFloat`; the laws used are hypotheses
(`ValTok`: `int()` refuses the token, `float()` reads it as `b`; `IntLaw`: `int()` on ASCII digit strings).  Timestamps are
compared by DENOTED VALUE (`Spec.OMRoundtrip.tsDenote` / `otsDenote`): the wire format carries seconds with nine
fractional digits, so `1.5` comes back as `Timestamp(1, 500000000)`.

Line level (all proved, no finding left open at this level)
  om_help_roundtrip, om_labels_roundtrip, om_labels_roundtrip_named, om_timestamp_roundtrip, om_exemplar_roundtrip,
  om_sample_line_roundtrip, not_nh_on_rendered_line.
Domain of the line level: label names accepted by the library's own `_validate_labelname` (`LabelsOK`, as in C03 — names it rejects
reach the exposition unvalidated: known finding F20b); finite timestamps (`TsOK`: every `int`, every `Timestamp` object, every
finite `float`; `nan`/`inf` float timestamps are written by the exposition and rejected by the parser ON PURPOSE — "Invalid
timestamp" — so they are rule content, not a defect).

Repaired in /repo while this property was built; each repair is a T1 flag the model branches on, the theorems below use it
through `decide`, so reverting a fix breaks them and the harness produces the input:
* F18 (bc8d08a, `remEscapeAware`)  the exemplar state machine flipped its in-quotes flag on every '"', also an escaped one:
  `c.inc(1, {'a': 'x"y'})` → `c_total 1.0 # {a="x\"y"} 1.0` → ValueError.  Regression: `exemplar_quote_regression`.
* F10 (7b52129, `stampAbsNsec`)  `Timestamp(sec < 0, nsec ≠ 0)` was written `-1.-500000000`.  Regression:
  `negative_timestamp_regression` (expose → parse of `Timestamp(-3, 5)`, parse → expose → parse of `a 1 -1.5`).
* F10b, F28 (64745db, `tsFracStrict`)  `-0.5` was read as `Timestamp(0, 500000000)` = +0.5; `1.234567891e-05` as
  `Timestamp(1, 234567891)`.  Both now stay floats.  Regressions: `negative_subsecond_regression`, `exponent_timestamp_regression`.
Open (known finding):
* F17  `count_without_sum_counterexample` — a histogram group with a negative bound and a `_count` is rejected with and
  without `_sum`, and the in-process `Histogram` exposes exactly `_count` without `_sum` for negative bounds.
-/
import PromVerif.Lemmas.OMRtRef
import PromVerif.Lemmas.OMRtFam
import PromVerif.Props.C15

set_option autoImplicit false

namespace PromVerif.Props.C04
open PromVerif.Py PromVerif.Model PromVerif.Model.Escape PromVerif.Model.ParseCore PromVerif.Model.Validation
open PromVerif.Model.OMParse PromVerif.Spec.OMRoundtrip
open PromVerif.Lemmas.TextParse PromVerif.Lemmas.OMRt

attribute [local instance] decEqExcept

/-- the extractor found the escape chains, the name patterns, the number rendering and every parser site -/
theorem extract_ok : PromVerif.Generated.Expo.extractOk = true ∧ PromVerif.Generated.Validation.extractOk = true ∧
    PromVerif.Generated.OMParse.extractOk = true ∧ PromVerif.Generated.Utils.extractOk = true := by decide +kernel

/-- **`_unescape_help(_escape(doc)) == doc`** for every help text (the OpenMetrics HELP line escapes backslash, line feed
and double quote; the parser's `_unescape_help` undoes exactly these) -/
theorem om_help_roundtrip (doc : Str) : unescapeHelp (escape doc) = doc := unescapeHelp_escape doc

example : escape cs!"a\\n\n\"q\" \\" = cs!"a\\\\n\\n\\\"q\\\" \\\\" := by decide +kernel
example : unescapeHelp cs!"a\\\\n\\n\\\"q\\\" \\\\" = cs!"a\\n\n\"q\" \\" := by decide +kernel

/-- **`parse_labels(…, openmetrics=True)` inverts the label block of the OpenMetrics exposition** — items joined by ',',
any label values (every character, every adjacency, empty), bare or quoted label names, any number of labels -/
theorem om_labels_roundtrip {legacy : Bool} {ls : List (Str × Str)} (h : LabelsOK legacy ls) :
    parseLabels legacy (joinStr [','] ((sortByKey ls).map OMExpo.labelItem)) true = .ok (sortByKey ls) := by
  obtain ⟨hok, hnd⟩ := labelsOK_sortByKey h
  rw [labelItem_eq_text, join_items]
  exact parseLabels_block _ hok hnd

/-- the same with a metric name outside the legacy alphabet: `"name"` or `"name", k="v",…` (comma and blank after the
quoted name) gives the name under `__name__` followed by the labels -/
theorem om_labels_roundtrip_named {legacy : Bool} (n : Str) (hn : isValidLegacyMetricName n = false) {ls : List (Str × Str)}
    (h : LabelsOK legacy ls) :
    parseLabels legacy (escapeMetricName n ++ (if ls.isEmpty then [] else [',', ' ']) ++
      (if ls.isEmpty then [] else joinStr [','] ((sortByKey ls).map OMExpo.labelItem))) true =
      .ok (("__name__".toList, n) :: sortByKey ls) := by
  obtain ⟨hok, hnd⟩ := labelsOK_sortByKey h
  have hq : escapeMetricName n = qname n := by simp [escapeMetricName, hn, qname]
  have hemp : ls.isEmpty = (sortByKey ls).isEmpty := labels_isEmpty_iff ls
  rw [labelItem_eq_text, join_items, hq, hemp]
  have := parseLabels_om_named (legacy := legacy) n (sortByKey ls) hok hnd
  cases hL : sortByKey ls with
  | nil => rw [hL] at this; simpa [spTail] using this
  | cons kv r => rw [hL] at this; simpa [spTail, exBlock] using this

example : LabelsOK false [(cs!"b", cs!"\\\"\n,}"), (cs!"a b", [])] := by decide +kernel
example : joinStr [','] ((sortByKey [(cs!"b", cs!"\\\"\n,}"), (cs!"a b", [])]).map OMExpo.labelItem) =
    cs!"\"a b\"=\"\",b=\"\\\\\\\"\\n,}\"" := by decide +kernel

/-- **the three timestamp forms read back to the same instant** (`tsSame`: equal denoted values, or the very same double):
`int` n → `Timestamp(n, 0)`; every `Timestamp(sec, nsec)` object, written `f"{sec}.{abs(nsec):09d}"`, → the same `Timestamp`; a
float by its `repr` → through the `aaaa.bbbb` branch (plain decimal form: `1.5` → `Timestamp(1, 500000000)`, digits beyond the
ninth dropped) or through `float()` (exponent form; `-0.…`) -/
theorem om_timestamp_roundtrip (P : Params) (hI : IntLaw P.pyInt) (t : Ts) (h : TsOK P t) :
    ∃ o, parseTimestamp P (OMExpo.tsStr t) = .ok (some o) ∧ tsSame P t o :=
  ts_roundtrip P hI t h

theorem intLaw_satisfiable : IntLaw refP.pyInt := refP_intLaw

example : TsOK refP (.int (-5)) ∧ TsOK refP (.stamp 3 5) ∧ TsOK refP (.stamp (-3) (-5)) :=
  ⟨trivial, by unfold TsOK; decide, by unfold TsOK; decide⟩
example : TsOK refP (.flt cs!"-1.5") :=
  Or.inl ⟨true, cs!"1", cs!"5", rfl, by decide, by decide, by decide, by decide, fun _ h => absurd h (by decide)⟩
example : TsOK refP (.flt cs!"-0.5") :=
  Or.inl ⟨true, cs!"0", cs!"5", rfl, by decide, by decide, by decide, by decide, fun _ _ => ⟨1000000005, by decide, by decide, by decide⟩⟩
example : TsOK refP (.flt cs!"1e+16") :=
  Or.inr ⟨by decide, by decide, by decide, 10 ^ 40 + tokCode cs!"1e+16", by decide, by decide, by decide⟩
example : OMExpo.tsStr (.stamp 3 5) = cs!"3.000000005" := by
  simp [OMExpo.tsStr, OMExpo.stampStr, intStr, decDigits_small, zpad]; decide +kernel
example : parseTimestamp refP cs!"3.000000005" = .ok (some (.stamp 3 5)) := by decide +kernel
example : parseTimestamp refP cs!"1.5" = .ok (some (.stamp 1 500000000)) := by decide +kernel
example : tsDenote refP.pyFloat (.flt cs!"1.5") = some (.nanos 1500000000) := by decide +kernel

/-- **F10 repaired (7b52129), kernel-checked regression**: a `Timestamp` with a negative second count and a fraction is written
with ONE minus sign and read back as itself — expose → parse of `Timestamp(-3, 5)` (stored `nsec = -5`), and parse → expose →
parse of the accepted document line `a 1 -1.5` -/
theorem negative_timestamp_regression :
    OMExpo.tsStr (.stamp (-3) (-5)) = cs!"-3.000000005" ∧ parseTimestamp refP cs!"-3.000000005" = .ok (some (.stamp (-3) (-5))) ∧
    parseTimestamp refP cs!"-1.5" = .ok (some (.stamp (-1) (-500000000))) ∧
    OMExpo.tsStr (.stamp (-1) (-500000000)) = cs!"-1.500000000" ∧
    parseTimestamp refP cs!"-1.500000000" = .ok (some (.stamp (-1) (-500000000))) ∧
    parseTimestamp refP cs!"-1.-500000000" = .error .valueError := by
  refine ⟨?_, by decide +kernel, by decide +kernel, ?_, by decide +kernel, by decide +kernel⟩
  · show OMExpo.stampStr (Int.negSucc 2) (Int.negSucc 4) = _
    simp [OMExpo.stampStr, intStr, decDigits_small, zpad, stampAbs_on]; decide +kernel
  · have h : decDigits 500000000 = cs!"500000000" := by
      simp [decDigits_step, decDigits_small]; decide +kernel
    show OMExpo.stampStr (Int.negSucc 0) (Int.negSucc 499999999) = _
    simp [OMExpo.stampStr, intStr, decDigits_small, zpad, h, stampAbs_on]; decide +kernel

/-- **F10b repaired (64745db), kernel-checked regression**: a negative float timestamp above -1 keeps its sign — it stays the
float `float()` reads -/
theorem negative_subsecond_regression :
    parseTimestamp refP cs!"-0.5" = .ok (some (.flt 1000000005)) ∧ refP.pyFloat cs!"-0.5" = some 1000000005 ∧
    refDecode 1000000005 = .fin (-500000000) ∧ tsDenote refP.pyFloat (.flt cs!"-0.5") = some (.nanos (-500000000)) := by
  decide +kernel

/-- **F28 repaired (64745db), kernel-checked regression**: an exponent-form float timestamp with nine mantissa digits is no
longer read by the `aaaa.bbbb` branch -/
theorem exponent_timestamp_regression :
    parseTimestamp refP cs!"1.234567891e-05" = .ok (some (.flt (10 ^ 40 + tokCode cs!"1.234567891e-05"))) ∧
    refP.pyFloat cs!"1.234567891e-05" = some (10 ^ 40 + tokCode cs!"1.234567891e-05") ∧
    parseTimestamp refP cs!"1.2345678912345678e+16" = .ok (some (.flt (10 ^ 40 + tokCode cs!"1.2345678912345678e+16"))) := by decide +kernel

/-- **a rendered sample line parses back to the sample** — for every combination of {legacy / quoted name} × labels ×
value × {no / int / float / `Timestamp`} timestamp × {no exemplar / exemplar with any label names accepted by
`_validate_exemplar`, any values within the 128-character limit, with or without timestamp}.

Hypotheses: `SampleOKom` — label names accepted by `_validate_labelname` (sample and exemplar), number tokens read as the
parameters say, `TsOK` timestamps (all finite ones), the 128-character limit on the exemplar.  No finding is excluded. -/
theorem om_sample_line_roundtrip (P : Params) (hI : IntLaw P.pyInt) (fam : Family) (s : Sample) (h : SampleOKom P s)
    (helig : s.exemplar.isSome = true → OMExpo.isValidExemplarMetric fam.typ fam.name s.name = true) :
    ∃ body o, OMExpo.sampleLine fam s = .ok (body ++ ['\n']) ∧ parseSample P body = .ok o ∧ SampleMatches P s o := by
  obtain ⟨o, h1, h2⟩ := line_roundtrip P hI s h
  exact ⟨lineBody s, o, sampleLine_eq fam s helig, h1, h2⟩

/-- **the exemplar tail ` # {labels} value [timestamp]` through the character state machine**: after any value token and
optional timestamp, the exemplar comes back with its label set, value and timestamp — label names and values with any
characters, double quotes and backslashes included (the machine follows backslash escaping since bc8d08a) -/
theorem om_exemplar_roundtrip (P : Params) (hI : IntLaw P.pyInt) (value : Str) (ts : Option TsIn) (e : Exemplar)
    (hv : ∃ b, ValTok P (Utils.floatToGoString value) b) (hts : ∀ t, ts = some t → TsOK P t.ts) (he : ExOK P e) :
    ∃ vb ots oex, parseRemainingText P (Utils.floatToGoString value ++ tsPart ts ++ OMExpo.exemplarStr e) =
        .ok (.flt vb, ots, some oex) ∧
      tsMatches P (ts.map (·.ts)) ots ∧ exemplarMatches P (some e) (some oex) := by
  have hs : SampleOKom P ⟨[], [], value, ts, some e⟩ :=
    ⟨⟨by simp, by simp⟩, hv, hts, fun e' he' => by cases he'; exact he⟩
  obtain ⟨vb, ots, oex, h1, _, h3, h4, _⟩ := rem_roundtrip_exact P hI _ hs
  have hshape : lineRem ⟨[], [], value, ts, some e⟩ = Utils.floatToGoString value ++ tsPart ts ++ OMExpo.exemplarStr e := by
    unfold lineRem remText tsPart
    rw [exemplarStr_eq]
    simp
  rw [hshape] at h1
  cases oex with
  | none => exact absurd h4 (by simp [exemplarMatches])
  | some x => exact ⟨vb, ots, x, h1, h3, h4⟩

/-- **the native-histogram detector declines every line the exposition writes for a float-valued sample** — also a bucket
line with an exemplar (the '{' of the exemplar comes after an unquoted '#') -/
theorem not_nh_on_rendered_line (P : Params) (fam : Family) (s : Sample) (h : SampleOKom P s)
    (helig : s.exemplar.isSome = true → OMExpo.isValidExemplarMetric fam.typ fam.name s.name = true) (suffixes : List Str) :
    ∃ body, OMExpo.sampleLine fam s = .ok (body ++ ['\n']) ∧ nhDetect body = .ok none ∧ parseNhSample P body suffixes = .ok none :=
  ⟨lineBody s, sampleLine_eq fam s helig, line_not_nh P s h, parseNhSample_of_detect P _ _ (line_not_nh P s h)⟩

/-- non-vacuity: a bucket of a histogram with a quoted UTF-8 name, adversarial label values, a float timestamp and an exemplar
with a quoted label name, a double quote, a backslash and a line feed in its value and a negative `Timestamp` -/
def exFam : Family := ⟨cs!"h é", cs!"help", cs!"histogram", [], []⟩
def exSample : Sample :=
  ⟨cs!"h é_bucket", [(cs!"le", cs!"1.0"), (cs!"l", cs!"x\\\"\n,} # {")], cs!"3.0", some ⟨.flt cs!"1.5", 1500⟩,
   some ⟨[(cs!"trace id", cs!"a\\b\n\"c}"), (cs!"k\"", [])], cs!"0.5", some (.stamp (-7) (-5))⟩⟩

theorem valTok_ref (tok : Str) (b : Nat) (hne : tok ≠ []) (hc : tok.all Spec.OMRoundtrip.isNumChar = true) (hi : refInt? tok = none)
    (hf : refFloat? tok = some b) : ValTok refP tok b :=
  ⟨hne, fun c hm => List.all_eq_true.mp hc c hm, hi, hf⟩

example : SampleOKom refP exSample := by
  refine ⟨by decide, ⟨_, valTok_ref cs!"3.0" _ (by decide) (by decide) (by decide) (by decide : refFloat? cs!"3.0" = some 6000000004)⟩, ?_, ?_⟩
  · intro t ht; cases ht
    exact Or.inl ⟨false, cs!"1", cs!"5", rfl, by decide, by decide, by decide, by decide, fun h => absurd h (by decide)⟩
  · intro e he; cases he
    refine ⟨by decide, by decide, ⟨_, valTok_ref cs!"0.5" _ (by decide) (by decide) (by decide) (by decide : refFloat? cs!"0.5" = some 1000000004)⟩, ?_⟩
    intro t ht; cases ht; unfold TsOK; decide

set_option maxRecDepth 100000 in
example : OMExpo.sampleLine { exFam with } { exSample with exemplar := exSample.exemplar.map (fun e => { e with ts := none }) } =
    .ok cs!"{\"h é_bucket\", l=\"x\\\\\\\"\\n,} # {\",le=\"1.0\"} 3.0 1.5 # {\"k\\\"\"=\"\",\"trace id\"=\"a\\\\b\\n\\\"c}\"} 0.5\n" := by
  decide +kernel

/-- **F18 repaired (bc8d08a), kernel-checked regression**: an exemplar label value with a double quote — written `\"` by the
exposition — is read back (`c.inc(1, {'a': 'x"y'})`); likewise a quoted exemplar label NAME with a quote -/
theorem exemplar_quote_regression :
    OMExpo.sampleLine ⟨cs!"c", [], cs!"counter", [], []⟩ ⟨cs!"c_total", [], cs!"1.0", none, some ⟨[(cs!"a", cs!"x\"y")], cs!"1.0", none⟩⟩ =
      .ok cs!"c_total 1.0 # {a=\"x\\\"y\"} 1.0\n" ∧
    parseSample refP cs!"c_total 1.0 # {a=\"x\\\"y\"} 1.0" =
      .ok ⟨cs!"c_total", some [], some (.flt 2000000004), none, some ⟨[(cs!"a", cs!"x\"y")], .flt 2000000004, none⟩, none⟩ ∧
    OMExpo.sampleLine ⟨cs!"c", [], cs!"counter", [], []⟩ ⟨cs!"c_total", [], cs!"1.0", none, some ⟨[(cs!"a\"b", cs!"v")], cs!"1.0", none⟩⟩ =
      .ok cs!"c_total 1.0 # {\"a\\\"b\"=\"v\"} 1.0\n" ∧
    parseSample refP cs!"c_total 1.0 # {\"a\\\"b\"=\"v\"} 1.0" =
      .ok ⟨cs!"c_total", some [], some (.flt 2000000004), none, some ⟨[(cs!"a\"b", cs!"v")], .flt 2000000004, none⟩, none⟩ ∧
    parseSample refP cs!"c_total 1.0 # {a=\"\\\\\\\"{a=\\\"b\\\"} 1\"} +Inf" =
      .ok ⟨cs!"c_total", some [], some (.flt 2000000004), none, some ⟨[(cs!"a", cs!"\\\"{a=\"b\"} 1")], .flt 1, none⟩, none⟩ := by
  decide +kernel

/-- the parsed family the exposition of `fam` stands for: same name, help, type, unit; per sample what its line parses to -/
def expFamily (P : Params) (fam : Family) : OFamily := ⟨fam.name, fam.doc, fam.typ, fam.unit, fam.samples.map (parsedOf P)⟩

/-- the domain of the document-level theorem: CONTENT THE PARSER'S RULE LAYER ACCEPTS.  The rule layer of the parser — the
per-sample checks (`preChecks`, grouping / timestamp / duplicate handling, `postChecks`) and the per-family checks of
`build_metric` (name clashes, unit, histogram groups, `Metric()`'s own validation), run on the exposed VALUES (no text involved)
— accepts every family and keeps every sample.  An explicit decidable predicate.
Relation to C15: on this domain every C15 rule predicate is absent (`ruleClean_breaks_no_c15_rule`), so C04 and C15 never
contradict each other.  The converse fails: the rule layer also enforces rules that are NOT among C15's — `_count` without `_sum`
(F17, `count_without_sum_counterexample`), `_sum` without `_count`, `_sum` next to negative bounds, a negative `_gsum` next to
non-negative bounds, `le="inf"` not spelled `+Inf`, a group resumed after another one, a series repeated at one timestamp
(silently dropped).  Content of these kinds is expressible through the public API, breaks no C15 rule, and does not round-trip:
the known gap between "breaks no C15 rule" and `RuleClean` (harness signatures `C04:parser-only-rule:*` and
`C04:negative-bound-count-without-sum`, with witnesses on the real code). -/
def RuleClean (P : Params) (fs : List Family) : Prop :=
  rulesOnly P (fs.map (fun fam => (fam, fam.samples.map (parsedOf P)))) = .ok (fs.map (expFamily P))

instance (P : Params) (fs : List Family) : Decidable (RuleClean P fs) := by unfold RuleClean; infer_instance

/-- expressible through the public API: per family `FamOK` (name and type `Metric()` accepts, unit without line feed, every
sample within the line-level domain, carrying an exemplar only where the exposition accepts one, named within the suffix set
of the type), consecutive families with different names -/
def Expressible (P : Params) (fs : List Family) : Prop := (∀ fam ∈ fs, FamOK P fam) ∧ AdjDiffer fs

def ExpressibleOM (P : Params) (fs : List Family) : Prop := Expressible P fs ∧ RuleClean P fs

/-- equality of an exposed and a parsed family on name, help, type, unit and every sample field -/
def FamilyMatches (P : Params) (fam : Family) (f : OFamily) : Prop :=
  f.name = fam.name ∧ f.doc = fam.doc ∧ f.typ = fam.typ ∧ f.unit = fam.unit ∧ Forall2 (SampleMatches P) fam.samples f.samples

/-- **document level: parsing the OpenMetrics exposition yields the exposed families** — any number of families of any of
the eight types, legacy or quoted UTF-8 names, units, `_created`, the three timestamp forms, exemplars: every family comes
back with its name, help, type, unit and every sample with name, label set, value, timestamp (by denoted value) and exemplar.

Intermediate result `doc_parse` (no rule hypothesis): `omParse (generateLatest fs) = rulesOnly …`, i.e. tokenisation, metadata
handling and the family state machine are inverse to the exposition and what is left is the rule layer on the exposed values.

`_partial`, what is missing:
* the domain is "content the parser's rule layer accepts" (`RuleClean`), not "content that breaks no C15 rule": the first implies
  the second (`ruleClean_breaks_no_c15_rule`), the parser-only rules listed at `RuleClean` are the gap;
* `AdjDiffer` (consecutive families with different names) is required by the format (a repeated name continues the family);
  clashes through suffixes are part of `RuleClean` (`build_metric`'s seen_names).  F17 lives exactly here: the in-process
  `Histogram` with a negative first bound is `Expressible` but not `RuleClean` although it breaks no C15 rule
  (`count_without_sum_counterexample`). -/
theorem om_roundtrip_partial (P : Params) (hI : IntLaw P.pyInt) (fs : List Family) (h : ExpressibleOM P fs) :
    ∃ text fs', OMExpo.generateLatest fs = .ok text ∧ omParse P text = .ok fs' ∧ Forall2 (FamilyMatches P) fs fs' := by
  obtain ⟨⟨hok, hadj⟩, hrc⟩ := h
  obtain ⟨text, h1, _, h2⟩ := doc_parse P hI fs hok hadj
  refine ⟨text, fs.map (expFamily P), h1, by rw [h2]; exact hrc, ?_⟩
  apply forall2_map
  intro fam hf
  refine ⟨rfl, rfl, rfl, rfl, ?_⟩
  apply forall2_map
  intro s hs
  exact (parsedOf_spec P hI s ((hok fam hf).samples s hs).1).2

/-- the same without the rule hypothesis: what the parser does with an exposition is decided by its rule layer alone -/
theorem om_exposition_parse (P : Params) (hI : IntLaw P.pyInt) (fs : List Family) (h : Expressible P fs) :
    ∃ text, OMExpo.generateLatest fs = .ok text ∧
      omParse P text = rulesOnly P (fs.map (fun fam => (fam, fam.samples.map (parsedOf P)))) := by
  obtain ⟨text, h1, _, h2⟩ := doc_parse P hI fs h.1 h.2
  exact ⟨text, h1, h2⟩

/-- non-vacuity: a counter with an adversarial label value and help, an exemplar with a float timestamp and a `_created` sample,
followed by a gauge with a quoted UTF-8 name, a unit, a NaN value and a float timestamp -/
def exFams : List Family :=
  [⟨cs!"c", cs!"help \\ x\n\"q\"", cs!"counter", [],
      [⟨cs!"c_total", [(cs!"l", cs!"x\"y\\")], cs!"1.0", none, some ⟨[(cs!"trace id", cs!"a\\b")], cs!"0.5", some (.flt cs!"7.25")⟩⟩,
       ⟨cs!"c_created", [(cs!"l", cs!"x\"y\\")], cs!"5.0", none, none⟩]⟩,
   ⟨cs!"é g_seconds", [], cs!"gauge", cs!"seconds", [⟨cs!"é g_seconds", [], cs!"nan", some ⟨.flt cs!"1.5", 1500⟩, none⟩]⟩]

theorem valTok_ref' (repr : Str) (b : Nat) (hne : Utils.floatToGoString repr ≠ [])
    (hc : (Utils.floatToGoString repr).all Spec.OMRoundtrip.isNumChar = true) (hi : refInt? (Utils.floatToGoString repr) = none)
    (hf : refFloat? (Utils.floatToGoString repr) = some b) : ∃ b, ValTok refP (Utils.floatToGoString repr) b :=
  ⟨b, valTok_ref _ b hne hc hi hf⟩

set_option maxRecDepth 100000 in
example : ExpressibleOM refP exFams := by
  refine ⟨⟨?_, ⟨by decide, trivial⟩⟩, by decide +kernel⟩
  intro fam hf
  simp only [exFams, List.mem_cons, List.not_mem_nil, or_false] at hf
  rcases hf with rfl | rfl
  · refine ⟨by decide, by decide, by decide, ?_⟩
    intro s hs
    simp only [List.mem_cons, List.not_mem_nil, or_false] at hs
    rcases hs with rfl | rfl
    · refine ⟨⟨by decide, valTok_ref' cs!"1.0" 2000000004 (by decide) (by decide) (by decide) (by decide), ?_, ?_⟩, by decide, by decide⟩
      · intro t ht; cases ht
      · intro e he; cases he
        refine ⟨by decide, by decide, valTok_ref' cs!"0.5" 1000000004 (by decide) (by decide) (by decide) (by decide), ?_⟩
        intro t ht; cases ht
        exact Or.inl ⟨false, cs!"7", cs!"25", rfl, by decide, by decide, by decide, by decide, fun h => absurd h (by decide)⟩
    · refine ⟨⟨by decide, valTok_ref' cs!"5.0" 10000000004 (by decide) (by decide) (by decide) (by decide), ?_, ?_⟩, by decide, by decide⟩
      · intro t ht; cases ht
      · intro e he; cases he
  · refine ⟨by decide, by decide, by decide, ?_⟩
    intro s hs
    simp only [List.mem_cons, List.not_mem_nil, or_false] at hs
    subst hs
    refine ⟨⟨by decide, valTok_ref' cs!"nan" 0 (by decide) (by decide) (by decide) (by decide), ?_, ?_⟩, by decide, by decide⟩
    · intro t ht; cases ht
      exact Or.inl ⟨false, cs!"1", cs!"5", rfl, by decide, by decide, by decide, by decide, fun h => absurd h (by decide)⟩
    · intro e he; cases he

set_option maxRecDepth 100000 in
example : OMExpo.generateLatest exFams = .ok cs!"# HELP c help \\\\ x\\n\\\"q\\\"\n# TYPE c counter\nc_total{l=\"x\\\"y\\\\\"} 1.0 # {\"trace id\"=\"a\\\\b\"} 0.5 7.25\nc_created{l=\"x\\\"y\\\\\"} 5.0\n# HELP \"é g_seconds\" \n# TYPE \"é g_seconds\" gauge\n# UNIT \"é g_seconds\" seconds\n{\"é g_seconds\"} NaN 1.5\n# EOF\n" := by
  decide +kernel

/-- the F17 shape: a histogram family with a negative bound as the in-process `Histogram` exposes it (`_count`, no `_sum`), and
with a `_sum` added -/
def f17Fam (withSum : Bool) : Family :=
  ⟨cs!"h", cs!"h", cs!"histogram", [],
    [⟨cs!"h_bucket", [(cs!"le", cs!"-1.0")], cs!"0.0", none, none⟩, ⟨cs!"h_bucket", [(cs!"le", cs!"+Inf")], cs!"1.0", none, none⟩,
     ⟨cs!"h_count", [], cs!"1.0", none, none⟩] ++ (if withSum then [⟨cs!"h_sum", [], cs!"0.5", none, none⟩] else [])⟩

/-- **F17, kernel-checked**: the exposition of a histogram with a negative first bound and a `_count` is rejected by the
parser whether or not a `_sum` is written (without: `_sum/_gsum must be present if _count is present`; with: `Cannot have _sum
with negative buckets`); only the helper's shape — neither `_count` nor `_sum` — is accepted.  The in-process `Histogram`
exposes the first shape (C01 requires `_count`), so its own exposition does not parse -/
theorem count_without_sum_counterexample :
    OMExpo.generateLatest [f17Fam false] =
      .ok cs!"# HELP h h\n# TYPE h histogram\nh_bucket{le=\"-1.0\"} 0.0\nh_bucket{le=\"+Inf\"} 1.0\nh_count 1.0\n# EOF\n" ∧
    omParse refP cs!"# HELP h h\n# TYPE h histogram\nh_bucket{le=\"-1.0\"} 0.0\nh_bucket{le=\"+Inf\"} 1.0\nh_count 1.0\n# EOF\n" = .error .valueError ∧
    omParse refP cs!"# HELP h h\n# TYPE h histogram\nh_bucket{le=\"-1.0\"} 0.0\nh_bucket{le=\"+Inf\"} 1.0\nh_count 1.0\nh_sum 0.5\n# EOF\n" = .error .valueError ∧
    (omParse refP cs!"# HELP h h\n# TYPE h histogram\nh_bucket{le=\"-1.0\"} 0.0\nh_bucket{le=\"+Inf\"} 1.0\n# EOF\n").toOption.isSome = true ∧
    (omParse refP cs!"# HELP h h\n# TYPE h histogram\nh_bucket{le=\"1.0\"} 0.0\nh_bucket{le=\"+Inf\"} 1.0\nh_count 1.0\nh_sum 0.5\n# EOF\n").toOption.isSome = true := by
  decide +kernel

open PromVerif.Spec.OMRules in
/-- **`RuleClean` implies that none of the C15 rules is broken** — one direction of the link between the decidable predicate and
the declarative rule predicates of `Spec/OMRules.lean`, for every rule that has a document-level theorem in C15: on the
tokenised lines of the exposition (`docTokens`, which ARE `map parseLine ∘ docLines` of the exposed text: `om_exposition_tokens`)
no rule predicate holds.  (Each C15 theorem says "rule broken ⇒ the family state machine raises"; `RuleClean` says it does not.)
The converse — no rule broken ⇒ `RuleClean` — is not proved: it needs completeness of the C15 rule list with respect to the
parser's checks, and F17 shows the list is NOT complete (`_count` without `_sum` is rejected but is not among the rules). -/
theorem ruleClean_breaks_no_c15_rule (P : Params) (hI : IntLaw P.pyInt) (fs : List Family) (h : ExpressibleOM P fs) :
    let ls := docTokens P fs
    ¬ MissingEOF ls ∧ ¬ ContentAfterEOF ls ∧ ¬ BlankLine ls ∧ ¬ RepeatedMetadata ls ∧ ¬ LateMetadata ls ∧
    ¬ InterleavedFamilies ls ∧ ¬ ClashingFamilies ls ∧ ¬ UnitNotSuffix ls ∧ ¬ UnitOnInfoOrStateset ls ∧
    ¬ InfoNotOne P ls ∧ ¬ StatesetBadValue P ls ∧ ¬ StatesetNoLabel ls ∧ ¬ CounterLikeNaN P ls ∧ ¬ CounterLikeNegative P ls ∧
    ¬ QuantileOutOfRange P ls ∧ ¬ CountNotIntegral P ls ∧ ¬ BucketBoundNaN P ls ∧ ¬ ExemplarIneligible ls ∧
    ¬ HistBoundsNotIncreasingDoc P ls ∧ ¬ HistCountsNotCumulativeDoc P ls ∧ ¬ TimestampBackwards P ls ∧ ¬ TimestampPartial ls := by
  obtain ⟨⟨hok, hadj⟩, hrc⟩ := h
  have hass : isError (assemble P (docTokens P fs)) = false := by
    rw [assemble_docTokens P hI fs hok hadj, hrc]; rfl
  have no : ∀ {R : Prop}, (R → isError (assemble P (docTokens P fs)) = true) → ¬ R := fun f r => by
    rw [f r] at hass; cases hass
  exact ⟨no (C15.missing_eof P _), no (C15.content_after_eof P _), no (C15.blank_line P _), no (C15.repeated_metadata P _),
    no (C15.late_metadata P _), no (C15.interleaved_families P _), no (C15.clashing_families P _), no (C15.unit_not_suffix P _),
    no (C15.unit_on_info_or_stateset P _), no (C15.info_not_one P _), no (C15.stateset_bad_value P _), no (C15.stateset_no_label P _),
    no (C15.counter_like_nan P _), no (C15.counter_like_negative P _), no (C15.quantile_out_of_range P _),
    no (C15.count_not_integral P _), no (C15.bucket_bound_nan P _), no (C15.exemplar_ineligible P _),
    no (C15.hist_bounds_not_increasing P _), no (C15.hist_counts_not_cumulative P _), no (C15.timestamp_backwards P _),
    no (C15.timestamp_partial P _)⟩

theorem om_exposition_tokens (P : Params) (hI : IntLaw P.pyInt) (fs : List Family) (h : Expressible P fs) :
    ∃ text, OMExpo.generateLatest fs = .ok text ∧ (docLines text).map (parseLine P) = docTokens P fs := by
  obtain ⟨text, h1, h2, _⟩ := doc_parse P hI fs h.1 h.2
  exact ⟨text, h1, h2⟩

/-- **the converse at line level, for name and labels**: for EVERY accepted sample line (any text `_parse_sample` accepts) the
parsed label dict is again in the domain of the round trip — every label name passed `_validate_labelname` and no name occurs
twice; this is DERIVED from acceptance (`accepted_labels_ok`), not assumed.  Hence for any sample `s` carrying the parsed name and
label dict, the line the exposition writes for `s` parses to a sample with that same name and that same label dict, and agrees
with `s` on value, timestamp and exemplar (`SampleMatches P s o'`).

What this does NOT say (why `_partial`): it does not connect the value, timestamp and exemplar of `s` with those of the parsed
sample `o` — the re-rendering of a parsed number (`1` → `repr(float(1))` = `1.0`) and of a parsed float timestamp goes through
`float()`/`repr()`, which the model carries only as tokens; they enter as the hypotheses `hval`, `hts`, `hex` on the re-rendered
tokens.  So "parse ∘ render ∘ parse = parse" is proved for the name and the label dict of every accepted line, and for `Timestamp`
objects (`om_reparse_timestamp` + `parsed_timestamp_range`: every `Timestamp` the parser builds is a fixed point of
render-then-parse); for values, float timestamps and exemplars it is the forward theorem applied to the re-rendered tokens.  An
exemplar label set containing the metric-name slot (`# {"x"} 1` is accepted and parsed as `{'__name__': 'x'}`) is outside `ExOK`.
The document-level converse is `om_reparse_document_partial` below, up to the rule layer (duplicate suppression: known finding
F30); the harness covers parse → expose → parse on generated and mutated documents. -/
theorem om_reparse_partial (P : Params) (hI : IntLaw P.pyInt) (line : Str) (o : OSample) (hacc : parseSample P line = .ok o)
    (s : Sample) (hname : s.name = o.name) (hlabels : o.labels = some s.labels)
    (hval : ∃ b, ValTok P (Utils.floatToGoString s.value) b) (hts : ∀ t, s.ts = some t → TsOK P t.ts)
    (hex : ∀ e, s.exemplar = some e → ExOK P e) :
    ∃ o', parseSample P (lineBody s) = .ok o' ∧ o'.name = o.name ∧ o'.labels = o.labels.map sortByKey ∧ SampleMatches P s o' := by
  obtain ⟨L, hL, hok⟩ := (parseSample_inv P line o hacc).1
  rw [hlabels] at hL
  cases hL
  obtain ⟨o', h1, h2⟩ := line_roundtrip P hI s ⟨hok, hval, hts, hex⟩
  exact ⟨o', h1, by rw [h2.name, hname], by rw [h2.labels, hlabels]; rfl, h2⟩

/-- every label dict the parser returns for an accepted sample line: names accepted by `_validate_labelname`, no duplicates -/
theorem accepted_labels_ok (P : Params) (line : Str) (o : OSample) (hacc : parseSample P line = .ok o) :
    ∃ L, o.labels = some L ∧ LabelsOK P.legacy L := (parseSample_inv P line o hacc).1

/-- **the timestamp normalisation is idempotent**: every `Timestamp` object (class invariant, `parsed_timestamp_range`) is a fixed
point of render-then-parse -/
theorem om_reparse_timestamp (P : Params) (hI : IntLaw P.pyInt) (s n : Int)
    (h1 : 0 ≤ s → 0 ≤ n ∧ n < 1000000000) (h2 : s < 0 → -1000000000 < n ∧ n ≤ 0) :
    parseTimestamp P (OMExpo.tsStr (.stamp s n)) = .ok (some (.stamp s n)) := parseTimestamp_stamp P hI s n h1 h2

/-- the `Timestamp` objects the parser builds carry the sign of the second count in the nanosecond field: they all satisfy the
hypotheses of `om_reparse_timestamp` -/
theorem parsed_timestamp_range (a b s n : Int) (h : mkTimestamp a b = .ok (.stamp s n)) :
    (0 ≤ s → 0 ≤ n ∧ n < 1000000000) ∧ (s < 0 → -1000000000 < n ∧ n ≤ 0) := mkTimestamp_inv a b _ h

set_option maxRecDepth 100000 in
/-- non-vacuity: an accepted line in a spelling the exposition never writes (blank after the comma, integer value, label order) -/
example : parseSample refP cs!"a{b=\"x\\\"y\", a=\"1\"} 17 1.5" =
    .ok ⟨cs!"a", some [(cs!"b", cs!"x\"y"), (cs!"a", cs!"1")], some (.int 17), some (.stamp 1 500000000), none, none⟩ := by decide +kernel

/-- **(a) the converse at line level, full**: for EVERY accepted sample line (any text `_parse_sample` accepts; it never yields a
native histogram), rendering the parsed sample again — name, label dict (the exposition sorts by key), value through
`repr(float(v))`, timestamp (`Timestamp.__str__` / `repr(float)`), exemplar — and parsing the rendered line gives the same sample:
same name, same label DICT, the value as the double `float(v)`, a `Timestamp` EXACTLY as it was, a float timestamp as the same
instant (`tsSame`: `15e0` comes back as `Timestamp(15, 0)`), the exemplar likewise (`SampleSame`).
Derived from acceptance, not assumed: the label names are valid and unique, every `Timestamp` satisfies the class invariant,
the exemplar's labels are valid, unique and within the 128-character limit.  Hypotheses (`BackLaws`): the number laws for the
PARSED values — `float()` reads `floatToGoString(repr(float(v)))` as `float(v)`, `repr` of a float timestamp lies in the float
grammar and `float()` reads it back — and no exemplar label in the metric-name slot (`# {"x"} 1` is accepted as
`{'__name__': 'x'}`; on the real code that round-trips too, the model's `LabelsOK` does not cover it). -/
theorem om_reparse_line (P : Params) (hI : IntLaw P.pyInt) (R : Rerender) (line : Str) (o : OSample)
    (hacc : parseSample P line = .ok o) (hl : BackLaws P R o) :
    ∃ o', parseSample P (lineBody (sampleBack R o)) = .ok o' ∧ SampleSame P R o o' :=
  reparse_line P hI R line o hacc hl

/-- non-vacuity of (a): the accepted line `a{b="x\"y", a="1"} 17 1.5` (spelling the exposition never writes) with `repr(float(17))` -/
def exR : Rerender := ⟨fun _ => cs!"17.0", fun _ => 34000000004, fun _ => cs!"1.5"⟩
def exParsed : OSample := ⟨cs!"a", some [(cs!"b", cs!"x\"y"), (cs!"a", cs!"1")], some (.int 17), some (.stamp 1 500000000), none, none⟩

example : parseSample refP cs!"a{b=\"x\\\"y\", a=\"1\"} 17 1.5" = .ok exParsed := by decide +kernel
example : BackLaws refP exR exParsed := by
  refine ⟨?_, ?_, ?_, ?_, ?_⟩
  · intro v _
    exact valTok_ref cs!"17.0" 34000000004 (by decide) (by decide) (by decide) (by decide)
  · intro b h; cases h
  · intro e h; cases h
  · intro e b h; cases h
  · intro e h; cases h
example : lineBody (sampleBack exR exParsed) = cs!"a{a=\"1\",b=\"x\\\"y\"} 17.0 1.500000000" := by
  simp [lineBody, lineHead, lineRem, sampleBack, exParsed, exR, tsBack, OMExpo.tsStr, OMExpo.stampStr, intStr, decDigits_small,
    decDigits_step, zpad]
  decide +kernel

/-- **(b) every family the parser returns is expressible again** — `_partial`.  From acceptance alone (`omParse_wf`): the family name
is one `Metric()` accepts, the type is among METRIC_TYPES, a unit suffixes the name, and every float-valued sample is what
`_parse_sample` made of some line, so that all the line-level facts of (a) hold for it.  What is NOT derived and enters through
`BackOK`: `noNH` (the property's exception), `laws` (number laws), and four structural facts —
* `unit` (no line feed in a unit), `eligible` (exemplars only on buckets / `_total`), `adj` (consecutive names differ): true of every
  accepted document (a unit is a piece of one line; `chkExemplar`; `build_metric`'s seen_names), their derivation — three more
  invariants of the line fold — is not done;
* `regular` (sample names within the suffix set of the family's type): FALSE for a stray sample whose name is itself a quoted string
  (finding F32, `stray_quoted_sample_counterexample`): the family gets the twice-unquoted name.
`RuleClean` of the re-rendered families is not derived either: see (c). -/
theorem parsed_family_expressible_partial (P : Params) (R : Rerender) (d : Str) (fs : List OFamily)
    (hacc : omParse P d = .ok fs) (hb : BackOK P R fs) :
    (∀ f ∈ fs, FamWf P f) ∧ Expressible P (fs.map (famBack R)) :=
  ⟨omParse_wf P d fs hacc, famBack_ok P R fs (omParse_wf P d fs hacc) hb, hb.adj⟩

/-- **(c) the converse at document level** — `_partial`: for every accepted document without native-histogram samples, exposing the
parsed families and parsing again reproduces the same families (`FamSame`: name, help, type, unit, every sample by `SampleSame`).
Unconditional part (`reparse_document`): `omParse (generateLatest fs') = rulesOnly …`, i.e. only the parser's rule layer on the
re-rendered values stands between the two parses.  Exactly what is missing:
* `hrc : RuleClean` of the re-rendered families is a hypothesis.  It is NOT a consequence of acceptance: the duplicate suppression
  compares a `Timestamp` and a float as unequal, so `a 1 1.5` / `a 2 1.5e0` is kept as two samples and loses one after
  re-rendering (known finding F30, `mixed_spelling_duplicate_counterexample`); the int → float change of values
  (`1` → `1.0`) also goes through the rule layer again (number semantics, not modelled);
* the `BackOK` fields listed at (b) (`regular` fails on F32). -/
theorem om_reparse_document_partial (P : Params) (hI : IntLaw P.pyInt) (R : Rerender) (d : Str) (fs : List OFamily)
    (hacc : omParse P d = .ok fs) (hb : BackOK P R fs) (hrc : RuleClean P (fs.map (famBack R))) :
    ∃ text fs'', OMExpo.generateLatest (fs.map (famBack R)) = .ok text ∧ omParse P text = .ok fs'' ∧ Forall2 (FamSame P R) fs fs'' := by
  obtain ⟨text, h1, h2, h3⟩ := reparse_document P hI R d fs hacc hb
  exact ⟨text, _, h1, by rw [h2]; exact hrc, h3⟩

/-- **F32, kernel-checked**: a stray sample (no metadata) whose name is itself a quoted string: `{"\"a\""} 1`.  The family is named
by unquoting the sample name AGAIN (`a`), the sample keeps `"a"`; exposed again, the sample no longer belongs to family `a`, opens a
second family `a`, and `build_metric` raises "Clashing name" -/
theorem stray_quoted_sample_counterexample :
    omParse refP cs!"{\"\\\"a\\\"\"} 1\n# EOF\n" =
      .ok [⟨cs!"a", [], cs!"unknown", [], [⟨cs!"\"a\"", some [], some (.int 1), none, none, none⟩]⟩] ∧
    (allowedNames cs!"a" cs!"unknown").contains cs!"\"a\"" = false ∧
    OMExpo.generateLatest [⟨cs!"a", [], cs!"unknown", [], [⟨cs!"\"a\"", [], cs!"1.0", none, none⟩]⟩] =
      .ok cs!"# HELP a \n# TYPE a unknown\n{\"\\\"a\\\"\"} 1.0\n# EOF\n" ∧
    omParse refP cs!"# HELP a \n# TYPE a unknown\n{\"\\\"a\\\"\"} 1.0\n# EOF\n" = .error .valueError := by
  decide +kernel

/-- **F30, kernel-checked**: one series twice at one instant, once in `aaaa.bbbb` and once in float spelling, is kept as two samples;
its re-exposition (both in canonical spelling) parses to ONE sample -/
theorem mixed_spelling_duplicate_counterexample :
    (omParse refP cs!"a 1 1.5\na 2 1.5e0\n# EOF\n").toOption.map (fun fs => fs.map (fun f => f.samples.length)) = some [2] ∧
    (omParse refP cs!"# HELP a \n# TYPE a unknown\na 1.0 1.500000000\na 2.0 1.5\n# EOF\n").toOption.map
      (fun fs => fs.map (fun f => f.samples.length)) = some [1] := by
  decide +kernel

end PromVerif.Props.C04
