/-
C02 — no lost update, error or deadlock under any thread interleaving.

What is proved here is the LOCK PROTOCOL, for any number of threads, any number of calls per thread, any objects and any
schedule: the lock skeletons extracted from the source (T1, `Generated/Locks.lean`) are well locked (evaluated by `decide +kernel`), and every
system of threads whose calls use well-locked skeletons enjoys mutual exclusion, linearisable updates (no lost update),
held-value / monotone reads, one shared child, no "changed size during iteration" error and freedom from deadlock.

What is NOT proved (runtime facts, sampled by the bytecode scheduler `harness/sched.py`, T2): that a thread switch happens
only between bytecodes, that each `load` / `store` of the model is what the bytecode does, that the skeletons list every
shared access, that `threading.Lock` is a non-re-entrant mutex, that a subscript store / `list.append` is one indivisible
bytecode, and `mmap` visibility between threads.  The theorems are statements about the extracted skeletons run by the
interleaving semantics of `Model/Conc.lean`.
-/
import PromVerif.Lemmas.ConcSpec
import PromVerif.Lemmas.ConcFile
import PromVerif.Generated.Registry

namespace PromVerif.Props.C02
open PromVerif.Generated.Locks PromVerif.Model.Conc PromVerif.Spec.Conc

/-- the extractor found every listed method in a shape it understands -/
theorem extract_ok : extractOk = true := by decide

/-- `WellLocked` for every extracted method skeleton of both value back-ends: each read / write / rmw / copy / iterate of a
shared attribute lies inside `with <its guard>`, iteration is over a snapshot or inside the guard, acquisitions respect
registry < parent < value/global, no lock is acquired while held, all scopes are closed -/
theorem generated_well_locked : ∀ bk, (skeletonsOf bk).all (wellLockedB bk) = true := by
  intro bk
  show (skeletonsOf bk).all (fun sk => wellLockedCode bk (blindSet bk sk) (canonCode bk sk)) = true
  simp only [wellLockedCode, closedB_eq_scan]
  cases bk <;> decide +kernel

/-- the collect paths (`registry.collect`, `RestrictedRegistry.collect`, `_multi_samples`) call no user code and yield
nothing while a lock is held -/
theorem collect_paths_release_before_user_code : collectPaths.all noUserInLock = true := by decide +kernel

/-- what a collect hands out by reference (an `Info`'s label dict, the target-info dict) is only ever rebound to a fresh object,
never mutated in place — so a snapshot taken by `collect()` cannot change under the scraper that is still reading it -/
theorem handed_out_values_are_rebound_not_mutated : noInPlaceOnHandedOut inPlace = true := by
  have h : inPlace.all (fun e => !e.2.contains .value && !e.2.contains .targetInfo) = true := by decide +kernel
  simp only [noInPlaceOnHandedOut, List.all_eq_true, Bool.and_eq_true] at h ⊢
  intro e he x hx
  rw [handedOut, List.mem_append, List.mem_singleton] at hx
  rcases hx with hx | rfl
  · split at hx
    · cases List.mem_singleton.mp hx; exact (h e he).1
    · cases hx
  · exact (h e he).2

theorem call_of_generated {U : Type} (bk : Backend) (sk : List Sk) (hsk : sk ∈ skeletonsOf bk)
    (lobj : LockId → Nat) (vobj : Var → Nat) (lab : Var → U) :
    wellLockedCode bk (Call.ofSk bk sk lobj vobj lab).bl0 (Call.ofSk bk sk lobj vobj lab).code0 = true :=
  List.all_eq_true.mp (generated_well_locked bk) sk hsk

section Generic
variable {U V : Type} (ap : U → V → V → V) (blind : U → Bool)

/-- the initial state: thread `i` runs the concatenated code of its calls -/
def world (c0 : ICell → V) (threads : List (List (Call U))) : St ILock ICell U V :=
  init c0 (threads.map progOf)

/-- all updates to cell `X0` the threads will issue, in program order -/
def allStores (c0 : ICell → V) (threads : List (List (Call U))) (X0 : ICell) : List U :=
  pending X0 (world c0 threads).threads

section World
variable (bk : Backend) (threads : List (List (Call U))) (hg : GoodThreads bk blind threads) (c0 : ICell → V)
  (sched : List Tid) (X0 : ICell)
include hg

theorem world_lockInv : LockInv (rankOrder irank) (run ap (world c0 threads) sched) :=
  run_induction _ (fun _ _ _ inv hs => lockInv_step inv hs) sched _
    (lockInv_init _ c0 _ fun p hp => (progs_ok bk blind threads hg p hp).2)

theorem world_dataInv (hblind : ∀ u, blind u = true → ∀ a b c, ap u a c = ap u b c) :
    DataInv (guardOf bk X0) X0 blind ap (c0 X0) (allStores c0 threads X0) (run ap (world c0 threads) sched) :=
  run_induction _ (fun _ _ _ inv hs => dataInv_step hblind inv hs) sched _
    (dataInv_init c0 _ fun p hp => ((progs_ok bk blind threads hg p hp).1 X0).1)

theorem world_iterInv : IterInv (guardOf bk X0) X0 (run ap (world c0 threads) sched) :=
  run_induction _ (fun _ _ _ inv hs => iterInv_step inv hs) sched _
    (iterInv_init c0 _ fun p hp => ((progs_ok bk blind threads hg p hp).1 X0).2)

end World

/-- MUTUAL EXCLUSION.  In every reachable state a lock is on the held stack of at most one thread; the held stack of a
thread is exactly the stack of `with` scopes its continuation is inside of (`wf … t.pc t.held`), and it agrees with the lock
table. -/
theorem mutual_exclusion (bk : Backend) (threads : List (List (Call U))) (hg : GoodThreads bk blind threads)
    (c0 : ICell → V) (sched : List Tid) :
    let s := run ap (world c0 threads) sched
    (∀ (i j : Tid) (ti tj : Thread ILock ICell U V) (l : ILock),
        s.threads[i]? = some ti → s.threads[j]? = some tj → l ∈ ti.held → l ∈ tj.held → i = j) ∧
    (∀ i t, s.threads[i]? = some t →
        wf (rankOrder irank) t.pc t.held = true ∧ ∀ l, l ∈ t.held ↔ s.owner l = some i) := by
  intro s
  have inv := world_lockInv ap blind bk threads hg c0 sched
  refine ⟨fun i j ti tj l hi hj hli hlj => ?_, fun i t ht => ⟨(inv.thr i t ht).1, (inv.thr i t ht).2.2⟩⟩
  -- both are the owner of `l` in the lock table
  exact Option.some.inj ((((inv.thr i ti hi).2.2 l).mp hli).symm.trans (((inv.thr j tj hj).2.2 l).mp hlj))

/-- NO LOST UPDATE.  For every cell `X0`, in every reachable state: the ghost log of `X0` is a linearisation (`LogOk`: each
logged store applied its update to the fold of the earlier ones, each logged load returned that fold), the cell holds the
fold of ALL applied updates in the order the critical sections were entered, and applied ++ still-pending updates is a
permutation of the updates the programs issue — so when all threads have finished, every issued update has been applied
exactly once. -/
theorem no_lost_update (hblind : ∀ u, blind u = true → ∀ a b c, ap u a c = ap u b c)
    (bk : Backend) (threads : List (List (Call U))) (hg : GoodThreads bk blind threads)
    (c0 : ICell → V) (sched : List Tid) (X0 : ICell) :
    let s := run ap (world c0 threads) sched
    s.cell X0 = (applied (s.log X0)).foldr (lin ap) (c0 X0) ∧
    LogOk (lin ap) (c0 X0) (s.log X0) ∧
    (applied (s.log X0) ++ pending X0 s.threads).Perm (allStores c0 threads X0) ∧
    (finished s → (applied (s.log X0)).Perm (allStores c0 threads X0)) := by
  intro s
  have inv := world_dataInv ap blind bk threads hg c0 sched X0 hblind
  refine ⟨inv.cellEq, inv.logOk, inv.perm, fun hf => ?_⟩
  have hp := inv.perm
  rwa [pending_finished X0 hf, List.append_nil] at hp

/-- increments and register-independent stores: `some a` adds `a` to what the thread loaded, `none` stands for a store that
does not depend on it (here: leaves the tracked value alone, as the bookkeeping stores of the mmap back-end do) -/
def incAp {M : Type} (add : M → M → M) : Option M → M → M → M
  | some a, r, _ => add r a
  | none, _, c => c

def incBlind {M : Type} : Option M → Bool := fun u => u.isNone

theorem incBlind_ok {α V : Type} {ap : Option α → V → V → V} (h : ∀ a b c, ap none a c = ap none b c) :
    ∀ u, incBlind u = true → ∀ a b c, ap u a c = ap u b c := by
  intro u hu
  cases u with
  | none => exact h
  | some x => cases hu

/-- corollary for a commutative monoid of increments: when all threads have finished the cell equals the initial value plus
ALL increments issued, whatever the number of threads, of increments and the schedule -/
theorem no_lost_update_sum {M : Type} (add : M → M → M) (assoc : ∀ a b c, add (add a b) c = add a (add b c))
    (comm : ∀ a b, add a b = add b a)
    (bk : Backend) (threads : List (List (Call (Option M)))) (hg : GoodThreads bk incBlind threads)
    (c0 : ICell → M) (sched : List Tid) (X0 : ICell) :
    let s := run (incAp add) (world c0 threads) sched
    finished s → s.cell X0 = (allStores c0 threads X0).foldr (lin (incAp add)) (c0 X0) := by
  intro s hf
  obtain ⟨hc, _, _, hp⟩ := no_lost_update (incAp add) incBlind (incBlind_ok fun _ _ _ => rfl) bk threads hg c0 sched X0
  rw [hc]
  refine List.Perm.foldr_eq' (hp hf) ?_ _
  intro x _ y _ z
  cases x with
  | none => cases y <;> rfl
  | some a =>
    cases y with
    | none => rfl
    | some b =>
      show add (add z a) b = add (add z b) a
      rw [assoc, assoc, comm a b]

/-- READS ARE HELD VALUES.  Every value a load of `X0` returned is a value the cell held, and the held values are exactly
the prefix folds of the linearised updates (nothing else was ever visible). -/
theorem reads_are_held_values (hblind : ∀ u, blind u = true → ∀ a b c, ap u a c = ap u b c)
    (bk : Backend) (threads : List (List (Call U))) (hg : GoodThreads bk blind threads)
    (c0 : ICell → V) (sched : List Tid) (X0 : ICell) :
    let s := run ap (world c0 threads) sched
    (∀ v ∈ readsOf (s.log X0), v ∈ heldValues (c0 X0) (s.log X0)) ∧
    heldValues (c0 X0) (s.log X0) = prefixFolds (lin ap) (c0 X0) (applied (s.log X0)) := by
  intro s
  obtain ⟨_, hl, _, _⟩ := no_lost_update ap blind hblind bk threads hg c0 sched X0
  exact ⟨reads_mem_held _ _ _ hl, held_eq_prefixFolds _ _ _ hl⟩

/-- with updates that never decrease the value (non-negative increments) successive reads never see a decrease
(the read log is newest first) -/
theorem reads_monotone (hblind : ∀ u, blind u = true → ∀ a b c, ap u a c = ap u b c)
    (le : V → V → Prop) (hrefl : ∀ a, le a a) (htrans : ∀ a b c, le a b → le b c → le a c)
    (hinfl : ∀ u v, le v (ap u v v))
    (bk : Backend) (threads : List (List (Call U))) (hg : GoodThreads bk blind threads)
    (c0 : ICell → V) (sched : List Tid) (X0 : ICell) :
    let s := run ap (world c0 threads) sched
    (readsOf (s.log X0)).Pairwise (fun newer older => le older newer) := by
  intro s
  obtain ⟨_, hl, _, _⟩ := no_lost_update ap blind hblind bk threads hg c0 sched X0
  exact Model.Conc.reads_monotone le hrefl htrans (lin ap) hinfl _ _ hl

/-- NO ITERATION ERROR.  "dictionary changed size during iteration" (a store to `X0` by one thread while another has an
iteration over `X0` open) is unreachable. -/
theorem no_iteration_error (bk : Backend) (threads : List (List (Call U))) (hg : GoodThreads bk blind threads)
    (c0 : ICell → V) (sched : List Tid) (X0 : ICell) :
    (run ap (world c0 threads) sched).err X0 = false :=
  (world_iterInv ap blind bk threads hg c0 sched X0).noerr

/-- DEADLOCK FREEDOM.  In every reachable state in which some thread has not finished, some thread can take a step. -/
theorem deadlock_free (bk : Backend) (threads : List (List (Call U))) (hg : GoodThreads bk blind threads)
    (c0 : ICell → V) (sched : List Tid) :
    let s := run ap (world c0 threads) sched
    ¬ finished s → ∃ i, (step ap s i).isSome = true := by
  intro s hnf
  refine lockInv_progress (world_lockInv ap blind bk threads hg c0 sched) 2 ?_ hnf
  intro l
  obtain ⟨k, n⟩ := l
  cases k <;> simp [irank, rank]

end Generic

theorem tbl_le_refl (a : Tbl) : Tbl.le a a := fun _ _ h => h
theorem tbl_le_trans (a b c : Tbl) (h1 : Tbl.le a b) (h2 : Tbl.le b c) : Tbl.le a c :=
  fun k v h => h2 k v (h1 k v h)

theorem ensure_infl (kc : Nat × Nat) (t : Tbl) : Tbl.le t (ensure kc t t) := by
  intro k c h
  unfold ensure
  split
  · exact h
  · next hn =>
    -- `k` is in the table and `kc.1` is not
    have hk : k ≠ kc.1 := fun e => by simp [← e, h] at hn
    simp [List.lookup_cons, beq_false_of_ne hk, h]

theorem ensure_has (kc : Nat × Nat) (t : Tbl) : ((ensure kc t t).lookup kc.1).isSome = true := by
  unfold ensure
  split
  · next h => exact h
  · simp

/-- lookup-or-create (`some (k, c)`) and stores that leave the table alone (`none`: the bookkeeping stores of the child's
value constructor in the multiprocess store, which `labels()` runs under the parent lock) -/
def ensureO : Option (Nat × Nat) → Tbl → Tbl → Tbl
  | some kc, r, c => ensure kc r c
  | none, _, c => c

theorem ensureO_infl (u : Option (Nat × Nat)) (t : Tbl) : Tbl.le t (lin ensureO u t) := by
  cases u with
  | none => exact tbl_le_refl t
  | some kc => exact ensure_infl kc t

/-- ONE SHARED CHILD.  Scope: workloads whose stores to the child tables are lookup-or-create (`labels(k)`) — `remove` / `clear`
legitimately make a later `labels(k)` return a NEW child, so they are outside this theorem (the harness checks identity only on
programs without them).  The value a lookup-or-create leaves in the table is what the call returns its child from.  Any two
lookup-or-create calls for the same key `k` on the same parent `X0`, in any interleaving, in either back-end, return the same
child. -/
theorem one_shared_child (bk : Backend) (threads : List (List (Call (Option (Nat × Nat)))))
    (hg : GoodThreads bk incBlind threads) (c0 : ICell → Tbl) (sched : List Tid) (X0 : ICell) :
    let s := run ensureO (world c0 threads) sched
    ∀ e ∈ writesOf (s.log X0), ∀ e' ∈ writesOf (s.log X0), ∀ k c c', e.2.1 = some (k, c) → e'.2.1 = some (k, c') →
      (e.2.2.lookup k).isSome = true ∧ e.2.2.lookup k = e'.2.2.lookup k := by
  intro s e he e' he' k c c' hk hk'
  obtain ⟨_, hl, _, _⟩ := no_lost_update ensureO incBlind (incBlind_ok fun _ _ _ => rfl) bk threads hg c0 sched X0
  have hle := vals_le_cur Tbl.le tbl_le_refl tbl_le_trans (lin ensureO) ensureO_infl (c0 X0) _ hl
  -- a lookup-or-create leaves `k` in the table, and what it left there is still there in the end
  have key : ∀ e ∈ writesOf (s.log X0), ∀ c, e.2.1 = some (k, c) →
      ∃ a, e.2.2.lookup k = some a ∧ (cur (lin ensureO) (c0 X0) (s.log X0)).lookup k = some a := by
    intro e he c hk
    obtain ⟨w, hw⟩ := writes_spec _ _ _ hl e he
    have h1 : (e.2.2.lookup k).isSome = true := by rw [hw, hk]; exact ensure_has (k, c) _
    obtain ⟨a, ha⟩ := Option.isSome_iff_exists.mp h1
    exact ⟨a, ha, hle.2 e he k a ha⟩
  obtain ⟨a, ha, hca⟩ := key e he c hk
  obtain ⟨b, hb, hcb⟩ := key e' he' c' hk'
  rw [ha, hb]
  exact ⟨rfl, hca.symm.trans hcb⟩

/-- what a collector does from inside its `collect()` while the registry is being collected: register, unregister,
a restricted lookup, and a target-info lookup, all on the registry that is collecting it -/
def reentrantCb : Callee → List CMicro
  | .collect => canonCodeK 1 CollectorRegistry_register ++ canonCodeK 2 CollectorRegistry_unregister ++
                canonCodeK 3 RestrictedRegistry_collect ++ canonCodeK 4 CollectorRegistry_get_target_info
  | _ => []

/-- `registry.collect()` / `restricted.collect()` with such a collector: the callback code is spliced where the skeleton
calls `collector.collect()` -/
def reentrantCollect : List CMicro := compile (canon 0) reentrantCb CollectorRegistry_collect
def reentrantRestrictedCollect : List CMicro := compile (canon 0) reentrantCb RestrictedRegistry_collect

def reentrantBlind : CLabel → Bool
  | (x, 1) => blindSet .mutex CollectorRegistry_register (x, 0)
  | (x, 2) => blindSet .mutex CollectorRegistry_unregister (x, 0)
  | _ => false

/-- the composite calls are well locked: the collect skeletons release the registry lock BEFORE calling the collector, so
the collector's own registry calls find the lock free -/
theorem reentrant_collect_well_locked : ∀ bk,
    wellLockedCode bk reentrantBlind reentrantCollect = true ∧
    wellLockedCode bk reentrantBlind reentrantRestrictedCollect = true := by
  intro bk
  simp only [wellLockedCode, closedB_eq_scan]
  cases bk <;> decide +kernel

/-- a call of `registry.collect()` whose collectors re-enter the registry -/
def reentrantCall {U : Type} (restricted : Bool) (lobj : LockId → Nat) (vobj : Var → Nat) (lab : CLabel → U) : Call U :=
  { code0 := if restricted then reentrantRestrictedCollect else reentrantCollect,
    bl0 := reentrantBlind, lobj := lobj, vobj := vobj, lab := lab }

/-- instance of `deadlock_free`: threads running any mix of generated methods and collects whose collectors register /
unregister / look up from inside `collect()` never block forever -/
theorem reentrant_collect_never_blocks {U V : Type} (ap : U → V → V → V) (blind : U → Bool) (bk : Backend)
    (threads : List (List (Call U)))
    (h : ∀ calls ∈ threads, ∀ c ∈ calls,
      ((∃ sk ∈ skeletonsOf bk, c.code0 = canonCode bk sk ∧ c.bl0 = blindSet bk sk) ∨
        (c.code0 = reentrantCollect ∧ c.bl0 = reentrantBlind) ∨
        (c.code0 = reentrantRestrictedCollect ∧ c.bl0 = reentrantBlind)) ∧
      c.Respects bk ∧ c.BlindOk blind)
    (c0 : ICell → V) (sched : List Tid) :
    let s := run ap (world c0 threads) sched
    ¬ finished s → ∃ i, (step ap s i).isSome = true := by
  apply deadlock_free ap blind bk threads
  intro calls hc c hcc
  obtain ⟨hk, hr, hb⟩ := h calls hc c hcc
  refine ⟨?_, hr, hb⟩
  rcases hk with ⟨sk, hsk, e1, e2⟩ | ⟨e1, e2⟩ | ⟨e1, e2⟩
  · rw [e1, e2]
    exact List.all_eq_true.mp (generated_well_locked bk) sk hsk
  · rw [e1, e2]; exact (reentrant_collect_well_locked bk).1
  · rw [e1, e2]; exact (reentrant_collect_well_locked bk).2

/-- objects: value object `o` (its own lock in memory, the global lock 0 in the multiprocess store) -/
def bindL (o : Nat) : LockId → Nat := fun l => if l = .global then 0 else o
def bindV (o : Nat) : Var → Nat := fun _ => o

/-- `inc(a)` on value object `o` -/
def incCall (bk : Backend) (o a : Nat) : Call (Option Nat) :=
  Call.ofSk bk (match bk with | .mutex => MutexValue_inc | .mmap => MmapedValue_inc) (bindL o) (bindV o)
    (fun x => if x = .value then some a else none)

/-- `get()` on value object `o` -/
def getCall (bk : Backend) (o : Nat) : Call (Option Nat) :=
  Call.ofSk bk (match bk with | .mutex => MutexValue_get | .mmap => MmapedValue_get) (bindL o) (bindV o) (fun _ => none)

theorem ofSk_good {U : Type} (bk : Backend) (blind : U → Bool) (sk : List Sk) (hsk : sk ∈ skeletonsOf bk) (o : Nat)
    (lab : Var → U) (h : ∀ v ∈ needBlind (flatList sk) [], blind (lab v) = true)
    (hc : bk = .mmap → (flatList sk).contains (.call false .childCtor) = true →
      ∀ v ∈ needBlind (flatList MmapedValue_init) [], blind (lab v) = true) :
    wellLockedCode bk (Call.ofSk bk sk (bindL o) (bindV o) lab).bl0 (Call.ofSk bk sk (bindL o) (bindV o) lab).code0 = true ∧
    (Call.ofSk bk sk (bindL o) (bindV o) lab).Respects bk ∧ (Call.ofSk bk sk (bindL o) (bindV o) lab).BlindOk blind := by
  refine ⟨call_of_generated bk sk hsk _ _ _, fun _ => rfl, fun x hx => ?_⟩
  -- the labels assumed blind: those of the skeleton (sub-call 0) and of the spliced child constructor (sub-call 1)
  obtain ⟨v, k⟩ := x
  simp only [Call.ofSk, blindSet] at hx ⊢
  match k, hx with
  | 0, hx => exact h v (by simpa [List.contains_iff_mem] using hx)
  | 1, hx =>
    cases bk with
    | mutex => simp at hx
    | mmap =>
      simp only [Bool.and_eq_true] at hx
      exact hc rfl hx.1 v (by simpa [List.contains_iff_mem] using hx.2)
  | (n + 2), hx => simp at hx

theorem incBlind_ite {α : Type} (x : Var) (u : α) (l : List Var) (hl : ∀ v ∈ l, v ≠ x) :
    ∀ v ∈ l, incBlind (if v = x then some u else none) = true := by
  intro v hv; simp [incBlind, hl v hv]

theorem incCall_good (bk : Backend) (o a : Nat) :
    wellLockedCode bk (incCall bk o a).bl0 (incCall bk o a).code0 = true ∧ (incCall bk o a).Respects bk ∧
    (incCall bk o a).BlindOk incBlind := by
  cases bk
  · exact ofSk_good .mutex incBlind MutexValue_inc (.head _) o _
      (incBlind_ite _ _ _ (by decide)) (fun h => by cases h)
  · exact ofSk_good .mmap incBlind MmapedValue_inc (.tail _ (.head _)) o _
      (incBlind_ite _ _ _ (by decide)) (fun _ h => absurd h (by decide))

theorem getCall_good (bk : Backend) (o : Nat) :
    wellLockedCode bk (getCall bk o).bl0 (getCall bk o).code0 = true ∧ (getCall bk o).Respects bk ∧
    (getCall bk o).BlindOk incBlind := by
  cases bk
  · exact ofSk_good .mutex incBlind MutexValue_get (List.mem_of_getElem? (i := 3) rfl) o _ (fun _ _ => rfl) (fun _ _ _ _ => rfl)
  · exact ofSk_good .mmap incBlind MmapedValue_get (List.mem_of_getElem? (i := 3) rfl) o _ (fun _ _ => rfl) (fun _ _ _ _ => rfl)

/-- COUNTERS, both back-ends, the statement C02 makes about final values — for the extracted lock protocol.
Full property: "for every interleaving at bytecode granularity of the real threads, the final value of each counter equals
the sum of all increments issued".  Proved: the same for the interleaving semantics of the extracted skeletons, any number
of threads, any number of `inc` / `get` calls per thread on any value objects, any schedule.  Missing (hence `_partial`):
the correspondence between the Python bytecode and the micro-steps (switches only between bytecodes; `+=` is
load/add/store; the skeleton lists every shared access; `threading.Lock` is a non-re-entrant mutex; mmap visibility) — that
part is sampled by the scheduler harness, not proved. -/
theorem counters_sum_partial (bk : Backend) (threads : List (List (Nat × Option Nat)))
    (c0 : ICell → Nat) (sched : List Tid) (X0 : ICell) :
    let calls := threads.map (fun t => t.map (fun (oa : Nat × Option Nat) =>
      match oa.2 with | some a => incCall bk oa.1 a | none => getCall bk oa.1))
    let s := run (incAp Nat.add) (world c0 calls) sched
    finished s → s.cell X0 = (allStores c0 calls X0).foldr (lin (incAp Nat.add)) (c0 X0) := by
  intro calls
  refine no_lost_update_sum Nat.add Nat.add_assoc Nat.add_comm bk calls ?_ c0 sched X0
  refine List.forall_mem_map.mpr fun _ _ => List.forall_mem_map.mpr fun oa _ => ?_
  cases oa.2 with
  | none => exact getCall_good bk oa.1
  | some a => exact incCall_good bk oa.1 a

theorem stores_append {L X U : Type} [DecidableEq X] (x : X) (p q : List (Micro L X U)) :
    stores x (p ++ q) = stores x p ++ stores x q := by
  fun_induction stores x p <;> simp [stores, *]

theorem stores_flatten {L X U : Type} [DecidableEq X] (x : X) (ps : List (List (Micro L X U))) :
    stores x ps.flatten = (ps.map (stores x)).flatten := by
  induction ps with
  | nil => rfl
  | cons p r ih => simp [stores_append, ih]

/-- the canonical code of `MmapedValue.inc`; none of its callees runs library code -/
theorem canonCode_mmapInc : canonCode .mmap MmapedValue_inc =
    [.acquire .global, .call false .processIdentifier, .load .pid, .load .value, .store .value (.value, 0),
     .store .timestamp (.timestamp, 0), .load .value, .load .timestamp, .store .file (.file, 0), .release .global] := rfl

theorem stores_incCall (bk : Backend) (o a o' : Nat) :
    stores ((.value, o') : ICell) (incCall bk o a).code = if o = o' then [some a] else [] := by
  cases bk
  · have h : canonCode .mutex MutexValue_inc =
        [.acquire .value, .load .value, .store .value (.value, 0), .release .value] := rfl
    simp only [incCall, Call.code, Call.ofSk, h, List.map, Micro.map, stores, bindV]
    by_cases ho : o = o' <;> simp [ho]
  · simp only [incCall, Call.code, Call.ofSk, canonCode_mmapInc, List.map, Micro.map, stores, bindV]
    by_cases ho : o = o' <;> simp [ho]

/-- thread programs given by the spec -/
def incThreads (bk : Backend) (spec : List (List (Nat × Nat))) : List (List (Call (Option Nat))) :=
  spec.map (fun t => t.map (fun oa => incCall bk oa.1 oa.2))

theorem incThreads_good (bk : Backend) (spec : List (List (Nat × Nat))) : GoodThreads bk incBlind (incThreads bk spec) :=
  List.forall_mem_map.mpr fun _ _ => List.forall_mem_map.mpr fun oa _ => incCall_good bk oa.1 oa.2

/-- the amounts the spec issues to value object `o`, in program order -/
def issued (spec : List (List (Nat × Nat))) (o : Nat) : List Nat :=
  (spec.flatten.filter (fun oa => decide (oa.1 = o))).map (fun oa => oa.2)

theorem flatten_map_ite {α β : Type} (p : α → Prop) [DecidablePred p] (f : α → β) (ls : List (List α)) :
    (ls.map (fun l => (l.map (fun a => if p a then [f a] else [])).flatten)).flatten =
      (ls.flatten.filter (fun a => decide (p a))).map f := by
  rw [List.filter_flatten, List.map_flatten, List.map_map]
  congr 2
  funext l
  induction l with
  | nil => rfl
  | cons a l ih => by_cases h : p a <;> simp [h, ih]

theorem allStores_incThreads (bk : Backend) (spec : List (List (Nat × Nat))) (c0 : ICell → Nat) (o : Nat) :
    allStores c0 (incThreads bk spec) (.value, o) = (issued spec o).map some := by
  unfold allStores world incThreads issued
  rw [pending_init]
  simp only [List.map_map, Function.comp_def, progOf, stores_flatten, stores_incCall]
  exact flatten_map_ite (fun oa : Nat × Nat => oa.1 = o) (fun oa => some oa.2) spec

theorem foldr_incs (c : Nat) (l : List Nat) : (l.map some).foldr (lin (incAp Nat.add)) c = c + l.sum := by
  induction l with
  | nil => rfl
  | cons a r ih =>
    simp only [List.map_cons, List.foldr_cons, ih, List.sum_cons]
    show Nat.add (c + r.sum) a = c + (a + r.sum)
    simp only [Nat.add_eq]; omega

/-- COUNTERS, both back-ends, in terms of the program spec: every thread runs the `inc` calls listed for it (any number of
threads, of calls, of value objects); when all threads have finished, every counter holds its initial value plus the sum of
ALL amounts the spec issues to it, whatever the schedule.
`_partial` for the same reason as above: proved of the extracted lock protocol under the interleaving semantics; the link to
the bytecode is sampled.  That the multiprocess store's FILE holds the same sum is `file_equals_sum_of_issued_partial` below (there the `write file`
step carries the value the thread holds); the real files are checked by the harness oracle `C02:lost-update-in-file`. -/
theorem counter_equals_sum_of_issued_partial (bk : Backend) (spec : List (List (Nat × Nat))) (c0 : ICell → Nat)
    (sched : List Tid) (o : Nat) :
    let s := run (incAp Nat.add) (world c0 (incThreads bk spec)) sched
    finished s → s.cell (.value, o) = c0 (.value, o) + (issued spec o).sum := by
  intro s hf
  have h := no_lost_update_sum Nat.add Nat.add_assoc Nat.add_comm bk (incThreads bk spec) (incThreads_good bk spec) c0 sched
    (.value, o) hf
  rw [h, allStores_incThreads, foldr_incs]

/-- non-vacuity: the spec 1,2 | 3,4 | 5,6 on object 7 issues 21 -/
example : (issued [[(7, 1), (7, 2)], [(7, 3), (9, 100), (7, 4)], [(7, 5), (7, 6)]] 7).sum = 21 := by decide +kernel

/-- the value attribute and its mmap file entry of value object `o` are the two components of the cell `(value, o)` -/
def fileVar (o : Nat) : Var → ICell := fun x => if x = .file then (.value, o) else (x, o)

/-- `inc(a)`: the store to `_value` adds `a` to what was loaded; the store to the file writes what the thread then holds -/
def fileLab {M : Type} (a : M) : CLabel → FU M := fun x =>
  match x.1 with
  | .value => .inc a
  | .file => .fileW
  | _ => .other

/-- the code of `MmapedValue.inc(a)` on value object `o`, from the extracted skeleton -/
def fileIncCode {M : Type} (sk : List Sk) (o : Nat) (a : M) : List (Micro ILock ICell (FU M)) :=
  (compile (canon 0) noCb sk).map (Micro.map (fun l => ((l, bindL o l) : ILock)) (fileVar o) (fileLab a))

theorem fileIncCode_eq {M : Type} (o : Nat) (a : M) :
    fileIncCode MmapedValue_inc o a =
      [.acquire (.global, 0), .call false .processIdentifier, .load (.pid, o), .load (.value, o),
       .store (.value, o) (.inc a), .store (.timestamp, o) .other, .load (.value, o), .load (.timestamp, o),
       .store (.value, o) .fileW, .release (.global, 0)] := by
  have h : compile (canon 0) noCb MmapedValue_inc = _ := canonCode_mmapInc
  simp [fileIncCode, h, Micro.map, fileVar, fileLab, bindL]

/-- the extracted order `rmw _value; write file` inside one `with lock` is what the file theorem rests on: for every target
value object the code of one `inc` is disciplined, in sync (the file write follows the increment before the lock is
released) and issues exactly `+a` and one file write to its own cell -/
theorem fileIncCode_facts {M : Type} (o o' : Nat) (a : M) :
    ClosedP (fun l : ILock => decide (l = (LockId.global, 0))) (fun y : ICell => decide (y = (Var.value, o'))) FU.blind
      (fileIncCode MmapedValue_inc o a) ∧
    sync ((.global, 0) : ILock) ((.value, o') : ICell) (fileIncCode MmapedValue_inc o a) false = true ∧
    stores ((.value, o') : ICell) (fileIncCode MmapedValue_inc o a) = if o = o' then [.inc a, .fileW] else [] := by
  rw [fileIncCode_eq]
  by_cases ho : o = o' <;> simp [ClosedP, discP, endModeP, sync, stores, ho, FU.blind]

/-- thread programs of the spec: lists of `(value object, amount)` increments -/
def filePrograms {M : Type} (spec : List (List (Nat × M))) : List (List (Micro ILock ICell (FU M))) :=
  spec.map (fun t => (t.map (fun oa => fileIncCode MmapedValue_inc oa.1 oa.2)).flatten)

def issuedM {M : Type} (spec : List (List (Nat × M))) (o : Nat) : List M :=
  (spec.flatten.filter (fun oa => decide (oa.1 = o))).map (fun oa => oa.2)

theorem incsOf_filePrograms {M : Type} (spec : List (List (Nat × M))) (c0 : ICell → M × M) (o : Nat) :
    incsOf (pending ((.value, o) : ICell) (init c0 (filePrograms spec)).threads) = issuedM spec o := by
  unfold filePrograms issuedM
  rw [pending_init]
  simp only [List.map_map, Function.comp_def, stores_flatten, incsOf_flatten, (fileIncCode_facts _ o _).2.2]
  have : ∀ oa : Nat × M, incsOf (if oa.1 = o then [FU.inc oa.2, .fileW] else []) = if oa.1 = o then [oa.2] else [] := by
    intro oa; split <;> rfl
  simp only [this]
  exact flatten_map_ite (fun oa : Nat × M => oa.1 = o) (fun oa => oa.2) spec

/-- THE FILE HOLDS THE SUM (file-backed back-end).  Threads run the `inc` calls the spec lists for them, on any value objects;
the file entry of every value starts equal to its in-memory value.  When all threads have finished, the FILE entry of every
value object `o` — and its in-memory value — equals the initial value plus ALL amounts the spec issues to `o`, for any number
of threads and any schedule, in any commutative monoid.  (The write to the file carries the value the thread holds after its
`+=`; the theorem holds because the extracted skeleton keeps `rmw _value; write file` inside one `with lock`: file = value
whenever the lock is free.)  This is the theorem the seeded mutant "write the file after releasing the lock" falsifies — see
`file_write_outside_lock_loses_update`.  `_partial` like the other instance theorems: it is about the extracted protocol under
the interleaving semantics; the harness oracle `C02:lost-update-in-file` checks the real files. -/
theorem file_equals_sum_of_issued_partial {M : Type} (add : M → M → M)
    (assoc : ∀ a b c, add (add a b) c = add a (add b c)) (comm : ∀ a b, add a b = add b a)
    (spec : List (List (Nat × M))) (c0 : ICell → M × M) (hc0 : ∀ o, (c0 (.value, o)).2 = (c0 (.value, o)).1)
    (sched : List Tid) (o : Nat) :
    let s := run (apF add) (init c0 (filePrograms spec)) sched
    finished s →
      (s.cell (.value, o)).2 = (issuedM spec o).foldr (fun a v => add v a) (c0 (.value, o)).1 ∧
      (s.cell (.value, o)).1 = (issuedM spec o).foldr (fun a v => add v a) (c0 (.value, o)).1 := by
  intro s hf
  obtain ⟨dinv, sinv⟩ := fileInv_run (add := add) c0 (hc0 o) (filePrograms spec)
    (List.forall_mem_map.mpr fun _ _ =>
      (closedP_flatten _ _ _ _ (List.forall_mem_map.mpr fun oa _ => (fileIncCode_facts oa.1 o oa.2).1)).1)
    (List.forall_mem_map.mpr fun _ _ =>
      sync_flatten _ _ _ (List.forall_mem_map.mpr fun oa _ => (fileIncCode_facts oa.1 o oa.2).2.1)) sched
  have hfile := syncInv_finished sinv hf
  have hval : (s.cell (.value, o)).1 = (issuedM spec o).foldr (fun a v => add v a) (c0 (.value, o)).1 := by
    have hp := dinv.perm
    rw [pending_finished _ hf, List.append_nil] at hp
    show ((run (apF add) (init c0 (filePrograms spec)) sched).cell (.value, o)).1 = _
    rw [dinv.cellEq, cur, fold_value, ← incsOf_filePrograms spec c0 o]
    refine List.Perm.foldr_eq' (incsOf_perm hp) ?_ _
    intro x _ y _ z
    rw [assoc, assoc, comm x y]
  exact ⟨hfile.trans hval, hval⟩

/-- non-vacuity: 3 threads, spec 1,2 | 3,4 | 5,6 on object 7 (Nat): the run finishes with value = file = 21 -/
example :
    let s := run (apF Nat.add) (init (fun _ => (0, 0)) (filePrograms [[(7, 1), (7, 2)], [(7, 3), (7, 4)], [(7, 5), (7, 6)]]))
      (List.replicate 60 (List.range 3)).flatten
    finishedB s = true ∧ s.cell (.value, 7) = (21, 21) := by decide +kernel

/-- seeded mutant C02-1: `inc()` leaves the lock before `self._file.write_value(key, value, …)` -/
def mutFileOutside : List Sk :=
  [.withLock .global [.callLib .processIdentifier, .read .pid, .rmw .value, .write .timestamp, .read .value], .write .file]

/-- the counter-example the file theorem excludes: with the file write outside the scope the skeleton is not well locked, and
the schedule "t0 increments and is pre-empted before its file write; t1 increments and writes 3; t0 writes its stale 1" ends
with value 3 and FILE 1 — below the sum of the increments issued -/
theorem file_write_outside_lock_loses_update :
    wellLockedB .mmap mutFileOutside = false ∧
    (let s := run (apF Nat.add) (init (fun _ => (0, 0))
        [fileIncCode mutFileOutside 0 1, fileIncCode mutFileOutside 0 2])
        ([0, 0, 0, 0, 0, 0, 0, 0] ++ [1, 1, 1, 1, 1, 1, 1, 1, 1] ++ [0])
     finishedB s = true ∧ s.cell (.value, 0) = (3, 1)) := by decide +kernel

/-- three threads × two increments (1,2 | 3,4 | 5,6) on value object 7 -/
def demoThreads (bk : Backend) : List (List (Call (Option Nat))) :=
  [[incCall bk 7 1, incCall bk 7 2], [incCall bk 7 3, incCall bk 7 4], [incCall bk 7 5, incCall bk 7 6]]

theorem demo_good (bk : Backend) : GoodThreads bk incBlind (demoThreads bk) :=
  incThreads_good bk [[(7, 1), (7, 2)], [(7, 3), (7, 4)], [(7, 5), (7, 6)]]

/-- a round-robin schedule long enough to finish -/
def roundRobin (n k : Nat) : List Tid := (List.replicate k (List.range n)).flatten

/-- non-vacuity: the hypotheses of the meta-theorems are met by 3 threads × 2 increments, in both back-ends; the run finishes
and the cell holds 21 = 1+2+3+4+5+6 -/
example : GoodThreads .mutex incBlind (demoThreads .mutex) := demo_good .mutex
example : GoodThreads .mmap incBlind (demoThreads .mmap) := demo_good .mmap
example : finishedB (run (incAp Nat.add) (world (fun _ => 0) (demoThreads .mutex)) (roundRobin 3 20)) = true ∧
    (run (incAp Nat.add) (world (fun _ => 0) (demoThreads .mutex)) (roundRobin 3 20)).cell (.value, 7) = 21 := by
  decide +kernel
example : finishedB (run (incAp Nat.add) (world (fun _ => 0) (demoThreads .mmap)) (roundRobin 3 60)) = true ∧
    (run (incAp Nat.add) (world (fun _ => 0) (demoThreads .mmap)) (roundRobin 3 60)).cell (.value, 7) = 21 := by
  decide +kernel

/-- `labels(k)` on parent `o`, creating child `c` if the key is absent (in the multiprocess store the child's value
constructor runs under the parent lock and takes the global lock: the nested scope is part of the call's code) -/
def labelsCall (bk : Backend) (o k c : Nat) : Call (Option (Nat × Nat)) :=
  Call.ofSk bk MetricWrapperBase_labels (bindL o) (bindV o) (fun x => if x = .metrics then some (k, c) else none)

theorem labelsCall_good (bk : Backend) (o k c : Nat) :
    wellLockedCode bk (labelsCall bk o k c).bl0 (labelsCall bk o k c).code0 = true ∧ (labelsCall bk o k c).Respects bk ∧
    (labelsCall bk o k c).BlindOk incBlind := by
  cases bk
  · exact ofSk_good .mutex incBlind MetricWrapperBase_labels (List.mem_of_getElem? (i := 5) rfl) o _
      (incBlind_ite _ _ _ (by decide)) (fun h => by cases h)
  · exact ofSk_good .mmap incBlind MetricWrapperBase_labels (List.mem_of_getElem? (i := 4) rfl) o _
      (incBlind_ite _ _ _ (by decide)) (fun _ _ => incBlind_ite _ _ _ (by decide))

/-- the nested acquisition is really there: in the multiprocess store the code of `labels()` acquires the global lock while
holding the parent lock, and `register()` acquires the parent and then the value / global lock while holding the registry
lock (worst-case library `describe`/`collect`) — `generated_well_locked` checks the rank order on these scopes -/
example : ((canonCode .mmap MetricWrapperBase_labels).map (fun m => match m with
      | .acquire l => some (true, l) | .release l => some (false, l) | _ => none)).filterMap id =
    [(true, .parent), (true, .global), (false, .global), (false, .parent)] := by decide +kernel
example : ((canonCode .mutex CollectorRegistry_register).map (fun m => match m with
      | .acquire l => some (true, l) | .release l => some (false, l) | _ => none)).filterMap id =
    [(true, .registry), (true, .parent), (false, .parent), (true, .value), (false, .value), (true, .value), (false, .value),
     (false, .registry)] := by decide +kernel

theorem labels_demo_good (bk : Backend) :
    GoodThreads bk incBlind [[labelsCall bk 3 5 101], [labelsCall bk 3 5 102], [labelsCall bk 3 5 103]] := by
  show GoodThreads bk incBlind ([[101], [102], [103]].map fun t => t.map (labelsCall bk 3 5))
  exact List.forall_mem_map.mpr fun _ _ => List.forall_mem_map.mpr fun c _ => labelsCall_good bk 3 5 c

/-- non-vacuity of `one_shared_child`, both back-ends: three threads call `labels(5)` on parent 3 with three different fresh
children; under the round-robin schedule all three lookup-or-create stores are logged and every one of them left child 101
(the first creator's) in the table -/
example : GoodThreads .mutex incBlind [[labelsCall .mutex 3 5 101], [labelsCall .mutex 3 5 102], [labelsCall .mutex 3 5 103]] :=
  labels_demo_good .mutex
example : GoodThreads .mmap incBlind [[labelsCall .mmap 3 5 101], [labelsCall .mmap 3 5 102], [labelsCall .mmap 3 5 103]] :=
  labels_demo_good .mmap
example :
    (writesOf ((run ensureO (world (fun _ => [])
        [[labelsCall .mutex 3 5 101], [labelsCall .mutex 3 5 102], [labelsCall .mutex 3 5 103]]) (roundRobin 3 30)).log
          (.metrics, 3))).map (fun e => e.2.2.lookup 5) = [some 101, some 101, some 101] := by decide +kernel
example :
    (writesOf ((run ensureO (world (fun _ => [])
        [[labelsCall .mmap 3 5 101], [labelsCall .mmap 3 5 102], [labelsCall .mmap 3 5 103]]) (roundRobin 3 80)).log
          (.metrics, 3))).map (fun e => e.2.2.lookup 5) = [some 101, some 101, some 101] := by decide +kernel

/-! ## The model is not a tidied version of the code: the measured mutations flip `WellLocked`, and the semantics shows the
failure each one causes -/

/-- (a) `MutexValue.inc` without its lock -/
def mutA : List Sk := [.rmw .value]
/-- (b) `labels()` without `with self._lock` around child creation -/
def mutB : List Sk := [.read .metrics, .callLib .childCtor, .write .metrics, .read .metrics]
/-- (c) `_multi_samples` iterating `self._metrics` directly, outside the lock -/
def mutC : List Sk := [.iterate .metrics [.callUser .samples, .yield]]
/-- (d) `registry.collect` without `copy.copy`: the alias is iterated outside the lock -/
def mutD : List Sk :=
  [.withLock .registry [.read .collectorToNames, .read .targetInfo, .read .targetInfo], .yield,
   .iterate .collectorToNames [.callUser .collect, .yield]]
/-- (e) `MmapedValue.inc` without the global lock -/
def mutE : List Sk :=
  [.callLib .processIdentifier, .read .pid, .rmw .value, .write .timestamp, .read .file, .read .value, .read .timestamp]
/-- (f) `registry.collect` yielding from the collectors while still holding the lock -/
def mutF : List Sk :=
  [.withLock .registry [.copy .collectorToNames, .read .targetInfo, .read .targetInfo, .yield, .callUser .collect, .yield]]

theorem mutations_flip_well_locked :
    wellLockedB .mutex mutA = false ∧ wellLockedB .mutex mutB = false ∧ wellLockedB .mutex mutC = false ∧
    wellLockedB .mutex mutD = false ∧ wellLockedB .mmap mutE = false ∧ noUserInLock mutF = false := by
  simp only [wellLockedB, wellLockedCode, closedB_eq_scan]
  decide +kernel

/-- (a) in the semantics: two threads, one unlocked `inc(1)` each; the schedule t0 load, t1 load, t0 store, t1 store loses an
update (final 1, two increments issued) -/
theorem unlocked_inc_loses_update :
    let c : Call (Option Nat) := Call.ofSk .mutex mutA (bindL 7) (bindV 7) (fun _ => some 1)
    let s := run (incAp Nat.add) (world (fun _ => 0) [[c], [c]]) [0, 1, 0, 1]
    finishedB s = true ∧ s.cell (.value, 7) = 1 := by decide +kernel

/-- (f) in the semantics: a collector that calls `register` from inside `collect()` while the registry still holds its lock
blocks forever (one thread is enough) -/
theorem yield_under_lock_deadlocks :
    let code : List CMicro := compile (canon 0) reentrantCb mutF
    let s := run (fun (_ : CLabel) (_ c : Nat) => c) (init (fun _ => 0) [code]) (List.replicate 40 0)
    finishedB s = false ∧ (step (fun (_ : CLabel) (_ c : Nat) => c) s 0).isNone = true := by decide +kernel

/-- (c) in the semantics: `clear()` by another thread while the unlocked iteration over the child table is open raises the
iteration error -/
theorem unlocked_iteration_errors :
    let it : Call (Option Nat) := Call.ofSk .mutex mutC (bindL 3) (bindV 3) (fun _ => none)
    let cl : Call (Option Nat) := Call.ofSk .mutex MetricWrapperBase_clear (bindL 3) (bindV 3) (fun _ => none)
    let s := run (incAp Nat.add) (world (fun _ => 0) [[it], [cl]]) [0, 1, 1, 1]
    s.err (.metrics, 3) = true := by decide +kernel

/-- NOT covered by the property statement, but real: `register()` calls `collector.describe()` (or `collect()` under
`auto_describe`) while HOLDING the registry lock; a collector whose `describe()` itself registers something blocks forever.
The skeleton shows it (`callUser descFunc` inside `withLock registry`), the composite call is not well locked, and the
semantics deadlocks.  The property's re-entrancy clause speaks only of `collect()` during `registry.collect()`. -/
def describeReenters : List CMicro :=
  compile (canon 0) (fun c => match c with | .descFunc => canonCodeK 1 CollectorRegistry_register | _ => [])
    CollectorRegistry_register

theorem register_reentrant_describe_deadlocks :
    wellLockedCode .mutex (fun _ => true) describeReenters = false ∧
    (let s := run (fun (_ : CLabel) (_ c : Nat) => c) (init (fun _ => 0) [describeReenters]) (List.replicate 40 0)
     finishedB s = false ∧ (step (fun (_ : CLabel) (_ c : Nat) => c) s 0).isNone = true) := by decide +kernel

/-- **A built-in metric is complete when it is published.**  `MetricWrapperBase.__init__` ends in `registry.register(self)`;
from that bytecode on a `collect()` in another thread can reach the object although the subclass constructor has not returned.
T1 (`Generated.Registry.ctorsPublishComplete`, read from `metrics.py`): no subclass constructor assigns, after the base
constructor returned, an attribute that `collect` / `describe` / `_samples` / `_child_samples` / `_multi_samples` read, and
(`ctorsRegisterLast`) none can raise there.  On a tree where e.g. `Enum.__init__` sets `_states` after `super().__init__`
(the unchanged tree did: finding F38, a concurrent collect raised AttributeError) the `decide` fails and the scheduler programs
`mk:T:a | colf / gen / rcn` of `harness/props/c02.py` exhibit the schedule. -/
theorem constructors_publish_complete :
    PromVerif.Generated.Registry.ctorsPublishComplete = true ∧ PromVerif.Generated.Registry.ctorsRegisterLast = true := by
  decide +kernel

end PromVerif.Props.C02
