/-
C16 — timing, in-progress and exception-counting wrappers are transparent and balanced.

Protocol part: theorems about `exec` on call trees of unbounded nesting and recursion depth, any stack of
wrappers on any callable, any exception class (incl. `BaseException` subclasses outside `Exception`), any
scripted clock (readings are arbitrary integers: the clock may stand still or step backwards).  The flags
`Generated/Wrappers.lean` reads from context_managers.py on every run are unfolded by the lemmas these theorems
rest on, so the theorems are about the source as it is now.

"Nesting" in the property is nesting through decorators (`Timer.__call__` enters a fresh Timer per call) and
through separate `with metric.time():` blocks (a Timer per block).  Entering ONE Timer object again while it is
active overwrites `_start`; `timer_exact` excludes exactly that mode and `shared_timer_overwrites_start` shows
what the code does there.  Count and sign of the observations hold in every mode.

Signature part: `bind` is CPython's argument binding, `wrapperSpec`/`forward` what decorator.py 4.0.10
generates.  `FunctionMaker` takes the parameter names from `getfullargspec(func).args`, which does not
distinguish positional-only parameters, and never emits `/`: in the wrapper they are positional-or-keyword.
Hence the `_partial` theorems (finding F13 and its relatives), each with a kernel-checked counter-example.
-/
import PromVerif.Model.Wrappers
import PromVerif.Spec.Wrappers
import PromVerif.Lemmas.Wrappers
import PromVerif.Lemmas.WrappersSig
import PromVerif.Lemmas.Str

namespace PromVerif.Props.C16
open PromVerif.Py PromVerif.Model.Wrappers PromVerif.Spec.Wrappers PromVerif.Generated.Wrappers
open PromVerif.Lemmas.Wrappers PromVerif.Lemmas.WrappersSig

/-- every site of context_managers.py, of the three factory methods and of decorator.py has the shape the
extractor understands -/
theorem extract_ok : extractOk = true := by decide +kernel

/-- what else the theorems read from the source: `Gauge.time()` hands `Timer` the callback `set`, `Summary.time()`
and `Histogram.time()` hand it `observe` (hence the two `TimeKind`s and which metric each applies to);
`ExceptionCounter.__call__` and `InprogressTracker.__call__` enter `self` (decorator use = context-manager use);
`count_exceptions()` / `track_inprogress()` refuse a labelled parent when the wrapper is created, `time()` does not
(`Timer.labels()` exists for late labelling — a timed call on a still unlabelled parent fails inside `__exit__`; metric
ids in the model stand for observable metrics); the generated `def` never contains `/` -/
theorem source_facts :
    kindOfCallback gaugeTimeCallback = some .set ∧ kindOfCallback summaryTimeCallback = some .observe ∧
    kindOfCallback histogramTimeCallback = some .observe ∧
    excCallWithSelf = true ∧ inprogressCallWithSelf = true ∧
    countExcChecksObservable = true ∧ trackInprogressChecksObservable = true ∧ timeChecksObservable = false ∧
    posonlyMarkerEmitted = false := by decide +kernel

mutual
  private theorem outcome_strip_call : ∀ c : Call, outcomeCall (stripCall c) = outcomeCall c
    | .mk _ b => by simp only [stripCall, outcomeCall]; exact outcome_strip_body b
  private theorem outcome_strip_body : ∀ b : Body, outcomeBody (stripBody b) = outcomeBody b
    | .out _ => rfl
    | .nest cs sw o => by simp only [stripBody, outcomeBody]; exact outcome_strip_seq cs sw o
    | .recurse _ _ => rfl
  private theorem outcome_strip_seq : ∀ (cs : Calls) (sw : Bool) (o : Outcome),
      outcomeSeq (stripCalls cs) sw o = outcomeSeq cs sw o
    | .nil, _, _ => rfl
    | .cons c cs, sw, o => by
      simp only [stripCalls, outcomeSeq, outcome_strip_call c, outcome_strip_seq cs sw o]
end

/-- **Callers observe what the undecorated program does**: same returned object, same exception object
(identity and class), for every call tree, clock and metric state — the wrapped and the stripped program may
even start from different states. -/
theorem transparent (c : Call) (s s' : St) : (exec c s).1 = (exec (strip c) s').1 := by
  rw [(call_sound c s).1, (call_sound (stripCall c) s').1, outcome_strip_call]

/-- … and that outcome is the one the spec computes without looking at any wrapper -/
theorem transparent_spec (c : Call) (s : St) : (exec c s).1 = outcomeCall c := (call_sound c s).1

example : (exec (.mk [.countExc 0 [.exception], .inprogress 0, .time 0 .observe (.decorator 0)]
    (.nest (.cons (.mk [.inprogress 0] (.out (.raise ⟨7, .keyboardInterrupt⟩))) .nil) false (.ret 3)))
    ⟨⟨[5, 3], 0⟩, [], fun _ => 0, fun _ => 0, fun _ => 0⟩).1 = .raise ⟨7, .keyboardInterrupt⟩ := by decide +kernel

/-- **Balanced**: after the call every gauge is back at its prior value — any nesting, recursion depth,
exception class — provided the program does not also `set()` that gauge through `gauge.time()`. -/
theorem inprogress_balanced (c : Call) (g : Nat) (h : setsCall g c = false) (s : St) :
    (exec c s).2.gauge g = s.gauge g := (call_sound c s).2.2.2 g h

/-- while the body runs the gauge is one up -/
theorem inprogress_during (g : Nat) (body : St → Outcome × St) (s : St) :
    wrapOne (.inprogress g) body s
      = ((body { s with gauge := upd s.gauge g (s.gauge g + 1) }).1,
         let r := body { s with gauge := upd s.gauge g (s.gauge g + 1) }
         { r.2 with gauge := upd r.2.gauge g (r.2.gauge g - 1) }) := by
  simp only [wrapOne, inprogressExit_eq, inprogressEnter_eq]

example : (exec (.mk [.inprogress 1] (.recurse 3 (.raise ⟨1, .generatorExit⟩)))
    ⟨⟨[], 0⟩, [], fun _ => 5, fun _ => 0, fun _ => 0⟩).2.gauge 1 = 5 := by decide +kernel

/-- **One observation per call, never negative**: the observations a program adds are, per timed metric, as
many as calls of callables timed on it were entered (`timedCall`: also when the body raises; `n` levels of
recursion are `n + 1` calls), and each is `≥ 0` whatever the clock readings. -/
theorem one_observation_per_call (c : Call) (s : St) :
    ∃ new, (exec c s).2.obs = new ++ s.obs ∧ (∀ x ∈ new, 0 ≤ x.dur) ∧
      ∀ m k, countObs m k new = timedCall m k c := (call_sound c s).2.2.1

theorem duration_is_clamped (now start : Int) : duration now start = max (now - start) 0 ∧ 0 ≤ duration now start :=
  ⟨by rw [duration_eq_ideal]; rfl, duration_nonneg now start⟩

/-- a decorated call uses a Timer of its own -/
theorem decorator_timer_is_fresh (tid : Nat) : (TimerMode.decorator tid).fresh = true := by
  show (timerCallFresh && newTimerIsNew) = true
  decide

/-- **Exact duration**: a timed call — decorator or `with metric.time():` — reads the clock once on entry, once
on exit (also when the body raises) and observes `max(exit − entry, 0)` of *its own* two readings, whatever
happens in between (nested or recursive timed calls on the same metric included). -/
theorem timer_exact (m : Nat) (k : TimeKind) (mode : TimerMode) (hmode : ∀ tid, mode ≠ .withShared tid)
    (body : St → Outcome × St) (s : St) :
    wrapOne (.time m k mode) body s
      = ((body { s with clock := s.clock.tick.2 }).1,
         let r := body { s with clock := s.clock.tick.2 }
         callback { r.2 with clock := r.2.clock.tick.2 } m k (idealDuration s.clock.tick.1 r.2.clock.tick.1)) := by
  have hf : mode.fresh = true := by
    cases mode with
    | decorator t => exact decorator_timer_is_fresh t
    | withNew => rfl
    | withShared t => exact absurd rfl (hmode t)
  simp only [wrapOne, timerExit_eq, timerEnter, timerStart, hf, if_true, duration_eq_ideal]

/-- readings 0, 10, 11, 20 around a function that recurses once: the outer call observes 20, the inner 1 -/
example : (exec (.mk [.time 0 .observe (.decorator 0)] (.recurse 1 (.ret 1)))
    ⟨⟨[0, 10, 11, 20], 0⟩, [], fun _ => 0, fun _ => 0, fun _ => 0⟩).2.obs
    = [⟨0, .observe, 20⟩, ⟨0, .observe, 1⟩] := by decide +kernel

/-- one Timer object entered twice: the inner `__enter__` overwrites `_start`, the outer block observes 10,
not 20 (what the code does; outside the property) -/
theorem shared_timer_overwrites_start :
    (exec (.mk [.time 0 .observe (.withShared 0)] (.recurse 1 (.ret 1)))
      ⟨⟨[0, 10, 11, 20], 0⟩, [], fun _ => 0, fun _ => 0, fun _ => 0⟩).2.obs
      = [⟨0, .observe, 10⟩, ⟨0, .observe, 1⟩] := by decide +kernel

/-- a clock stepping backwards -/
example : (exec (.mk [.time 2 .set .withNew] (.out (.raise ⟨1, .systemExit⟩)))
    ⟨⟨[9, 4], 0⟩, [], fun _ => 7, fun _ => 0, fun _ => 0⟩).2.gauge 2 = 0 := by decide +kernel

/-- **Counted iff an instance escapes**: counter `k` goes up by the number of calls guarded by
`k.count_exceptions(classes)` out of which an instance of `classes` escapes — no more, no less. -/
theorem exception_counted_iff (c : Call) (k : Nat) (s : St) :
    (exec c s).2.counter k = s.counter k + escCall k c := (call_sound c s).2.1 k

/-- one guarded call: `+1` exactly when what escapes is an instance of the configured classes -/
theorem exception_counted_once (k : Nat) (classes : List ExcClass) (b : Body) (s : St) :
    (exec (.mk [.countExc k classes] b) s).2.counter k
      = s.counter k + (if escapes classes (outcomeBody b) then 1 else 0) + escBody k [.countExc k classes] b := by
  rw [exception_counted_iff]
  simp only [escCall, escOn]
  by_cases h : escapes classes (outcomeBody b) = true <;> simp [h] <;> omega

/-- the hierarchy: `isinstance` is the subclass test along `__mro__`; the default `Exception` counts neither
`KeyboardInterrupt` nor `SystemExit` nor `GeneratorExit`; a tuple counts instances of any member -/
theorem hierarchy_facts :
    (∀ c : ExcClass, isSubclass c .baseException = true) ∧
    (∀ c : ExcClass, isSubclass c .exception = true ↔
      c ≠ .baseException ∧ c ≠ .keyboardInterrupt ∧ c ≠ .systemExit ∧ c ≠ .generatorExit ∧
      c ≠ .baseExceptionGroup) ∧
    (∀ c : ExcClass, isSubclass c .lookupError = true ↔ c = .lookupError ∨ c = .keyError) ∧
    (∀ c d e : ExcClass, isSubclass c d = true → isSubclass d e = true → isSubclass c e = true) ∧
    (∀ i, escapes [.exception] (.raise ⟨i, .keyboardInterrupt⟩) = false) ∧
    (∀ i, escapes [.valueError, .lookupError] (.raise ⟨i, .keyError⟩) = true) ∧
    (∀ i, escapes [.valueError, .lookupError] (.raise ⟨i, .exception⟩) = false) := by
  refine ⟨?_, ?_, ?_, ?_, fun _ => rfl, fun _ => rfl, fun _ => rfl⟩
  · intro c; cases c <;> decide
  · intro c; cases c <;> decide
  · intro c; cases c <;> decide
  · intro c d e hcd hde
    simp only [isSubclass, List.contains_iff_mem] at *
    exact mro_closed c d hcd e hde

/-- `count_exceptions()` without argument counts instances of `Exception`: any `Exception` subclass, but not
`KeyboardInterrupt`, `SystemExit`, `GeneratorExit` or a bare `BaseException` -/
theorem count_exceptions_default :
    defaultClasses = [.exception] ∧
    (∀ i c, escapes defaultClasses (.raise ⟨i, c⟩) = true ↔
      c ≠ .baseException ∧ c ≠ .keyboardInterrupt ∧ c ≠ .systemExit ∧ c ≠ .generatorExit ∧
      c ≠ .baseExceptionGroup) := by
  have hd : defaultClasses = [.exception] := by
    delta defaultClasses classOfName
    repeat rewrite [String.toList_ofList]
    rfl
  refine ⟨hd, fun i c => ?_⟩
  rw [hd, escapes_singleton]
  exact hierarchy_facts.2.1 c

/-- **Exception groups** (Python 3.11+): `ExceptionCounter.__exit__` tests `isinstance(value, …)` on the escaping
object only, so a group is counted exactly when the *group object* is an instance of the configured classes — never
because of a leaf it contains (an exception object in the model has identity and class, no leaves: the source does
not look at them; the harness raises groups with matching and non-matching leaves).  `ExceptionGroup('g',
[ValueError()])` is not counted by `count_exceptions(ValueError)` but is by the default (`ExceptionGroup ⊂
Exception`); `BaseExceptionGroup` is counted by neither; `class ValueGroup(ExceptionGroup, ValueError)` by both. -/
theorem exception_groups_by_instance_only :
    (∀ i, escapes [.valueError] (.raise ⟨i, .exceptionGroup⟩) = false) ∧
    (∀ i, escapes [.exception] (.raise ⟨i, .exceptionGroup⟩) = true) ∧
    (∀ i, escapes [.exception] (.raise ⟨i, .baseExceptionGroup⟩) = false) ∧
    (∀ i, escapes [.valueError, .lookupError] (.raise ⟨i, .baseExceptionGroup⟩) = false) ∧
    (∀ i, escapes [.exceptionGroup] (.raise ⟨i, .valueError⟩) = false) ∧
    (∀ i, escapes [.baseExceptionGroup] (.raise ⟨i, .exceptionGroup⟩) = true) ∧
    (∀ i, escapes [.valueError] (.raise ⟨i, .valueGroup⟩) = true) ∧
    (∀ k i s, (exec (.mk [.countExc k [.valueError]] (.out (.raise ⟨i, .exceptionGroup⟩))) s).2.counter k = s.counter k) :=
  ⟨fun _ => rfl, fun _ => rfl, fun _ => rfl, fun _ => rfl, fun _ => rfl, fun _ => rfl, fun _ => rfl,
   fun k _ s => exception_counted_once k _ _ s⟩

example : (exec (.mk [.countExc 0 [.exception]] (.nest
      (.cons (.mk [.countExc 0 [.exception]] (.out (.raise ⟨1, .keyError⟩)))
        (.cons (.mk [.countExc 0 [.exception]] (.out (.raise ⟨2, .keyboardInterrupt⟩))) .nil)) true (.ret 1)))
    ⟨⟨[], 0⟩, [], fun _ => 0, fun _ => 4, fun _ => 0⟩).2.counter 0 = 5 := by decide +kernel

/-- `def name(<signature>)` as generated declares the original's names in the original's order, with the
original's `*args`, keyword-only names and `**kw`; positional-only parameters come out positional-or-keyword -/
theorem wrapper_signature (s : ArgSpec) (wid : Nat) :
    (wrapperSpec s wid).posonly = [] ∧ (wrapperSpec s wid).pos = s.posonly ++ s.pos ∧
    (wrapperSpec s wid).varargs = s.varargs ∧ (wrapperSpec s wid).kwonly = s.kwonly ∧
    (wrapperSpec s wid).varkw = s.varkw := by
  rw [wrapperSpec_eq]; simp

/-- whatever the wrapper bound, the original called with the forwarded arguments binds the same environment:
every named parameter to the same object, the same `*args`, the same `**kw` -/
theorem forward_roundtrip (s : ArgSpec) (wid : Nat) (wf : WF s) (ca : CallArgs) (env : Env)
    (h : bind (wrapperSpec s wid) ca = .ok env) : bind s (forward s env) = .ok env :=
  bind_forward_shape wf (shape_of_wrapper (bind_ok_shape h))

/-
Full statement (FALSE for the code as it is — see the counter-examples below):
  theorem forward_binds_same (s ca env) : bind (wrapperSpec s) ca = .ok env → bind s (forward s env) = .ok env ∧ bind s ca = .ok env
Missing: calls in which a keyword names a positional-only parameter (`NoPosOnlyKwClash`).  The generated
wrapper has no `/`, so such a keyword binds the parameter in the wrapper, while the original lets `**kw`
capture it (or rejects it when there is no `**kw`).
-/
/-- **Same binding** when no keyword of the call names a positional-only parameter: a call the wrapper binds
is bound identically by the original, directly and through the forwarded arguments. -/
theorem forward_binds_same_partial (s : ArgSpec) (wid : Nat) (wf : WF s) (ca : CallArgs) (env : Env)
    (h : bind (wrapperSpec s wid) ca = .ok env) (hc : NoPosOnlyKwClash s ca) :
    bind s (forward s env) = .ok env ∧ bind s ca = .ok env :=
  ⟨forward_roundtrip s wid wf ca env h, by rw [← bind_wrapper_eq s wid ca hc]; exact h⟩

/-
Full statement (FALSE): a call rejected by the original is rejected by the wrapper, and a call the original
binds is bound by the wrapper.  Missing: the same `NoPosOnlyKwClash` calls.
-/
/-- **Same rejections**: under the same hypothesis original and wrapper agree on `TypeError` both ways. -/
theorem rejects_same_partial (s : ArgSpec) (wid : Nat) (ca : CallArgs) (hc : NoPosOnlyKwClash s ca) :
    (∀ e, bind s ca = .error e → bind (wrapperSpec s wid) ca = .error e) ∧
    (∀ env, bind s ca = .ok env → bind (wrapperSpec s wid) ca = .ok env) := by
  rw [bind_wrapper_eq s wid ca hc]; exact ⟨fun _ h => h, fun _ h => h⟩

theorem bind_error_is_typeError (s : ArgSpec) (ca : CallArgs) (e : PyErr) (h : bind s ca = .error e) :
    e = .typeError := by
  have := bind_spec s ca
  rwa [h] at this

/-
Full statement (FALSE): callThrough s ca = bind s ca for every s, ca.
Missing: (1) `NoPosOnlyKwClash s ca` as above; (2) `shadows s = false`: a keyword-only parameter named `_call_`
or `_func_` passes `FunctionMaker.make`'s reserved-name check (its `shortsignature` entry is `_call_=_call_`)
and hides the global of that name in the generated body.
(A third hole — a forwarded keyword called `func` colliding with the first parameter of the library's own
`wrapped(func, *args, **kwargs)` — was repaired in /repo 85bde09 by making that parameter positional-only; the proof
below reads the flag `callerFuncPosOnly` from the source, so reverting the repair breaks it.)
-/
-- decidable equality of binding results, so that the counter-examples below are closed by kernel evaluation
attribute [local instance] decEqExcept

instance (s : ArgSpec) : Decidable (WF s) := by unfold WF; infer_instance

/-- **A call through the wrapper is the call**: the original function receives arguments that bind exactly as
the caller's arguments would have bound, or both raise `TypeError`. -/
theorem call_through_wrapper_partial (s : ArgSpec) (wf : WF s) (ca : CallArgs)
    (hc : NoPosOnlyKwClash s ca) (hs : shadows s = false) : callThrough s ca = bind s ca := by
  unfold callThrough
  rw [bind_wrapper_eq s 0 ca hc]
  cases h : bind s ca with
  | error e => rfl
  | ok env =>
    simp only [hs, callerClash_false, Bool.false_eq_true, if_false]
    exact bind_forward_shape wf (bind_ok_shape h)

private def nm (s : String) : Name := s.toList

/-- `def f(a, /, **kw)` -/
def specF13 : ArgSpec :=
  { name := nm "f", posonly := [nm "a"], pos := [], defaults := [], varargs := none, kwonly := [], kwdefaults := [],
    varkw := some (nm "kw"), annotations := [], doc := none, qualname := nm "f", module := nm "m", dict := [],
    wrapped := none, fid := 1 }

/-- **F13** `def f(a, /, **kw)`; `f(1, a=2)`: the original binds `a=1, kw={'a': 2}`, the wrapper raises
`TypeError` (multiple values for `a`) -/
theorem posonly_kw_clash_counterexample :
    WF specF13 ∧ ¬ NoPosOnlyKwClash specF13 ⟨[1], [(nm "a", 2)]⟩ ∧
    bind specF13 ⟨[1], [(nm "a", 2)]⟩ = .ok ⟨[(nm "a", 1)], [], [(nm "a", 2)]⟩ ∧
    callThrough specF13 ⟨[1], [(nm "a", 2)]⟩ = .error .typeError := by decide +kernel

/-- `def g(a=7, /, **kw)` -/
def specG : ArgSpec := { specF13 with defaults := [7] }
/-- `def h(a, /)` -/
def specH : ArgSpec := { specF13 with varkw := none }
/-- `def k(*, _call_)` -/
def specK : ArgSpec := { specF13 with posonly := [], varkw := none, kwonly := [nm "_call_"] }

/-- `def g(a=7, /, **kw)`; `g(a=5)`: the original binds `a=7, kw={'a': 5}`; through the wrapper it binds
`a=5, kw={}` — no error, different arguments -/
theorem posonly_kw_rebinds_counterexample :
    bind specG ⟨[], [(nm "a", 5)]⟩ = .ok ⟨[(nm "a", 7)], [], [(nm "a", 5)]⟩ ∧
    callThrough specG ⟨[], [(nm "a", 5)]⟩ = .ok ⟨[(nm "a", 5)], [], []⟩ := by decide +kernel

/-- `def h(a, /)`; `h(a=1)`: the original raises `TypeError`, the wrapper accepts the call -/
theorem posonly_keyword_accepted_counterexample :
    bind specH ⟨[], [(nm "a", 1)]⟩ = .error .typeError ∧
    callThrough specH ⟨[], [(nm "a", 1)]⟩ = .ok ⟨[(nm "a", 1)], [], []⟩ := by decide +kernel

/-- `def k(*, _call_)`: decorating succeeds, every call through the wrapper fails -/
theorem kwonly_shadow_counterexample :
    decorate specK = .ok (wrapperSpec specK) ∧ NoPosOnlyKwClash specK ⟨[], [(nm "_call_", 3)]⟩ ∧
    bind specK ⟨[], [(nm "_call_", 3)]⟩ = .ok ⟨[(nm "_call_", 3)], [], []⟩ ∧
    callThrough specK ⟨[], [(nm "_call_", 3)]⟩ = .error .typeError := by decide +kernel

/-- `def q(**kw)` -/
def specQ : ArgSpec := { specF13 with posonly := [] }

/-- `def q3(*, func)` -/
def specQ3 : ArgSpec := { specF13 with posonly := [], varkw := none, kwonly := [nm "func"] }

/-- regression for the repaired `func` collision (fixed in /repo 85bde09): `def q(**kw)`; `q(func=1)` and
`def q3(*, func)`; `q3(func=1)` reach the original through the wrapper with exactly the caller's binding -/
theorem keyword_named_func_regression :
    callThrough specQ ⟨[], [(nm "func", 1)]⟩ = .ok ⟨[], [], [(nm "func", 1)]⟩ ∧
    callThrough specQ ⟨[], [(nm "func", 1)]⟩ = bind specQ ⟨[], [(nm "func", 1)]⟩ ∧
    callThrough specQ3 ⟨[], [(nm "func", 1)]⟩ = .ok ⟨[(nm "func", 1)], [], []⟩ ∧
    callThrough specQ3 ⟨[], [(nm "func", 1)]⟩ = bind specQ3 ⟨[], [(nm "func", 1)]⟩ := by decide +kernel

/-- a positional parameter, `*args`, `**kw` or the function itself named `_call_`/`_func_` is refused at
decoration time (`NameError`) -/
theorem reserved_name_rejected :
    decorate { specF13 with posonly := [], pos := [nm "_func_"] } = .error .nameError ∧
    decorate { specF13 with name := nm "_call_" } = .error .nameError ∧
    decorate { specF13 with varkw := some (nm "_func_") } = .error .nameError := by decide +kernel

-- non-vacuity of the `_partial` hypotheses: all parameter kinds, defaults, a call using each way of passing
private def specAll : ArgSpec :=
  { specF13 with posonly := [nm "a", nm "b"], pos := [nm "c", nm "d"], defaults := [10, 11], varargs := some (nm "args"),
                 kwonly := [nm "k", nm "l"], kwdefaults := [(nm "l", 12)] }
example : WF specAll ∧ NoPosOnlyKwClash specAll ⟨[1, 2, 3, 4, 5], [(nm "z", 6), (nm "k", 7)]⟩ ∧ shadows specAll = false ∧
    callThrough specAll ⟨[1, 2, 3, 4, 5], [(nm "z", 6), (nm "k", 7)]⟩
      = .ok ⟨[(nm "a", 1), (nm "b", 2), (nm "c", 3), (nm "d", 4), (nm "k", 7), (nm "l", 12)], [5], [(nm "z", 6)]⟩ := by decide +kernel
example : NoPosOnlyKwClash specAll ⟨[1, 2], [(nm "d", 6), (nm "k", 7)]⟩ ∧
    callThrough specAll ⟨[1, 2], [(nm "d", 6), (nm "k", 7)]⟩
      = .ok ⟨[(nm "a", 1), (nm "b", 2), (nm "c", 10), (nm "d", 6), (nm "k", 7), (nm "l", 12)], [], []⟩ := by decide +kernel
example : callThrough specAll ⟨[1, 2], [(nm "d", 6)]⟩ = .error .typeError ∧
    bind specAll ⟨[1, 2], [(nm "d", 6)]⟩ = .error .typeError := by decide +kernel

/-
Full statement (FALSE): the wrapper's `__name__` is the original's.  Missing: `s.name ≠ '<lambda>'` —
`FunctionMaker` renames lambdas to `_lambda_` (the generated `def` needs an identifier).
-/
/-- **Metadata**: `__doc__`, `__defaults__`, `__kwdefaults__`, `__annotations__`, `__qualname__`, `__module__`,
`__dict__` entries are the original's objects, `__wrapped__` is the original; `__name__` too unless it is
`<lambda>`. -/
theorem metadata_preserved_partial (s w : ArgSpec) (wid : Nat) (h : decorate s wid = .ok w) :
    w.doc = s.doc ∧ w.defaults = s.defaults ∧ w.kwdefaults = s.kwdefaults ∧ w.annotations = s.annotations ∧
    w.qualname = s.qualname ∧ w.module = s.module ∧ w.dict = s.dict ∧ w.wrapped = some s.fid ∧
    (s.name ≠ lambdaName → w.name = s.name) := by
  obtain rfl := decorate_ok h
  rw [wrapperSpec_eq]
  exact ⟨rfl, rfl, rfl, rfl, rfl, rfl, rfl, rfl, fun hn => by simp [makerName, hn]⟩

/-
Full statement (FALSE): the wrapper's own signature (`inspect.signature(w, follow_wrapped=False)`) is the
original's.  Missing: `hp : s.posonly = []` — the generated `def` has no `/` (`posonly_marker_lost_counterexample`;
finding F13, signature `C16:posonly-marker-lost`) — and `hn : s.name ≠ '<lambda>'`.  (`inspect.signature(w)` itself
follows `__wrapped__` and is the original's by `metadata_preserved_partial`.)
-/
/-- with no positional-only parameter and a proper name the wrapper is, as far as modelled, the original
function with `__wrapped__` added -/
theorem signature_same_partial (s w : ArgSpec) (wid : Nat) (h : decorate s wid = .ok w)
    (hp : s.posonly = []) (hn : s.name ≠ lambdaName) : { w with wrapped := s.wrapped, fid := s.fid } = s := by
  obtain rfl := decorate_ok h
  rw [wrapperSpec_eq]
  cases s
  simp_all [makerName]

/-- `def h(a, /)`: the wrapper's own signature is `(a)` — the `/` is lost (same root cause as F13), so
`signature_same_partial` cannot drop `hp` -/
theorem posonly_marker_lost_counterexample :
    specH.posonly = [nm "a"] ∧ decorate specH 9 = .ok (wrapperSpec specH 9) ∧
    (wrapperSpec specH 9).posonly = [] ∧ (wrapperSpec specH 9).pos = [nm "a"] ∧
    { wrapperSpec specH 9 with wrapped := specH.wrapped, fid := specH.fid } ≠ specH := by decide +kernel

/-- **Domain**: only functions can be wrapped.  For every other kind of callable `decorate` raises before a
wrapper exists — `AttributeError` when the object has no `__name__` (callable instance, `functools.partial`),
`TypeError('You are decorating a non function')` otherwise (builtin, bound method, class, staticmethod object) — so
"any synchronous callable" in the property is, for this code, "any synchronous Python function". -/
theorem decorate_domain (k : CallableKind) (s w : ArgSpec) (wid : Nat) :
    decorateCallable k s wid = .ok w ↔ k = .function ∧ decorate s wid = .ok w := by
  cases k <;> simp [decorateCallable, CallableKind.hasName, makerReadsDunderName, makerRefusesNonFunctions]

theorem non_function_refused_counterexample :
    decorateCallable .callableInstance specQ = .error .attributeError ∧
    decorateCallable .partialObject specQ = .error .attributeError ∧
    decorateCallable .builtin specQ = .error .typeError ∧
    decorateCallable .boundMethod specQ = .error .typeError ∧
    decorateCallable .cls specQ = .error .typeError ∧
    decorateCallable .staticmethodObject specQ = .error .typeError ∧
    decorateCallable .function specQ = .ok (wrapperSpec specQ) := by decide +kernel

theorem lambda_renamed_counterexample :
    (wrapperSpec { specF13 with name := nm "<lambda>" }).name = nm "_lambda_" := by decide +kernel

example : ∃ w, decorate specAll 9 = .ok w ∧ w.name = nm "f" ∧ w.wrapped = some 1 := ⟨_, rfl, by decide +kernel, rfl⟩

/-! ### `Timer.labels`: late labelling of a timer on a labelled parent (part (c) of the model)

`with HISTOGRAM.time() as t: …; t.labels('a')`.  The block theorems quantify over ARBITRARY bodies (`body : … → LSt →
Outcome × LSt`: any nesting, any further timers, any exceptions); what they need from the body is only the value of THIS
Timer's `_metric` when the body is done. -/

/-- what the theorems below read from `Timer.labels`, `Timer.__init__`, `_new_timer` and `__enter__` -/
theorem timer_labels_source_facts :
    timerLabelsRebindsSelf = true ∧ timerLabelsForwardsArgs = true ∧ timerLabelsForwardsKw = true ∧
    timerLabelsReturnsNone = true ∧ newTimerCopiesMetric = true ∧ timerEnterReturnsSelf = true ∧
    timerInitStoresMetric = true := by decide +kernel

private theorem fwd_eq (a : LArgs) :
    (⟨if timerLabelsForwardsArgs then a.pos else [], if timerLabelsForwardsKw then a.kw else []⟩ : LArgs) = a := by
  cases a; rfl

/-- **`labels()` re-binds the Timer it is called on**: `t.labels(*args, **kw)` hands ALL its arguments to
`t._metric.labels`; when that returns child `c`, `t._metric` is `c` afterwards, nothing else changes and the call returns
`None`; when it raises, the `ValueError` comes out of `t.labels(…)` (an exception of the body) and `t` is untouched. -/
theorem timer_labels_rebinds (tid : Nat) (a : LArgs) (s : LSt) :
    timerLabels tid a s =
      match metricLabels (s.timers tid).metric a with
      | .ok c => (.ret noneVal, { s with timers := upd s.timers tid { s.timers tid with metric := c } })
      | .error _ => (.raise libValueError, s) := by
  unfold timerLabels
  simp only [fwd_eq]
  cases metricLabels (s.timers tid).metric a <;> simp [timerLabelsRebindsSelf]

/-- … and no other Timer object, no observation, no clock reading: in particular labelling a per-call / per-block Timer
never changes the decorator-level Timer it was copied from, nor the other way round -/
theorem timer_labels_is_frame (tid : Nat) (a : LArgs) (s : LSt) :
    (timerLabels tid a s).2.obs = s.obs ∧ (timerLabels tid a s).2.clock = s.clock ∧
    (timerLabels tid a s).2.next = s.next ∧ (timerLabels tid a s).2.log = s.log ∧
    ((timerLabels tid a s).2.timers tid).cb = (s.timers tid).cb ∧
    ∀ t, t ≠ tid → (timerLabels tid a s).2.timers t = s.timers t := by
  rw [timer_labels_rebinds]
  cases metricLabels (s.timers tid).metric a <;> simp [upd]
  intro t ht; simp [ht]

/-- which child: by position the values in order, by keyword the values in the order of the label NAMES; wrong count, wrong
names, both kinds at once, a metric without label names and a child ("can not chain calls to .labels()") raise -/
theorem metric_labels_cases (m : Nat) (n : Nat) (ns : List Nat) (a : LArgs) :
    metricLabels (.plain m) a = .error .valueError ∧ (∀ vs, metricLabels (.child m vs) a = .error .valueError) ∧
    (a.kw = [] → a.pos.length = (n :: ns).length → metricLabels (.parent m (n :: ns)) a = .ok (.child m a.pos)) ∧
    (a.kw = [] → a.pos.length ≠ (n :: ns).length → metricLabels (.parent m (n :: ns)) a = .error .valueError) ∧
    (a.kw ≠ [] → a.pos ≠ [] → metricLabels (.parent m (n :: ns)) a = .error .valueError) := by
  refine ⟨rfl, fun _ => rfl, ?_, ?_, ?_⟩
  · intro hk hl; simp [metricLabels, hk, hl]
  · intro hk hl; simp [metricLabels, hk]; simpa using hl
  · intro hk hp; simp [metricLabels, hk, hp]

example : metricLabels (.parent 3 [0, 1]) ⟨[], [(1, 8), (0, 7)]⟩ = .ok (.child 3 [7, 8]) ∧
    metricLabels (.parent 3 [0, 1]) ⟨[7, 8], []⟩ = .ok (.child 3 [7, 8]) ∧
    metricLabels (.parent 3 [0, 1]) ⟨[], [(1, 8), (2, 7)]⟩ = .error .valueError ∧
    metricLabels (.parent 3 [0, 1]) ⟨[], [(1, 8)]⟩ = .error .valueError := by decide +kernel

/-- whatever `labels()` returns is a child, and a child refuses `labels()` ("can not chain calls to .labels()") -/
private theorem metricLabels_refuses_again (r : MRef) (a a' : LArgs) :
    ∀ c, metricLabels r a = .ok c → metricLabels c a' = .error .valueError := by
  fun_cases metricLabels r a
  all_goals intro c hm; cases hm
  all_goals rfl

/-
Statement asked for ("the observation goes to the child addressed by the LAST labels() call inside the block") is FALSE
for the code as it is: `MetricWrapperBase.labels` refuses a child, so after one successful `t.labels(…)` every further
`t.labels(…)` raises ValueError inside the body and leaves `t._metric` where it is — the FIRST successful call decides.
-/
/-- **At most one successful `labels()` per Timer**: once `t.labels(…)` has returned, any further `t.labels(…)` raises
`ValueError` and changes nothing. -/
theorem timer_labels_twice_raises (tid : Nat) (a a' : LArgs) (s : LSt) (h : (timerLabels tid a s).1 = .ret noneVal) :
    timerLabels tid a' (timerLabels tid a s).2 = (.raise libValueError, (timerLabels tid a s).2) := by
  rw [timer_labels_rebinds tid a s] at h ⊢
  cases hm : metricLabels (s.timers tid).metric a with
  | error e => rw [hm] at h; cases h
  | ok c =>
    rw [timer_labels_rebinds]
    simp [upd, metricLabels_refuses_again _ a a' c hm]

private theorem labelledExit_observable (tid : Nat) (start : Int) (rb : Outcome × LSt)
    (h : (rb.2.timers tid).metric.observable = true) :
    labelledExit tid start rb
      = (rb.1, { rb.2 with clock := rb.2.clock.tick.2,
                           obs := ⟨(rb.2.timers tid).metric, (rb.2.timers tid).cb,
                                   idealDuration start rb.2.clock.tick.1⟩ :: rb.2.obs }) := by
  unfold labelledExit
  simp only [h, if_true, duration_eq_ideal, timerCallbackWhen, whenHolds, timerExitSuppresses, suppress,
    Bool.false_and, Bool.false_eq_true, if_false]

private theorem labelledExit_unobservable (tid : Nat) (start : Int) (rb : Outcome × LSt)
    (h : (rb.2.timers tid).metric.observable = false) :
    labelledExit tid start rb = (.raise libValueError, { rb.2 with clock := rb.2.clock.tick.2 }) := by
  unfold labelledExit
  simp only [h, timerCallbackWhen, whenHolds, if_true, Bool.false_eq_true, if_false]

/-- `with r.time() as t: body(t)` — the state the body starts in: a new Timer object `s.next` holding `(r, k)`, one
clock reading consumed -/
def blockStart (r : MRef) (k : TimeKind) (s : LSt) : LSt :=
  { s with next := s.next + 1, timers := upd s.timers s.next ⟨r, k⟩, clock := s.clock.tick.2 }

/-- **Exactly one observation, on the child chosen inside the block**: when the block's Timer refers to an observable
metric at the end of the body — a labelled parent that the body labelled, or a plain metric / child from the start — the
`with` statement adds exactly one observation AFTER everything the body observed, on the metric the Timer refers to THEN,
with the Timer's own callback (`Gauge.set` / `Summary.observe` / `Histogram.observe`) and duration `max(exit reading −
entry reading, 0)`; it reads the clock once on entry and once on exit; and the body's returned object / exception object
comes out unchanged. -/
theorem labelled_block_exact (r : MRef) (k : TimeKind) (body : Nat → LSt → Outcome × LSt) (s : LSt)
    (hobs : ((body s.next (blockStart r k s)).2.timers s.next).metric.observable = true) :
    withTime r k body s
      = ((body s.next (blockStart r k s)).1,
         let rb := body s.next (blockStart r k s)
         { rb.2 with clock := rb.2.clock.tick.2,
                     obs := ⟨(rb.2.timers s.next).metric, (rb.2.timers s.next).cb,
                             idealDuration s.clock.tick.1 rb.2.clock.tick.1⟩ :: rb.2.obs }) :=
  labelledExit_observable s.next s.clock.tick.1 (body s.next (blockStart r k s)) hobs

/-
Transparency ("same return value, same exception object") is FALSE on a labelled parent that is never labelled: forced
hypothesis `hobs` above; the real code was run at the excluded point (harness signature C16:timer-labels-unlabelled-parent).
-/
/-- **A labelled parent never labelled inside the block**: `__exit__` raises `ValueError` out of the `with` statement —
whatever the body did: a returned value is lost, an exception the body raised is replaced — and the block records
nothing (the observations are the body's; the clock was still read). -/
theorem unlabelled_parent_raises_at_exit (r : MRef) (k : TimeKind) (body : Nat → LSt → Outcome × LSt) (s : LSt)
    (hobs : ((body s.next (blockStart r k s)).2.timers s.next).metric.observable = false) :
    withTime r k body s
      = (.raise libValueError,
         let rb := body s.next (blockStart r k s)
         { rb.2 with clock := rb.2.clock.tick.2 }) :=
  labelledExit_unobservable s.next s.clock.tick.1 (body s.next (blockStart r k s)) hobs

/-- kernel-checked witness that the model exhibits both failures: body returns 5 / raises KeyError#7 on a never labelled
parent — `ValueError` comes out, nothing is recorded -/
theorem unlabelled_parent_counterexample :
    let s0 : LSt := ⟨⟨[1, 4], 0⟩, [], fun _ => ⟨.plain 0, .observe⟩, 0, []⟩
    (execStmt [] (.block (.withTime (.parent 1 [0]) .observe) .nil (.ret 5) false) s0).1 = .raise libValueError ∧
    (execStmt [] (.block (.withTime (.parent 1 [0]) .observe) .nil (.raise ⟨7, .keyError⟩) false) s0).1
      = .raise libValueError ∧
    (execStmt [] (.block (.withTime (.parent 1 [0]) .observe) .nil (.ret 5) false) s0).2.obs = [] := by decide +kernel

/-- entry 1, exit 4: `with P.time() as t: t.labels('a'); t.labels('b')` — the second call raises inside the body, the block
still observes 3 on child `a` and the body's ValueError comes out -/
example :
    let s0 : LSt := ⟨⟨[1, 4], 0⟩, [], fun _ => ⟨.plain 0, .observe⟩, 0, []⟩
    let r := execStmt [] (.block (.withTime (.parent 1 [0]) .observe)
      (.cons (.labels 0 ⟨[10], []⟩) (.cons (.labels 0 ⟨[11], []⟩) .nil)) (.ret 5) false) s0
    r.1 = .raise libValueError ∧ r.2.obs = [⟨.child 1 [10], .observe, 3⟩] := by decide +kernel

/-- nesting: the inner block labels the OUTER timer (`up = 1`) by keyword and itself by position; clock 0, 10, 9, 30 -/
example :
    let s0 : LSt := ⟨⟨[0, 10, 9, 30], 0⟩, [], fun _ => ⟨.plain 0, .observe⟩, 0, []⟩
    let r := execStmt [] (.block (.withTime (.parent 1 [0]) .observe)
      (.cons (.block (.withTime (.parent 2 [0, 1]) .set)
        (.cons (.labels 1 ⟨[], [(0, 7)]⟩) (.cons (.labels 0 ⟨[8, 9], []⟩) .nil)) (.raise ⟨3, .keyboardInterrupt⟩) true) .nil)
      (.ret 5) false) s0
    r.1 = .ret 5 ∧ r.2.obs = [⟨.child 1 [7], .observe, 30⟩, ⟨.child 2 [8, 9], .set, 0⟩] ∧
    r.2.log = [.ret 5, .raise ⟨3, .keyboardInterrupt⟩] := by decide +kernel

/-- a decorated call starts in: a new Timer object `s.next`, a copy of the decorator-level Timer `d` as it is NOW -/
def callStart (d : Nat) (s : LSt) : LSt :=
  { s with next := s.next + 1, timers := upd s.timers s.next (s.timers d), clock := s.clock.tick.2 }

private theorem callStart_timer (d : Nat) (s : LSt) : (callStart d s).timers s.next = s.timers d := by
  simp [callStart, upd]

private theorem callDeco_eq (d : Nat) (body : LSt → Outcome × LSt) (s : LSt) :
    callDeco d body s = labelledExit s.next s.clock.tick.1 (body (callStart d s)) := by
  unfold callDeco
  simp only [timerCallFresh, newTimerIsNew, Bool.and_self, if_true]
  rfl

/-- **A decorated call observes on what the decorator-level Timer referred to AT CALL TIME**: `Timer.__call__` enters
`self._new_timer()`, a new object built from the current `self._metric`.  Whatever the body does to the decorator-level
Timer `d` — e.g. `T.labels(…)` — the running call is not affected: given only that the body does not touch the per-call
object (it cannot reach it: the `with` has no `as`), the call adds exactly one observation, after the body's, on
`(s.timers d).metric` with `d`'s callback and the ideal duration, and hands on the body's outcome. -/
theorem decorated_call_observes_ref_at_call_time (d : Nat) (body : LSt → Outcome × LSt) (s : LSt)
    (hframe : (body (callStart d s)).2.timers s.next = (callStart d s).timers s.next)
    (hobs : (s.timers d).metric.observable = true) :
    callDeco d body s
      = ((body (callStart d s)).1,
         let rb := body (callStart d s)
         { rb.2 with clock := rb.2.clock.tick.2,
                     obs := ⟨(s.timers d).metric, (s.timers d).cb, idealDuration s.clock.tick.1 rb.2.clock.tick.1⟩ :: rb.2.obs }) := by
  rw [callDeco_eq, labelledExit_observable _ _ _ (by rw [hframe, callStart_timer]; exact hobs), hframe,
    callStart_timer]

/-- … on a labelled parent not labelled BEFORE the call, the call raises `ValueError` at exit and records nothing — also
when the body itself labels the decorator-level Timer (too late for this call, in time for the next) -/
theorem decorated_call_on_unlabelled_parent_raises (d : Nat) (body : LSt → Outcome × LSt) (s : LSt)
    (hframe : (body (callStart d s)).2.timers s.next = (callStart d s).timers s.next)
    (hobs : (s.timers d).metric.observable = false) :
    callDeco d body s
      = (.raise libValueError, let rb := body (callStart d s); { rb.2 with clock := rb.2.clock.tick.2 }) := by
  rw [callDeco_eq, labelledExit_unobservable _ _ _ (by rw [hframe, callStart_timer]; exact hobs)]

/-- **The call itself writes no Timer object** but the new one: every Timer, the decorator-level one included, is after
the call what the body left; together with `timer_labels_is_frame` (labelling object `t` changes only `t`): labelling
per-call Timers never re-binds the decorator-level Timer, labelling the decorator-level Timer re-binds exactly the calls
that START later (`decorated_call_observes_ref_at_call_time` with `timer_labels_rebinds`). -/
theorem decorated_call_writes_no_timer (d : Nat) (body : LSt → Outcome × LSt) (s : LSt) :
    (callDeco d body s).2.timers = (body (callStart d s)).2.timers ∧
    ∀ t, t ≠ s.next → (callStart d s).timers t = s.timers t := by
  refine ⟨?_, fun t ht => by simp [callStart, upd, ht]⟩
  rw [callDeco_eq]
  cases h : ((body (callStart d s)).2.timers s.next).metric.observable
  · rw [labelledExit_unobservable _ _ _ h]
  · rw [labelledExit_observable _ _ _ h]

/-- decorator-level Timer 0 on labelled parent 1: call (raises ValueError, nothing recorded) ; `T.labels(l=7)` ; call
(observes on child 7) ; a call whose body calls `T.labels(8)` (raises inside the body: already labelled; the call still
observes on child 7 and hands on that ValueError) -/
example :
    let s0 : LSt := ⟨⟨[0, 1, 10, 12, 20, 25], 0⟩, [], fun _ => ⟨.parent 1 [0], .observe⟩, 1, []⟩
    let r := execProg [] (.cons (.block (.callDeco 0) .nil (.ret 1) true)
      (.cons (.labelsDeco 0 ⟨[], [(0, 7)]⟩) (.cons (.block (.callDeco 0) .nil (.raise ⟨2, .systemExit⟩) true)
      (.cons (.block (.callDeco 0) (.cons (.labelsDeco 0 ⟨[8], []⟩) .nil) (.ret 3) true) .nil)))) (.ret 9) s0
    r.1 = .ret 9 ∧ r.2.obs = [⟨.child 1 [7], .observe, 5⟩, ⟨.child 1 [7], .observe, 2⟩] ∧
    r.2.log = [.raise libValueError, .raise ⟨2, .systemExit⟩, .raise libValueError] := by decide +kernel

/-- the body of the FIRST call labels the decorator-level Timer: that call still fails at exit, the next one observes -/
example :
    let s0 : LSt := ⟨⟨[0, 1, 10, 12], 0⟩, [], fun _ => ⟨.parent 1 [0], .set⟩, 1, []⟩
    let r := execProg [] (.cons (.block (.callDeco 0) (.cons (.labelsDeco 0 ⟨[7], []⟩) .nil) (.ret 1) true)
      (.cons (.block (.callDeco 0) .nil (.ret 2) false) .nil)) (.ret 9) s0
    r.2.obs = [⟨.child 1 [7], .set, 2⟩] ∧ r.2.log = [.ret 2, .raise libValueError] := by decide +kernel

end PromVerif.Props.C16
