/-
C07 — collect is complete and exact; a restricted registry is a pure filter.

Theorems are about `Model/Registry.lean` (`collect`, `restrictedCollect` = `restricted_registry(names).collect()`,
`restrictedMetric` = `Metric._restricted_metric`).  Families, samples and name sets are arbitrary; what a sample
carries besides its name is opaque to the registry and is kept as is.  Iteration order of the collector *set* in
`RestrictedRegistry.collect` is unspecified in Python, so the restricted result is characterised up to permutation.

History: F5 (`_restricted_metric` dropped the unit, fixed by 47e3465) and F19 (`RestrictedRegistry.collect` never
looked up the name `target_info`, so a collector claiming it — `Info('target', …)` — was not selected; fixed by d22a2a4)
are repaired in /repo; the model follows, `restricted_is_filter` is exact including unit and `target_info`, and the two
old witnesses are regression `example`s.  `ClaimsCover` remains: it is a real precondition (the registry can find a
collector only through the names it claimed), not a defect.
-/
import PromVerif.Lemmas.RegistryCollect
import PromVerif.Lemmas.RegistryMetrics
import PromVerif.Props.C06
import PromVerif.Props.C17

namespace PromVerif.Props.C07
open PromVerif.Py PromVerif.Model.Registry PromVerif.Spec.Registry

-- `Inv` alone would also name core's class of `⁻¹`, and every occurrence would be elaborated both ways
export PromVerif.Spec.Registry (Inv)

theorem extract_ok : PromVerif.Generated.Registry.extractOk = true := by decide

/-- **Full collection, every history.**  After any sequence of `register` / `unregister` / `set_target_info`
calls (raising or not) on a fresh registry, `collect()` yields the target-info family iff target info is
configured, followed by the families of the registered collectors in registration order — where "registered" is
the reference list driven only by the calls and whether they raised (a successful `register` appends a new
collector, a successful `unregister` removes it, a raising call changes nothing) — each collector's `collect()` is
invoked exactly once in that order, and the list has no repetition (nothing twice, nothing from a collector that was
unregistered). -/
theorem collect_exact (ad : Bool) (ti : Option Labels) (ops : List Op) :
    (collect (run (init ad ti) ops).1).families
      = collectSpec (tiAfter ti ops (run (init ad ti) ops).2) (regsAfter [] ops (run (init ad ti) ops).2) ∧
    (collect (run (init ad ti) ops).1).calls
      = (regsAfter [] ops (run (init ad ti) ops).2).map Owner.coll ∧
    (regsAfter [] ops (run (init ad ti) ops).2).Nodup := by
  obtain ⟨_, hti, hregs⟩ := run_fields ops (init ad ti)
  rw [(init_fields ad ti).2.1] at hti
  rw [(init_fields ad ti).2.2, List.map_nil] at hregs
  refine ⟨?_, ?_, regsAfter_nodup ops [] _ List.nodup_nil⟩
  · rw [collect_eq, collectSpec, hti, ← hregs, List.flatMap_map]
  · rw [collect_eq, ← hregs, List.map_map]
    rfl

private def exA : Collector := ⟨0, some [(['x'], .gauge)], [⟨['x'], .gauge, ['h'], [], [⟨['x'], .idx 0⟩]⟩]⟩
private def exB : Collector := ⟨1, some [(['y'], .gauge)], [⟨['y'], .gauge, ['h'], [], [⟨['y'], .idx 1⟩]⟩]⟩

-- a history with a rejected registration and an unregistration: B, then A re-registered, behind target info
example : (collect (run (init false none) [.register exA, .register exB, .register exA, .unregister exA, .register exA,
      .setTargetInfo (some [(['a'], ['b'])])]).1).families
    = targetInfoMetric [(['a'], ['b'])] :: (exB.families ++ exA.families) := by decide +kernel

/-- **`_restricted_metric` is the filter of the statement**: kept samples, unchanged name, type, help and unit; a
family left empty is omitted. -/
theorem restricted_metric_spec (names : List Name) (f : Family) :
    restrictedMetric names f = restrictTo names f := by
  unfold restrictedMetric restrictTo
  cases h : f.samples.filter (fun smp => decide (smp.name ∈ names)) with
  | nil => rfl
  | cons a r => rfl

private theorem ti_part (names : List Name) (ti : Option Labels) :
    (if (decide (tiName ∈ names) && truthy ti) = true then tiFamily ti else [])
      = (tiFamily ti).filterMap (restrictedMetric names) := by
  cases ti with
  | none => simp [tiFamily, truthy]
  | some l =>
    cases l with
    | nil => simp [tiFamily, truthy]
    | cons a r =>
      by_cases h : tiName ∈ names
      · simp [tiFamily, truthy, h, restrictedMetric, targetInfoMetric]
      · simp [tiFamily, truthy, h, restrictedMetric, targetInfoMetric]

/-- **The restricted registry is a pure filter**: for every name set, under the C06 invariant and when every sample a
collector emits bears a name the collector claimed (`ClaimsCover` — a real precondition, see above), the families
yielded by `restricted_registry(names).collect()` are — as a multiset — exactly the families of `collect()` restricted
to the samples whose name is listed, with name, type, help, unit and the kept samples unchanged and families left
empty omitted.
The hypothesis `ClaimsCover` is exactly what the known finding `C07:undescribed-collector-not-restrictable` excludes: a
collector without `describe()` under `auto_describe = False` (or whose `describe()` under-reports) claims too few names,
the registry cannot find it through its sample names, and the statement as written fails there
(`claims_cover_needed`); by design — its names are unknown without calling `collect()`. -/
theorem restricted_is_filter {s : State} (hi : Inv s) (hc : ClaimsCover s) (names : List Name) :
    (restrictedCollect names s).families.Perm ((collect s).families.filterMap (restrictTo names)) := by
  have hrm : restrictTo names = restrictedMetric names := by
    funext f; rw [restricted_metric_spec]
  rw [hrm]
  simp only [restrictedCollect_eq, collect_eq, List.filterMap_append, List.filterMap_flatMap]
  rw [ti_part]
  apply List.Perm.append_left
  -- the `_EmptyCollector` (selected through `target_info` when target info is configured) yields nothing,
  -- and neither do the registered collectors that are not selected
  rw [flatMap_filter_of_nil (fun o => decide (o ≠ Owner.empty)),
    flatMap_filter_of_nil (l := s.collectorToNames)
      (fun e => decide (Owner.coll e.1 ∈ selectCollectors s.namesToCollectors names []))]
  · have := (selected_perm hi names).flatMap_right (fun o => o.families.filterMap (restrictedMetric names))
    rwa [List.flatMap_map] at this
  · rintro ⟨c, ns⟩ hm hsel
    rw [decide_eq_false_iff_not] at hsel
    exact List.filterMap_eq_nil_iff.2 fun f hf => (restrictedMetric_eq_none_iff names f).2 fun smp hs hin =>
      hsel (claimant_is_selected hi hm hin (hc c ns hm f hf smp hs))
  · intro o _ ho
    cases o with
    | coll c => exact nomatch ho
    | empty => rfl

theorem restricted_is_filter_reachable (ad : Bool) (ti : Option Labels) (ops : List Op) (names : List Name)
    (hc : ClaimsCover (run (init ad ti) ops).1) :
    (restrictedCollect names (run (init ad ti) ops).1).families.Perm
      ((collect (run (init ad ti) ops).1).families.filterMap (restrictTo names)) :=
  restricted_is_filter (PromVerif.Props.C06.inv_run ad ti ops) hc names

/-- **`collect()` is invoked only on claimants**: every collector the restricted registry calls is registered and
claims one of the listed names — or is the `_EmptyCollector` that stands for configured target info, reached only
when `target_info` is listed — and none is called twice. -/
theorem restricted_calls_only_claimants {s : State} (hi : Inv s) (names : List Name) :
    (∀ o, o ∈ (restrictedCollect names s).calls →
      (∃ c ns n, o = Owner.coll c ∧ (c, ns) ∈ s.collectorToNames ∧ n ∈ names ∧ n ∈ claims s.autoDescribe c) ∨
      (o = Owner.empty ∧ tiName ∈ names ∧ truthy s.targetInfo = true)) ∧
    (restrictedCollect names s).calls.Nodup := by
  refine ⟨?_, selectCollectors_nodup _ _ _ List.nodup_nil⟩
  intro o ho
  rcases selected_is_claimant hi ho with ⟨c, ns, n, h1, h2, h3, h5⟩ | h
  · exact Or.inl ⟨c, ns, n, h1, h2, h3, (hi.mem_stored_iff h2 n).1 h5⟩
  · exact Or.inr h

/-- **A restricted-registry object reflects the registry as it is now.**  The object is its name set plus a reference
to the registry (`RestrictedRegistry` holds nothing else), so collecting through an object made after the calls `ops₁`
once the calls `ops₂` have followed is `restrictedCollect` of the state reached by `ops₁ ++ ops₂`: it is the filter of
the CURRENT full collection and calls only CURRENT claimants — whatever was registered when the object was made. -/
theorem restricted_object_reflects_current_state (ad : Bool) (ti : Option Labels) (ops₁ ops₂ : List Op) (names : List Name)
    (hc : ClaimsCover (run (init ad ti) (ops₁ ++ ops₂)).1) :
    ((restrictedRegistry names).collect (run (init ad ti) (ops₁ ++ ops₂)).1).families.Perm
      ((collect (run (init ad ti) (ops₁ ++ ops₂)).1).families.filterMap (restrictTo names)) ∧
    (∀ o, o ∈ ((restrictedRegistry names).collect (run (init ad ti) (ops₁ ++ ops₂)).1).calls →
      (∃ c ns n, o = Owner.coll c ∧ (c, ns) ∈ (run (init ad ti) (ops₁ ++ ops₂)).1.collectorToNames ∧ n ∈ names ∧
        n ∈ claims (run (init ad ti) (ops₁ ++ ops₂)).1.autoDescribe c) ∨
      (o = Owner.empty ∧ tiName ∈ names ∧ truthy (run (init ad ti) (ops₁ ++ ops₂)).1.targetInfo = true)) :=
  ⟨restricted_is_filter_reachable ad ti (ops₁ ++ ops₂) names hc,
   (restricted_calls_only_claimants (PromVerif.Props.C06.inv_run ad ti (ops₁ ++ ops₂)) names).1⟩

-- an object made while `exB` was registered yields nothing from it once `exB` is unregistered
example : ((restrictedRegistry [['y']]).collect (run (init false none) [.register exB]).1).families = exB.families ∧
    ((restrictedRegistry [['y']]).collect (run (init false none) ([.register exB] ++ [.unregister exB])).1).families = [] ∧
    ((restrictedRegistry [['y']]).collect (run (init false none) ([.register exB] ++ [.unregister exB])).1).calls = [] := by
  decide +kernel

section Builtin
variable {V : Type} [PromVerif.Model.Metrics.Val V]

/-- **Every built-in metric object covers its claims.**  For every metric object `m` of the C01 model — Counter, Gauge,
Summary, Histogram (any bounds), Info, Enum (any states); any label schema, any state, hence in particular every
state reachable by any history — seen as a registry collector (`describe()` = its family without samples, `collect()`
= the family with the samples `_samples` / `_multi_samples` / `_child_samples` build, plus one `<name>_created` per
child when created series are enabled, `created`), every sample name it emits (`_total`, `_created`, `_count`, `_sum`,
`_bucket`, `_info`, the bare name for gauges and enums) is among the names `_get_names` records for it under the
extracted suffix table, whatever the `auto_describe` flag, help text and unit. -/
theorem builtin_claims_cover (ad : Bool) (id : Nat) (help unit : List Char) (created : Bool)
    (m : PromVerif.Model.Metrics.Metric V) :
    SamplesCovered ad (metricCollector id help unit created m) := by
  intro f hf smp hs
  cases List.mem_singleton.1 hf
  obtain ⟨⟨n, i⟩, hni, rfl⟩ := List.mem_map.1 hs
  -- `describe()` returns the one family, so the claims are that family's
  exact (mem_getNames_iff _ _ _).2
    (List.mem_append_left [] (emittedNames_claimed created m n (List.fst_mem_of_mem_zipIdx hni)))

end Builtin

private instance exVal : PromVerif.Model.Metrics.Val Nat :=
  { zero := 0, one := 1, add := Nat.add, neg := id, le := fun a b => decide (a ≤ b), lt := fun a b => decide (a < b),
    ofNat := id, inf := 1000000, beq := fun a b => decide (a = b) }

/-- `Histogram('h', …, ['l'], buckets=(1, +Inf))` with one child -/
private def exHist : PromVerif.Model.Metrics.Metric Nat :=
  { decl := { name := ['h'], kind := .histogram [(1, ['1', '.', '0']), (1000000, ['i', 'n', 'f'])], labelnames := [['l']] }
    single := none
    children := [([['a']], PromVerif.Model.Metrics.metricInit (.histogram [(1, ['1', '.', '0']), (1000000, ['i', 'n', 'f'])]))] }

-- the bridge is not vacuous: a labelled histogram child emits two buckets, count, sum and created, all claimed
example :
    emittedNames true exHist = [['h', '_', 'b', 'u', 'c', 'k', 'e', 't'], ['h', '_', 'b', 'u', 'c', 'k', 'e', 't'],
      ['h', '_', 'c', 'o', 'u', 'n', 't'], ['h', '_', 's', 'u', 'm'], ['h', '_', 'c', 'r', 'e', 'a', 't', 'e', 'd']] ∧
    getNames false (metricCollector 0 [] [] true exHist) = [['h'], ['h', '_', 'b', 'u', 'c', 'k', 'e', 't'],
      ['h', '_', 's', 'u', 'm'], ['h', '_', 'c', 'o', 'u', 'n', 't'], ['h', '_', 'c', 'r', 'e', 'a', 't', 'e', 'd']] := by
  decide +kernel

/-- **For registries of covered collectors the filter theorem is unconditional**: after any history all of whose
`register` calls are for collectors whose sample names are among their claimed names — every built-in metric object is
one (`builtin_claims_cover`) — the restricted collection is the per-sample-name filter of the full collection. -/
theorem restricted_is_filter_covered (ad : Bool) (ti : Option Labels) (ops : List Op) (names : List Name)
    (h : ∀ c, Op.register c ∈ ops → SamplesCovered ad c) :
    (restrictedCollect names (run (init ad ti) ops).1).families.Perm
      ((collect (run (init ad ti) ops).1).families.filterMap (restrictTo names)) := by
  have hi := PromVerif.Props.C06.inv_run ad ti ops
  refine restricted_is_filter hi (fun c ns hm f hf smp hs => ?_) names
  -- the recorded names are `_get_names` of the collector, under the flag the registry was made with
  rw [hi.stored c ns hm, (run_fields ops _).1, (init_fields ad ti).1]
  exact h c (registered_was_registered ad ti ops hm) f hf smp hs

section Http
open PromVerif.Model.Http (Env Fmt PyKey Params bakeOutput chooseEncoder)
variable {B : Type}

/-- the `str` values of `params['name[]']` (a `bytes` value never equals a sample name, which is a `str`) -/
def keyNames (ks : List PyKey) : List Name :=
  ks.filterMap fun k => match k with
    | .str s => some s
    | .bytes _ => none

/-- C17's opaque exposition parameter instantiated with this registry model: `expo f none` renders `collect()`,
`expo f (some names)` renders `restricted_registry(names).collect()`; `render` (the two encoders) stays opaque -/
def registryEnv (render : Fmt → List Family → B) (s : State) (gzip : B → B) (empty : B)
    (errBody : PromVerif.Model.Http.Str → PromVerif.Model.Http.Str → B) : Env B :=
  { expo := fun f r => match r with
      | none => render f (collect s).families
      | some ks => render f (restrictedCollect (keyNames ks) s).families
    gzip := gzip, empty := empty, errBody := errBody }

/-- **The HTTP `name[]` parameter is the restricted registry.**  With C17's exposition parameter instantiated as
"encode the families of this registry model" (`registryEnv`), the body `_bake_output` serves for a request whose
query has `name[]` values `ks` is — gzip-compressed iff the response says so — the chosen encoder applied to exactly
`restrictedCollect (keyNames ks) s`; without `name[]` it is the encoder applied to the full collection; and under the
C06 invariant and `ClaimsCover` the served families are, as a multiset, the per-sample-name filter of the full
collection with name, type, help and unit unchanged. -/
theorem http_name_param (render : Fmt → List Family → B) (s : State) (gzip : B → B) (empty : B)
    (errBody : PromVerif.Model.Http.Str → PromVerif.Model.Http.Str → B)
    (accept ae : Option PromVerif.Model.Http.Str) (params : Params) (d : Bool) :
    (∀ ks, params.lookup (PyKey.str PromVerif.Generated.Http.nameKey) = some ks →
      (bakeOutput (registryEnv render s gzip empty errBody) accept ae params d).body
        = (if PromVerif.Spec.Http.contentEncoding ∈
              (bakeOutput (registryEnv render s gzip empty errBody) accept ae params d).headers
           then gzip (render (chooseEncoder accept).1 (restrictedCollect (keyNames ks) s).families)
           else render (chooseEncoder accept).1 (restrictedCollect (keyNames ks) s).families) ∧
      (Inv s → ClaimsCover s →
        (restrictedCollect (keyNames ks) s).families.Perm
          ((collect s).families.filterMap (restrictTo (keyNames ks))))) ∧
    (params.lookup (PyKey.str PromVerif.Generated.Http.nameKey) = none →
      (bakeOutput (registryEnv render s gzip empty errBody) accept ae params d).body
        = (if PromVerif.Spec.Http.contentEncoding ∈
              (bakeOutput (registryEnv render s gzip empty errBody) accept ae params d).headers
           then gzip (render (chooseEncoder accept).1 (collect s).families)
           else render (chooseEncoder accept).1 (collect s).families)) := by
  have h := PromVerif.Props.C17.body_is_restricted_exposition (registryEnv render s gzip empty errBody) accept ae params d
  refine ⟨fun ks hk => ⟨h.1 ks hk, fun hi hc => restricted_is_filter hi hc _⟩, fun hn => h.2.1 hn⟩

end Http

/-- a collector without `describe()` whose `collect()` returns the gauge family `x` with one sample `x` -/
def undescribedCollector : Collector :=
  ⟨0, none, [⟨['x'], .gauge, ['h'], [], [⟨['x'], .idx 0⟩]⟩]⟩

/-- **Counter-example (known finding `C07:undescribed-collector-not-restrictable`).**  Registered in a registry with
`auto_describe` off, the collector claims no name; the registry is reachable and satisfies the invariant, `ClaimsCover`
fails, the full collection has the sample `x`, and `restricted_registry(['x']).collect()` yields nothing and calls
nobody — not the filter of the full collection.  So `restricted_is_filter` does not hold without `ClaimsCover`. -/
theorem claims_cover_needed :
    (register (init false none) undescribedCollector).2 = none ∧
    Inv (register (init false none) undescribedCollector).1 ∧
    ¬ ClaimsCover (register (init false none) undescribedCollector).1 ∧
    (collect (register (init false none) undescribedCollector).1).families.filterMap (restrictTo [['x']])
      = undescribedCollector.families ∧
    (restrictedCollect [['x']] (register (init false none) undescribedCollector).1).families = [] ∧
    (restrictedCollect [['x']] (register (init false none) undescribedCollector).1).calls = [] ∧
    ¬ (restrictedCollect [['x']] (register (init false none) undescribedCollector).1).families.Perm
        ((collect (register (init false none) undescribedCollector).1).families.filterMap (restrictTo [['x']])) := by
  -- last clause: a permutation keeps the length; nothing on the left, one family on the right
  refine ⟨by decide +kernel, PromVerif.Props.C06.inv_register (PromVerif.Props.C06.inv_init _ _) _, ?_, by decide +kernel,
    by decide +kernel, by decide +kernel, fun h => absurd h.length_eq (by decide +kernel)⟩
  rw [claimsCover_iff_all]
  decide +kernel

private def exS : State := (run (init false none) [.register exA, .register exB]).1

-- the hypotheses of the filter theorems hold of a registry with two collectors, and the restriction is non-trivial
example : Inv exS ∧ ClaimsCover exS ∧
    (restrictedCollect [['y'], ['z']] exS).families = exB.families ∧
    (restrictedCollect [['y'], ['z']] exS).calls = [Owner.coll exB] :=
  ⟨PromVerif.Props.C06.inv_run false none _, (claimsCover_iff_all _).2 (by decide +kernel), by decide +kernel,
    by decide +kernel⟩

/-- a gauge family `g_sec` with unit `sec` -/
private def f5Collector : Collector :=
  ⟨0, some [(['g', '_', 's', 'e', 'c'], .gauge)],
    [⟨['g', '_', 's', 'e', 'c'], .gauge, ['d'], ['s', 'e', 'c'], [⟨['g', '_', 's', 'e', 'c'], .idx 0⟩]⟩]⟩

-- regression (former F5): restricting to the family's only sample name returns the family unchanged, unit included
example :
    (restrictedCollect [['g', '_', 's', 'e', 'c']] (register (init false none) f5Collector).1).families
      = f5Collector.families := by decide +kernel

/-- what `Info('target', 'h').info({...})` registers: family `target` of type info with a sample `target_info` -/
private def f19Collector : Collector :=
  ⟨0, some [(['t', 'a', 'r', 'g', 'e', 't'], .info)],
    [⟨['t', 'a', 'r', 'g', 'e', 't'], .info, ['h'], [], [⟨tiName, .idx 0⟩]⟩]⟩

-- regression (former F19): the collector claiming `target_info` is selected through that name
example :
    (register (init false none) f19Collector).2 = none ∧
    (restrictedCollect [tiName] (register (init false none) f19Collector).1).families = f19Collector.families ∧
    (restrictedCollect [tiName] (register (init false none) f19Collector).1).calls = [Owner.coll f19Collector] := by
  decide +kernel

-- with target info configured, `target_info` selects the `_EmptyCollector` (which yields nothing) and the
-- target-info family is returned once
example :
    (restrictedCollect [tiName] (init false (some [(['a'], ['b'])]))).families = [targetInfoMetric [(['a'], ['b'])]] ∧
    (restrictedCollect [tiName] (init false (some [(['a'], ['b'])]))).calls = [Owner.empty] := by decide +kernel

end PromVerif.Props.C07
