/-
C05 — no application-supplied string can break the line structure of any wire format.

Models: `Model.TextExpo`, `Model.OMExpo`, `Model.Escape`, `Model.Validation` (shared base), `Model.Graphite`,
`Model.Ctor`.  Spec: the independent line grammar `Spec.LineGrammar` (`classify`, `graphiteLine`, `splitOn`).
Lemmas: `Lemmas/Lines*.lean`.  All statements are over unbounded strings / lists (induction), core Lean only.

Repairs: F2 (`$` in the name regexes also matched before a final LF, so `a\n` was written bare) and F3 (OpenMetrics
wrote exemplar label names raw) were repaired in /repo; T1 extracts an exact end anchor and
`exemplarNameEscaped = true`, and the text / OpenMetrics theorems below assume nothing about ANY name, label
name, label value, help text, enum state, info key/value or exemplar label.  If either repair is reverted the extracted
definitions change and `metric_anchor_exact` / `label_anchor_exact` / `exemplar_name_escaped` (Lemmas) stop checking.

The `_partial` theorems carry a decidable hypothesis excluding exactly a KNOWN finding, with a kernel-checked
counter-example showing the model exhibits it:
  F4  OpenMetrics writes the unit raw                                              (`familyOKOM`: unit empty or `unitTok`)
  G2  an empty sample name with an empty prefix gives an empty Graphite path       (`graphiteOK`: path not empty)
Preconditions that are not findings: values / float timestamps are number tokens (they are `repr` texts of doubles),
the family type is one of `METRIC_TYPES` (enforced by `Metric.__init__`), the Graphite clock is not negative, and the
Graphite `prefix` — operator configuration, outside the property's quantifier, inserted raw by `push` — consists of
path characters (`graphite_prefix_counterexample` documents that limit).
-/
import PromVerif.Lemmas.LinesCtor
import PromVerif.Lemmas.LinesOM
import PromVerif.Lemmas.LinesGraphite

namespace PromVerif.Props.C05
open PromVerif.Py PromVerif.Model PromVerif.Model.Escape PromVerif.Model.Validation
open PromVerif.Generated.Validation
open PromVerif.Spec.LineGrammar hiding Str
open PromVerif.Lemmas.Lines

/- decidable equality of model results, so that the counter-examples below can be closed by kernel evaluation -/
attribute [local instance] decEqExcept

/-- T1: every extraction site this property's models read was found in the source with the expected shape -/
theorem extract_ok :
    PromVerif.Generated.Expo.extractOk = true ∧ PromVerif.Generated.Validation.extractOk = true ∧
    PromVerif.Generated.Graphite.extractOk = true ∧ PromVerif.Generated.Ctor.extractOk = true ∧
    PromVerif.Generated.Utils.extractOk = true := by decide

/-- `_escape(s)` contains no raw line feed, for every string -/
theorem escape_no_raw_lf (s : Str) : '\n' ∉ escape s := Lemmas.Escape.newline_not_mem_escape s

/-- scanning `"` ++ `_escape(s)` ++ `"` with the grammar's quoted-string scanner ends exactly at the closing quote:
every `"` inside `_escape(s)` is preceded by an odd run of backslashes, no LF, and no dangling backslash at the end -/
theorem escape_quotes_escaped (s rest : Str) : qscan false (escape s ++ '"' :: rest) = some rest :=
  qscan_escape s rest

/-- the same as an automaton statement: from "inside quotes, not escaped" over `_escape(s)` back to that state -/
theorem escape_quotes_escaped_automaton (om : Bool) (k : Q) (s : Str) :
    run om (.q k false) (escape s) = .q k false := run_escape om k s

/-- the HELP escaping of the text format (both call sites) leaves no raw line feed -/
theorem help_no_raw_lf (s : Str) : '\n' ∉ escapeHelp s ∧ '\n' ∉ escapeHelpTrailing s :=
  ⟨Lemmas.Escape.newline_not_mem_escapeHelp s,
   by rw [Lemmas.Escape.escapeHelpTrailing_eq]; exact Lemmas.Escape.newline_not_mem_escapeHelp s⟩

/-- the HELP docstrings are docstrings of their format, for every help text: text format (both call sites) — every
backslash written is half of `\\` or starts `\n`, nothing else (0.0.4 knows exactly these two escapes); OpenMetrics — an
`escaped-string` of the ABNF -/
theorem help_text_well_escaped (s : Str) :
    helpText false (escapeHelp s) = true ∧ helpText false (escapeHelpTrailing s) = true ∧
    helpText true (escape s) = true := helpText_escaped s

/- The test vectors of this file are closed and proved by kernel evaluation.  Decoding a `String` literal is the dear
part of that, so where it pays the literals of a statement (and of the test family, unfolded) are first read as
character lists: a literal `"…"` is `String.ofList […]` to the kernel, and `String.toList_ofList` removes the round trip. -/
/-- what the grammar rejects: the label-value escape `\"` is not an escape of a text-format HELP docstring -/
example : helpText false "He said \\\"hi\\\"".toList = false ∧ helpText false "a\\".toList = false ∧
    helpText false "He said \"hi\" \\\\ \\n".toList = true ∧ helpText true "a\"b".toList = false := by
  repeat rw [String.toList_ofList]
  decide +kernel

/-- exemplar label values are escaped by the same chain as `_escape` -/
theorem exemplar_value_escaped (s rest : Str) :
    '\n' ∉ escapeExemplarValue s ∧ qscan false (escapeExemplarValue s ++ '"' :: rest) = some rest := by
  rw [escapeExemplarValue_eq]; exact ⟨Lemmas.Escape.newline_not_mem_escape s, qscan_escape s rest⟩

example : escape "a\"b\\c\nd".toList = "a\\\"b\\\\c\\nd".toList := by
  repeat rw [String.toList_ofList]
  decide +kernel

/-- sanity of the spec: whatever the grammar accepts as one line contains no line feed -/
theorem recognised_line_has_no_lf (om : Bool) (l : Str) (k : Kind) (h : classify om l = some k) : '\n' ∉ l :=
  classify_noLF om l k h

/-- the text exposition writes exactly `expectedLineCount` line strings per family (two metadata lines, one per sample,
two more per trailing `_created/_gsum/_gcount` group) — for every registry, no hypothesis -/
theorem text_line_count (fs : List Family) :
    (fs.flatMap TextExpo.familyLines).length = (fs.map expectedLineCount).sum := by
  simp only [List.length_flatMap, familyLines_length]

/-- FULL STRENGTH.  For every registry — every string in every name, label name, label value and help position,
sample names unrelated to the family name included — whose types are `METRIC_TYPES` members and whose values are number
tokens (`familyOKText`): splitting the text exposition on LF yields exactly the line strings the model wrote (one per
HELP/TYPE/sample, `expectedLineCount` per family) and each of them is a line of the independent grammar -/
theorem text_lines_exact (fs : List Family) (h : ∀ f ∈ fs, familyOKText f = true) :
    splitOn '\n' (TextExpo.generateLatest fs) = (fs.flatMap TextExpo.familyLines).map List.dropLast ++ [[]] ∧
    ((fs.flatMap TextExpo.familyLines).map List.dropLast).length = (fs.map expectedLineCount).sum ∧
    ∀ l ∈ (fs.flatMap TextExpo.familyLines).map List.dropLast, recognise false l = true := by
  have hl := text_doc fs h
  refine ⟨splitOn_lines _ hl.isLine, ?_, ?_⟩
  · rw [List.length_map]; exact text_line_count fs
  · refine List.forall_mem_map.mpr fun l0 hl0 => ?_
    obtain ⟨k, hk⟩ := hl.lineOf l0 hl0
    simp [recognise, hk.kind]

/-- non-vacuity for the kind sequence: two main samples, `_gsum` ×2 and `_created` ×1 interleaved (groups come out sorted) -/
def exFamK : Family :=
  ⟨['h'], ['d'], "gaugehistogram".toList, [],
    [⟨"h_gsum".toList, [], "1.0".toList, none, none⟩, ⟨"h_bucket".toList, [("le".toList, "+Inf".toList)], "2.0".toList, none, none⟩,
     ⟨"h_created".toList, [], "3.0".toList, none, none⟩, ⟨"h_gsum".toList, [(['a'], ['b'])], "4.0".toList, none, none⟩,
     ⟨"x\n".toList, [], "5.0".toList, none, none⟩]⟩
example : familyOKText exFamK = true := by
  unfold exFamK
  repeat rw [String.toList_ofList]
  decide +kernel

/-- FULL STRENGTH, exact KIND sequence (the text counterpart of `om_lines_exact_partial`): splitting the text exposition
on LF and classifying every piece with the independent grammar gives, per family, HELP, TYPE, one sample line per
sample that is not a trailing `_created/_gsum/_gcount` sample, then for each trailing suffix that occurs (groups sorted
by suffix, `textGroups` = their sizes) HELP, TYPE and one sample line per sample of the group — then the empty piece
after the last LF.  No line is added, removed, split or merged, whatever the strings. -/
theorem text_kinds_exact (fs : List Family) (h : ∀ f ∈ fs, familyOKText f = true) :
    lineKinds false (TextExpo.generateLatest fs) = (fs.flatMap textKinds).map some ++ [none] :=
  lineKinds_flatten (text_doc fs h)

/-- the sample-line kinds of a family are exactly as many as its samples: main samples + group sizes -/
example : textKinds exFamK = [.help, .type, .sample, .sample, .help, .type, .sample, .help, .type, .sample, .sample] := by
  decide +kernel

/-- one sample line of the text format, in isolation: any name, any labels; the value a number token -/
theorem text_sample_line (s : Sample) (h : floatTok s.value = true) :
    ∃ b, TextExpo.sampleLine s = b ++ ['\n'] ∧ '\n' ∉ b ∧ classify false b = some .sample :=
  (text_sampleLine_lineOf s h).body

/-- no label name whatsoever can break a sample line: `escape_label_name(k)="…"` is, for EVERY `k` and `v`, LF-free
and one well-formed label item of the grammar (sample labels and exemplar labels alike).  In particular a
reserved-looking name such as `__a\nb` — accepted under UTF-8 validation because `^__.*$` does not match across the
LF — is not a legacy name, hence quoted and escaped. -/
theorem any_label_name_is_safe (om ex f : Bool) (k v : Str) :
    '\n' ∉ escapeLabelName k ++ ['=', '"'] ++ escape v ++ ['"'] ∧
    run om (.lb ex f) (escapeLabelName k ++ ['=', '"'] ++ escape v ++ ['"']) = .qe (if ex then .exval else .lval) := by
  refine ⟨?_, run_labelItem om ex f k v⟩
  intro hm
  have := run_of_mem_lf om (.lb ex f) _ hm
  rw [run_labelItem om ex f k v] at this
  cases this

/-- likewise every metric / sample name: `escape_metric_name(n)` followed by a space is a well-formed name token -/
theorem any_metric_name_is_safe (n t : Str) : metaName (escapeMetricName n ++ ' ' :: t) = some t :=
  metaName_escapeMetricName n t

example : validateLabelname false "__a\nb".toList = .ok () := by
  rw [String.toList_ofList]
  decide +kernel
example : isValidLegacyLabelname "__a\nb".toList = false ∧ isValidLegacyLabelname "__a\n".toList = false ∧
    isValidLegacyLabelname "l\n".toList = false ∧ isValidLegacyMetricName "a\n".toList = false := by
  repeat rw [String.toList_ofList]
  decide +kernel

/-- non-vacuity: a family with a non-legacy name, adversarial label names/values and help, a `_created` sample,
names ending in LF, a reserved-looking label name containing LF -/
def exFam : Family :=
  ⟨"a b\n".toList, "he\"l\\p\nx".toList, "counter".toList, [],
    [⟨"a b\n_total".toList, [("l é\n".toList, "v\n\"\\".toList), ("__a\nb".toList, []), ("k\n".toList, [])], "1.0".toList, none, none⟩,
     ⟨"a b\n_created".toList, [], "1.5".toList, none, none⟩, ⟨"x\n".toList, [], "2.0".toList, none, none⟩]⟩
example : familyOKText exFam = true := by decide +kernel
example : expectedLineCount exFam = 7 := by
  unfold exFam
  repeat rw [String.toList_ofList]
  decide +kernel

/-- regression of repaired F2: `Gauge('a\n','h',['l\n'])` (now only constructible under UTF-8 validation) is quoted -/
def f2Fam : Family :=
  ⟨['a', '\n'], ['h'], "gauge".toList, [], [⟨['a', '\n'], [(['l', '\n'], ['v'])], "1.0".toList, none, none⟩]⟩
example : validateMetricName true f2Fam.name = .error .valueError ∧ validateLabelname true ['l', '\n'] = .error .valueError ∧
    TextExpo.generateLatest [f2Fam] = "# HELP \"a\\n\" h\n# TYPE \"a\\n\" gauge\n{\"a\\n\",\"l\\n\"=\"v\"} 1.0\n".toList ∧
    lineKinds false (TextExpo.generateLatest [f2Fam]) = [some .help, some .type, some .sample, none] := by
  unfold f2Fam
  repeat rw [String.toList_ofList]
  decide +kernel

/-
Full strength (FALSE on the unchanged tree because of the known finding F4):
  theorem om_lines_exact (fs) (out) (h : OMExpo.generateLatest fs = .ok out) (numbers are number tokens, types ∈ METRIC_TYPES) :
      lineKinds true out = ((fs.flatMap omKinds ++ [.eof]).map some) ++ [none]
Proved: the same with `familyOKOM`, whose only additional demand is that a non-empty unit has no LF, quote or backslash
(the unit is written raw: F4).  Nothing is assumed about names, labels, help or exemplar labels.  Missing: the unit.
-/
/-- splitting the OpenMetrics exposition on LF and classifying every piece with the independent grammar gives, per
family, HELP, TYPE, UNIT iff the unit is non-empty, one sample line per sample — then exactly one `# EOF` — then the
empty piece after the last LF -/
theorem om_lines_exact_partial (fs : List Family) (out : Str) (h : OMExpo.generateLatest fs = .ok out)
    (hok : ∀ f ∈ fs, familyOKOM f = true) :
    lineKinds true out = (fs.flatMap omKinds ++ [Kind.eof]).map some ++ [none] := by
  obtain ⟨body, rfl, hl⟩ := om_doc fs out h hok
  exact lineKinds_flatten (hl.append eof_linesOf)

theorem eof_not_in_omKinds (fs : List Family) : Kind.eof ∉ fs.flatMap omKinds := by
  intro h
  obtain ⟨f, _, hf⟩ := List.mem_flatMap.mp h
  unfold omKinds at hf
  cases f.unit.isEmpty <;> simp at hf

/-- the OpenMetrics exposition ends in exactly one `# EOF` line, and no earlier line is an EOF line -/
theorem om_single_eof_partial (fs : List Family) (out : Str) (h : OMExpo.generateLatest fs = .ok out)
    (hok : ∀ f ∈ fs, familyOKOM f = true) :
    ∃ body : List Str, splitOn '\n' out = body ++ ["# EOF".toList, []] ∧
      ∀ l ∈ body, classify true l ≠ some .eof := by
  obtain ⟨body, rfl, hl⟩ := om_doc fs out h hok
  refine ⟨body.map List.dropLast, ?_, ?_⟩
  · rw [splitOn_lines _ (hl.append eof_linesOf).isLine, List.map_append, List.append_assoc, eof_line,
      List.map_singleton, List.dropLast_concat]
    rfl
  · refine List.forall_mem_map.mpr fun l0 hl0 hk => ?_
    have : some Kind.eof ∈ (fs.flatMap omKinds).map some := by
      rw [← hl.kinds]; exact List.mem_map.mpr ⟨l0, hl0, hk⟩
    simp only [List.mem_map, Option.some.injEq, exists_eq_right] at this
    exact eof_not_in_omKinds fs this

/-- FULL STRENGTH: one sample line of OpenMetrics (timestamp and exemplar included), in isolation — any name, labels and
exemplar labels; numbers are number tokens -/
theorem om_sample_line (fam : Family) (s : Sample) (l : Str) (hok : sampleOKOM s = true)
    (h : OMExpo.sampleLine fam s = .ok l) :
    ∃ b, l = b ++ ['\n'] ∧ '\n' ∉ b ∧ classify true b = some .sample :=
  (om_sampleLine_lineOf fam s l hok h).body

/-- non-vacuity: unit, non-legacy names, timestamp, exemplar with timestamp -/
def exFamOM : Family :=
  ⟨"c d_s".toList, "h\n".toList, "counter".toList, ['s'],
    [⟨"c d_s_total".toList, [("l é".toList, "v\n\"\\".toList)], "1.0".toList, some ⟨.stamp 1 5, 1000⟩,
      some ⟨[("trace_id".toList, "a\"b\n".toList), ("a b\n# EOF".toList, ['x']), ("l\n".toList, [])], "0.5".toList,
        some (.flt "1.5".toList)⟩⟩]⟩
example : familyOKOM exFamOM = true := by decide +kernel
example : ∃ out, OMExpo.generateLatest [exFamOM] = .ok out := by
  refine om_total [exFamOM] (fun f hf => ?_)
  rw [List.mem_singleton.mp hf]
  decide +kernel

/-- regression of repaired F3: `c.inc(1, {'a\n# EOF\nb': 'x'})` — the exemplar label name is quoted and escaped -/
def f3Fam : Family :=
  ⟨['c'], ['h'], "counter".toList, [],
    [⟨"c_total".toList, [], "1.0".toList, none, some ⟨[("a\n# EOF\nb".toList, ['x'])], "1.0".toList, none⟩⟩]⟩
example :
    OMExpo.generateLatest [f3Fam] =
      .ok "# HELP c h\n# TYPE c counter\nc_total 1.0 # {\"a\\n# EOF\\nb\"=\"x\"} 1.0\n# EOF\n".toList ∧
    lineKinds true "# HELP c h\n# TYPE c counter\nc_total 1.0 # {\"a\\n# EOF\\nb\"=\"x\"} 1.0\n# EOF\n".toList =
      [some .help, some .type, some .sample, some .eof, none] ∧
    familyOKOM f3Fam = true := by
  unfold f3Fam
  repeat rw [String.toList_ofList]
  decide +kernel

/-- F4 in the model: `Gauge('g','d',unit='a\nb')` (UTF-8 names) — the unit is neither validated nor escaped -/
def f4Fam : Family :=
  ⟨"g_a\nb".toList, ['d'], "gauge".toList, "a\nb".toList, [⟨"g_a\nb".toList, [], "1.0".toList, none, none⟩]⟩
theorem f4_counterexample :
    validateMetricName false f4Fam.name = .ok () ∧
    OMExpo.generateLatest [f4Fam] =
      .ok "# HELP \"g_a\\nb\" d\n# TYPE \"g_a\\nb\" gauge\n# UNIT \"g_a\\nb\" a\nb\n{\"g_a\\nb\"} 1.0\n# EOF\n".toList ∧
    lineKinds true "# HELP \"g_a\\nb\" d\n# TYPE \"g_a\\nb\" gauge\n# UNIT \"g_a\\nb\" a\nb\n{\"g_a\\nb\"} 1.0\n# EOF\n".toList =
      [some .help, some .type, some .unit, none, some .sample, some .eof, none] ∧
    familyOKOM f4Fam = false := by
  unfold f4Fam
  repeat rw [String.toList_ofList]
  decide +kernel

/-- every (type, name, namespace, subsystem, unit, label names) the constructor of an instrumentation class accepts —
under either validation setting — is accepted unchanged by `Metric.__init__`, which `collect()` runs before every
exposition; and a family with that name, any documentation and any samples whose exemplars sit on eligible samples
(the only ones `Counter.inc` / `Histogram.observe` create) is exposed by the OpenMetrics model without raising.
Nothing is stated for the text exposition because nothing can be: its model is a total function (`Str`, not `PyM Str`).
The real text exposition's only raising sites are `floatToGoString(value)` on a non-number and the
`int(float(ts) * 1000)` conversion of a non-finite timestamp — both outside the model (values are numbers, the
millisecond count is a model input the harness computes); constructors never supply a timestamp. -/
theorem constructor_accepts_exposable (legacy : Bool) (typ name ns ss unit full doc : Str) (lns : List Str)
    (samples : List Sample)
    (hcls : typ ∈ PromVerif.Generated.Ctor.reservedLabelnames.map (·.1))
    (h : Ctor.wrapperInit legacy typ name ns ss unit lns = .ok full)
    (hex : exemplarsEligible ⟨full, doc, typ, unit, samples⟩ = true) :
    Ctor.metricInit legacy full typ unit = .ok (full, typ) ∧
    (∃ out, OMExpo.generateLatest [⟨full, doc, typ, unit, samples⟩] = .ok out) :=
  ⟨ctor_then_metricInit legacy typ name ns ss unit full lns hcls h,
   om_total _ (fun f hf => by simp at hf; subst hf; exact hex)⟩

/-- conversely the OpenMetrics model raises only for an exemplar on an ineligible sample -/
theorem om_raises_only_for_ineligible_exemplar (fs : List Family) (h : ∀ f ∈ fs, exemplarsEligible f = true) :
    ∃ out, OMExpo.generateLatest fs = .ok out := om_total fs h

example : Ctor.wrapperInit true "counter".toList "req_total".toList "ns".toList [] ['s'] [['l']] = .ok "ns_req_s".toList := by
  repeat rw [String.toList_ofList]
  decide +kernel
example : Ctor.wrapperInit true "histogram".toList ['h'] [] [] [] [['l', 'e']] = .error .valueError := by
  rw [String.toList_ofList]
  decide +kernel
example : Ctor.wrapperInit true "info".toList ['i'] [] [] ['s'] [] = .error .valueError := by
  rw [String.toList_ofList]
  decide +kernel
/-- regression of repaired F2 at the constructor: legacy validation rejects a full name ending in LF (here through the unit) -/
example : Ctor.wrapperInit true "gauge".toList ['g'] [] [] ['a', '\n'] [] = .error .valueError := by
  rw [String.toList_ofList]
  decide +kernel

/-- `_sanitize` output consists of whitelist characters only, for every input; whitelist characters are printable
ASCII and none of space, LF, `.`, `;`, `=` -/
theorem graphite_sanitize_whitelist (s : Str) :
    ∀ c ∈ Graphite.sanitize s, inClass PromVerif.Generated.Graphite.allowedClass c = true ∧ pathCh c = true ∧
      c ≠ ' ' ∧ c ≠ '\n' ∧ c ≠ '.' ∧ c ≠ ';' ∧ c ≠ '=' := by
  intro c hc
  have h := sanitize_allowed s c hc
  exact ⟨h, allowed_pathCh c h, allowed_strict c h⟩

/-- `push` writes one line string per collected sample -/
theorem graphite_one_line_per_sample (tags : Bool) (pfx : Str) (now : Int) (fams : List Family) :
    (Graphite.lines tags pfx now fams).length = (fams.map (fun f => f.samples.length)).sum := by
  simp only [Graphite.lines, List.length_flatMap, List.length_map]

/-
Full strength (FALSE on the unchanged tree — known finding G2):
  every line string is `path SP value SP timestamp` for every sample name, label name and label value.
Proved: with `graphiteOK`: prefix or sample name is non-empty (G2), plus preconditions: the value is a number token, the
clock is non-negative, and the `prefix` argument — operator configuration, not an application-supplied string of the
property's quantifier, inserted raw by `push` — consists of path characters (a precondition on configuration, not a
finding; `graphite_prefix_counterexample` documents what happens outside it).  Metric names, label names and label
VALUES need no hypothesis: all go through `_sanitize`.
-/
/-- each Graphite line is LF-terminated, LF-free, and `path SP value SP int` with exactly two spaces -/
theorem graphite_lines_exact_partial (tags : Bool) (prefixstr : Str) (now : Int) (s : Sample)
    (h : graphiteOK prefixstr now s = true) :
    ∃ b, Graphite.line tags prefixstr now s = b ++ ['\n'] ∧ graphiteLine b = true ∧ '\n' ∉ b ∧ b.count ' ' = 2 := by
  obtain ⟨b, hb, hg, hlf⟩ := graphite_line_ok tags prefixstr now s h
  exact ⟨b, hb, hg, hlf, graphiteLine_spaces b hg⟩

example : graphiteOK "p.q.".toList 123 ⟨"m x".toList, [("l é".toList, "v w\n;=.".toList)], "1.0".toList, none, none⟩ = true := by
  decide +kernel
example : Graphite.line true "p.".toList 123 ⟨"m x".toList, [("l é".toList, "v w\n;=.".toList)], "1.0".toList, none, none⟩ =
    "p.m_x;l__=v_w____ 1.0 123\n".toList := by
  rw [line_eq]
  repeat rw [String.toList_ofList]
  decide +kernel

/-- DOCUMENTED LIMIT (not a finding: the prefix is configuration, outside the property's quantifier): `push(prefix='evil 1 1\ninjected')` — the prefix is inserted raw: one sample, two
well-formed Graphite lines on the wire, the first one forged -/
def g1Fam : Family := ⟨['m'], [], "gauge".toList, [], [⟨['m'], [], "1.0".toList, none, none⟩]⟩
theorem graphite_prefix_counterexample :
    Graphite.push false "evil 1 1\ninjected".toList 123 [g1Fam] = .ok "evil 1 1\ninjected.m 1.0 123\n".toList ∧
    (splitOn '\n' "evil 1 1\ninjected.m 1.0 123\n".toList).map graphiteLine = [true, true, false] ∧
    (Graphite.lines false "evil 1 1\ninjected".toList 123 [g1Fam]).length = 1 := by
  unfold g1Fam
  simp only [Graphite.push, Graphite.lines, funext (line_eq _ _ _)]
  repeat rw [String.toList_ofList]
  decide +kernel

/-- G2 in the model: a sample with an empty name and no prefix gives a line with an empty path -/
def g2Fam : Family := ⟨['m'], [], "gauge".toList, [], [⟨[], [], "1.0".toList, none, none⟩]⟩
theorem graphite_empty_path_counterexample :
    Graphite.push false [] 123 [g2Fam] = .ok " 1.0 123\n".toList ∧ graphiteLine " 1.0 123".toList = false := by
  unfold g2Fam
  simp only [Graphite.push, Graphite.lines, funext (line_eq _ _ _)]
  repeat rw [String.toList_ofList]
  decide +kernel

end PromVerif.Props.C05
