/-
C06 — a registry never holds two collectors claiming the same series name.

All theorems are about the model `Model/Registry.lean` (tied to /repo by extraction of the suffix table and by the
correspondence run of `harness/props/c06.py`).  Histories are unbounded lists of `register` / `unregister` /
`set_target_info` calls over arbitrary collectors (any ids, any described families of any type, with or without
`describe`, `auto_describe` on or off).

History of finding F6 (fixed in /repo by ec395f2): a collector whose own claimed names repeat — e.g. one describing
`x` (counter, claims x, x_total, x_created) and `x_total` (gauge) — used to register with `x_total` recorded twice, and
`unregister` then raised `KeyError` half-way.  `_get_names` now records every name once; the model follows, the
theorems about `unregister` and about whole histories hold without any hypothesis on the collectors, and the old
witness is kept as a regression `example`.
-/
import PromVerif.Lemmas.Registry

namespace PromVerif.Props.C06
open PromVerif.Py PromVerif.Model.Registry PromVerif.Spec.Registry

-- `Inv` alone would also name core's class of `⁻¹`, and every occurrence would be elaborated both ways
export PromVerif.Spec.Registry (Inv)

/-- the extractor found `type_suffixes` and the loop applying it in the shape it understands -/
theorem extract_ok : PromVerif.Generated.Registry.extractOk = true := by decide

/-- **The decision structure of registry.py is the one the theorems below are about** (T1): `register` tests all names
and raises before any store; `set_target_info` tests `not previous and 'target_info' claimed`, raises before it assigns
`_target_info`, pops the reservation only when target info was configured; `unregister` deletes each recorded name of
the collector; `collect` snapshots under the lock and yields target info first; `_get_names` prefers `describe` and falls
back to `collect` under auto-describe; `RestrictedRegistry.collect` resolves the names under the registry lock into a set,
yields target info only when requested and configured, filters through `_restricted_metric` and drops empty results.
`Model/Registry.lean` consults every one of these flags; the lemmas `register_eq`, `setTargetInfo_eq`, `unregister_eq`,
`getNames_eq`, `collect_eq`, `restrictedCollect_eq`, `collAdd_eq` (Lemmas/Registry.lean) reduce the model to its reference
body by `decide` on them, and every theorem about these functions goes through those lemmas. -/
theorem registry_shape_ok :
    PromVerif.Generated.Registry.registerChecksAllBeforeStore = true ∧
    PromVerif.Generated.Registry.setTargetInfoStoresAfterCheck = true ∧
    PromVerif.Generated.Registry.setTargetInfoClashNegatesPrevious = true ∧
    PromVerif.Generated.Registry.setTargetInfoClashIsConjunction = true ∧
    PromVerif.Generated.Registry.setTargetInfoClearsOnlyWhenPreviouslySet = true ∧
    PromVerif.Generated.Registry.unregisterTakesRecordedNames = true ∧
    PromVerif.Generated.Registry.unregisterDeletesEachName = true ∧
    PromVerif.Generated.Registry.collectSnapshotsUnderLock = true ∧
    PromVerif.Generated.Registry.collectTargetInfoFirst = true ∧
    PromVerif.Generated.Registry.getNamesAutoDescribeFallback = true ∧
    PromVerif.Generated.Registry.restrictedResolvesUnderLock = true ∧
    PromVerif.Generated.Registry.restrictedCollectorsIsSet = true ∧
    PromVerif.Generated.Registry.restrictedTargetInfoNeedsRequested = true ∧
    PromVerif.Generated.Registry.restrictedTargetInfoNeedsConfigured = true ∧
    PromVerif.Generated.Registry.restrictedFiltersAndDropsEmpty = true :=
  PromVerif.Model.Registry.registry_shape_ok

/-- **The table in the source is the table of the property statement**: for every metric type, the suffixes
`_get_names` appends are exactly the ones the type exposes. -/
theorem suffix_table_is_spec : ∀ t : MType, suffixesOf t = suffixes t :=
  suffixesOf_eq

/-- the suffixes occurring in the table are the eight named in the statement, no other -/
theorem suffix_table_union :
    ((MType.all.flatMap suffixes).eraseDups) = statementSuffixes := by decide +kernel

example : suffixesOf .counter = [['_', 't', 'o', 't', 'a', 'l'], ['_', 'c', 'r', 'e', 'a', 't', 'e', 'd']] := by decide +kernel

/-- `_get_names` yields exactly the names the statement says the collector claims … -/
theorem getNames_mem_iff_claims (ad : Bool) (c : Collector) (n : Name) : n ∈ getNames ad c ↔ n ∈ claims ad c :=
  mem_getNames_iff ad c n

/-- … and records each of them once (what `unregister`'s name-by-name deletion relies on) -/
theorem getNames_nodup (ad : Bool) (c : Collector) : (getNames ad c).Nodup :=
  PromVerif.Model.Registry.getNames_nodup ad c

theorem inv_init (ad : Bool) (ti : Option Labels) : Inv (init ad ti) :=
  inv_setTargetInfo (inv_base ad) ti

example : Inv (init true (some [(['a'], ['b'])])) := inv_init _ _

theorem inv_register {s : State} (hi : Inv s) (c : Collector) : Inv (register s c).1 := by
  cases h : clashes s c
  · exact inv_register_ok hi c h
  · rw [register_raise h]; exact hi

theorem inv_setTargetInfo {s : State} (hi : Inv s) (l : Option Labels) : Inv (setTargetInfo s l).1 :=
  PromVerif.Model.Registry.inv_setTargetInfo hi l

theorem inv_unregister {s : State} (hi : Inv s) (c : Collector) : Inv (unregister s c).1 := by
  by_cases hk : c ∈ s.collectorToNames.map Prod.fst
  · obtain ⟨⟨c', ns⟩, hm, rfl⟩ := List.mem_map.1 hk
    exact inv_unregister_ok hi hm
  · rw [unregister_unknown hk]; exact hi

theorem inv_step {s : State} (hi : Inv s) (op : Op) : Inv (step s op).1 := by
  cases op with
  | register c => exact inv_register hi c
  | unregister c => exact inv_unregister hi c
  | setTargetInfo l => exact inv_setTargetInfo hi l

theorem inv_run_from (ops : List Op) : ∀ s : State, Inv s → Inv (run s ops).1 := by
  induction ops with
  | nil => intro s hi; exact hi
  | cons op ops ih =>
    intro s hi
    exact ih _ (inv_step hi op)

/-- **Every history keeps the invariant** — any length, any collectors (any ids, families, types, with or without
`describe`, names repeated or not), any interleaving of the three calls including the ones that raise, any
`auto_describe` flag and initial target info. -/
theorem inv_run (ad : Bool) (ti : Option Labels) (ops : List Op) : Inv (run (init ad ti) ops).1 :=
  inv_run_from ops _ (inv_init ad ti)

/-- **No two registered collectors claim one name** (consequence of the invariant). -/
theorem no_double_claim {s : State} (hi : Inv s) {c₁ c₂ : Collector} {ns₁ ns₂ : List Name} {n : Name}
    (h₁ : (c₁, ns₁) ∈ s.collectorToNames) (h₂ : (c₂, ns₂) ∈ s.collectorToNames)
    (hn₁ : n ∈ claims s.autoDescribe c₁) (hn₂ : n ∈ claims s.autoDescribe c₂) : c₁ = c₂ :=
  Owner.coll.inj (hi.owner_unique (hi.coll_mem h₁ ((hi.mem_stored_iff h₁ n).2 hn₁))
    (hi.coll_mem h₂ ((hi.mem_stored_iff h₂ n).2 hn₂)))

/-- **Headline over all histories**: after any history, no name is claimed by two registered collectors. -/
theorem no_double_claim_run (ad : Bool) (ti : Option Labels) (ops : List Op) {c₁ c₂ : Collector} {ns₁ ns₂ : List Name}
    {n : Name} (h₁ : (c₁, ns₁) ∈ (run (init ad ti) ops).1.collectorToNames)
    (h₂ : (c₂, ns₂) ∈ (run (init ad ti) ops).1.collectorToNames)
    (hn₁ : n ∈ claims (run (init ad ti) ops).1.autoDescribe c₁)
    (hn₂ : n ∈ claims (run (init ad ti) ops).1.autoDescribe c₂) : c₁ = c₂ :=
  no_double_claim (inv_run ad ti ops) h₁ h₂ hn₁ hn₂

/-- while target info is configured no registered collector claims `target_info` -/
theorem target_info_not_double_claimed {s : State} (hi : Inv s) (ht : truthy s.targetInfo = true)
    {c : Collector} {ns : List Name} (h : (c, ns) ∈ s.collectorToNames) : tiName ∉ claims s.autoDescribe c :=
  fun hn => nomatch hi.owner_unique (hi.coll_mem h ((hi.mem_stored_iff h _).2 hn)) (hi.empty_mem ht)

theorem claimed_iff_key {s : State} (hi : Inv s) (n : Name) :
    Claimed s n ↔ n ∈ s.namesToCollectors.map Prod.fst := by
  constructor
  · rintro (⟨c, ns, hm, hn⟩ | ⟨hn, ht⟩)
    · exact List.mem_map.2 ⟨_, hi.coll_mem hm ((hi.mem_stored_iff hm n).2 hn), rfl⟩
    · exact List.mem_map.2 ⟨_, hn ▸ hi.empty_mem ht, rfl⟩
  · intro h
    obtain ⟨⟨n', o⟩, hm, rfl⟩ := List.mem_map.1 h
    rcases (hi.graph _ _).1 hm with ⟨c, ns, _, hc, hn⟩ | ⟨_, hn, ht⟩
    · exact Or.inl ⟨c, ns, hc, (hi.mem_stored_iff hc _).1 hn⟩
    · exact Or.inr ⟨hn, ht⟩

/-- `register` raises nothing but `ValueError` -/
theorem register_only_valueError (s : State) (c : Collector) :
    (register s c).2 = none ∨ (register s c).2 = some .valueError := by
  cases h : clashes s c
  · rw [register_ok h]; exact Or.inl rfl
  · rw [register_raise h]; exact Or.inr rfl

/-- `register` raises exactly when one of the collector's names is already claimed -/
theorem register_raises_iff_clash {s : State} (hi : Inv s) (c : Collector) :
    (register s c).2 = some .valueError ↔ ∃ n, n ∈ claims s.autoDescribe c ∧ Claimed s n := by
  -- the test `if duplicates:` in the terms of the statement: the keys of the name map are the claimed names
  have hclaim : clashes s c = true ↔ ∃ n, n ∈ claims s.autoDescribe c ∧ Claimed s n := by
    simp only [clashes, List.any_eq_true, dHas_iff, ← claimed_iff_key hi, mem_getNames_iff]
  rw [← hclaim]
  cases h : clashes s c
  · rw [register_ok h]
    exact ⟨fun e => (nomatch e), fun e => (nomatch e)⟩
  · rw [register_raise h]
    exact ⟨fun _ => rfl, fun _ => rfl⟩

/-- **A registration that raises leaves the registry exactly as it was.** -/
theorem register_clash_is_frame (s : State) (c : Collector) (h : (register s c).2 ≠ none) :
    (register s c).1 = s := by
  cases hc : clashes s c
  · rw [register_ok hc] at h; exact absurd rfl h
  · rw [register_raise hc]

/-- describes a counter `x`: claims x, x_total, x_created -/
private def exA : Collector := ⟨0, some [(['x'], .counter)], []⟩
/-- no `describe`; `collect()` returns a gauge family `x_total` -/
private def exB : Collector := ⟨1, none, [⟨['x', '_', 't', 'o', 't', 'a', 'l'], .gauge, [], [], []⟩]⟩

example : (register (register (init true none) exA).1 exB).2 = some .valueError := by decide +kernel

/-- `set_target_info` raises exactly when it would newly reserve `target_info` while a registered collector
claims that name -/
theorem targetinfo_raises_iff_clash {s : State} (hi : Inv s) (l : Option Labels) :
    (setTargetInfo s l).2 = some .valueError ↔
      (truthy l = true ∧ truthy s.targetInfo = false ∧
        ∃ c ns, (c, ns) ∈ s.collectorToNames ∧ tiName ∈ claims s.autoDescribe c) := by
  -- the test `not self._target_info and 'target_info' in self._names_to_collectors` in the terms of the statement
  have hclaim : tiClashes s l = true ↔ truthy l = true ∧ truthy s.targetInfo = false ∧
      ∃ c ns, (c, ns) ∈ s.collectorToNames ∧ tiName ∈ claims s.autoDescribe c := by
    rw [tiClashes, Bool.and_eq_true, Bool.and_eq_true, Bool.not_eq_true', dHas_iff, ← claimed_iff_key hi]
    refine and_congr_right fun _ => and_congr_right fun hf => ?_
    -- no target info is configured, so `target_info` is claimed by a registered collector
    exact ⟨fun h => h.resolve_right fun h' => Bool.false_ne_true (hf ▸ h'.2), Or.inl⟩
  rw [← hclaim]
  cases h : tiClashes s l
  · rw [setTargetInfo_ok h]
    exact ⟨fun e => (nomatch e), fun e => (nomatch e)⟩
  · rw [setTargetInfo_raise h]
    exact ⟨fun _ => rfl, fun _ => rfl⟩

/-- **A target-info change that raises leaves the registry exactly as it was.** -/
theorem targetinfo_clash_is_frame (s : State) (l : Option Labels) (h : (setTargetInfo s l).2 ≠ none) :
    (setTargetInfo s l).1 = s := by
  cases hc : tiClashes s l
  · exact absurd (setTargetInfo_ok hc) h
  · rw [setTargetInfo_raise hc]

private def exT : Collector := ⟨2, some [(['t', 'a', 'r', 'g', 'e', 't'], .info)], []⟩

example : (setTargetInfo (register (init false none) exT).1 (some [(['a'], ['b'])])).2 = some .valueError := by decide +kernel

/-- unregistering a collector that is not registered raises `KeyError` and changes nothing -/
theorem unregister_unknown_is_frame (s : State) (c : Collector) (h : c ∉ s.collectorToNames.map Prod.fst) :
    unregister s c = (s, some .keyError) := unregister_unknown h

/-- **Unregistering a registered collector** does not raise, keeps the invariant, removes it (and only it) from the
registered collectors, frees exactly its names (every other entry of the name map is untouched, in place), leaves
target info alone, and afterwards the collector itself — or any collector that was blocked by nothing but this
collector's names — can be registered. -/
theorem unregister_releases_exactly {s : State} (hi : Inv s) {c : Collector} {names : List Name}
    (hm : (c, names) ∈ s.collectorToNames) :
    (unregister s c).2 = none ∧
    Inv (unregister s c).1 ∧
    (unregister s c).1.collectorToNames = s.collectorToNames.filter (fun e => decide (e.1 ≠ c)) ∧
    (unregister s c).1.namesToCollectors = s.namesToCollectors.filter (fun p => decide (p.1 ∉ names)) ∧
    (unregister s c).1.targetInfo = s.targetInfo ∧
    (∀ n, n ∈ names → ¬ Claimed (unregister s c).1 n) ∧
    (∀ n, n ∉ names → (Claimed (unregister s c).1 n ↔ Claimed s n)) ∧
    (register (unregister s c).1 c).2 = none ∧
    (∀ d : Collector, (∀ n, n ∈ claims s.autoDescribe d → Claimed s n → n ∈ names) →
      (register (unregister s c).1 d).2 = none) := by
  have hu := unregister_ok hi hm
  have hinv := inv_unregister_ok hi hm
  have hkeys : ∀ n, n ∈ (unregister s c).1.namesToCollectors.map Prod.fst ↔
      n ∈ s.namesToCollectors.map Prod.fst ∧ n ∉ names := by
    intro n
    rw [hu]
    show n ∈ (s.namesToCollectors.filter ((fun a => decide (a ∉ names)) ∘ Prod.fst)).map Prod.fst ↔ _
    rw [← List.filter_map, List.mem_filter, decide_eq_true_eq]
  have hfree : ∀ d : Collector, (∀ n, n ∈ claims s.autoDescribe d → Claimed s n → n ∈ names) →
      (register (unregister s c).1 d).2 = none := by
    intro d hd
    rw [register_ok ((clashes_false_iff _ d).2 ?_)]
    intro n hn hk
    rw [hu] at hn
    have := (hkeys n).1 hk
    exact this.2 (hd n ((mem_getNames_iff _ _ _).1 hn) ((claimed_iff_key hi n).2 this.1))
  refine ⟨by rw [hu], hinv, by rw [hu]; rfl, by rw [hu], by rw [hu], ?_, ?_, ?_, hfree⟩
  · intro n hn hc
    exact ((hkeys n).1 ((claimed_iff_key hinv n).1 hc)).2 hn
  · intro n hn
    rw [claimed_iff_key hinv, claimed_iff_key hi, hkeys]
    exact ⟨fun h => h.1, fun h => ⟨h, hn⟩⟩
  · exact hfree c (fun n hn _ => (hi.mem_stored_iff hm n).2 hn)

-- the hypotheses are met by a registered collector with three names
example : ∃ s c names, Inv s ∧ (c, names) ∈ s.collectorToNames ∧ names.length = 3 :=
  ⟨(register (init false none) exA).1, exA, getNames false exA, inv_register (inv_init _ _) _, by decide +kernel, by decide +kernel⟩

/-- **`register` calls `collect()` of the registering collector only, at most once, and exactly when it has to
auto-describe** (no `describe` attribute and `auto_describe` on) — whether or not the registration is then rejected.
In that case, and only then, the claimed names are those of the families `collect()` returned. -/
theorem register_calls_only_self (s : State) (c : Collector) :
    (∀ o, o ∈ registerCalls s c → o = Owner.coll c) ∧
    (registerCalls s c).length ≤ 1 ∧
    (registerCalls s c = [Owner.coll c] ↔ (c.describe = none ∧ s.autoDescribe = true)) ∧
    (registerCalls s c = [Owner.coll c] →
      described s.autoDescribe c = some (c.families.map fun f => (f.name, f.typ))) ∧
    (registerCalls s c = [] → described s.autoDescribe c = c.describe) := by
  unfold registerCalls described
  cases hd : c.describe with
  | some d => simp
  | none => cases ha : s.autoDescribe <;> simp

/-- no other call of a history invokes `collect()` on any collector -/
theorem only_register_calls_collect (s : State) (op : Op) (o : Owner) (h : o ∈ stepCalls s op) :
    ∃ c, op = .register c ∧ o = Owner.coll c := by
  cases op with
  | register c => exact ⟨c, rfl, (register_calls_only_self s c).1 o h⟩
  | unregister c => exact nomatch h
  | setTargetInfo l => exact nomatch h

example : registerCalls (init true none) exB = [Owner.coll exB] ∧ registerCalls (init false none) exB = [] ∧
    registerCalls (init true none) exA = [] := by decide +kernel

/-! ### regression: the former F6 witness -/

/-- describes `x` (counter) and `x_total` (gauge): the statement's claims are x, x_total, x_created, x_total -/
private def f6Collector : Collector :=
  ⟨0, some [(['x'], .counter), (['x', '_', 't', 'o', 't', 'a', 'l'], .gauge)], []⟩

/-- claims x -/
private def f6Other : Collector := ⟨1, some [(['x'], .gauge)], []⟩

-- the collector's names are recorded once; it registers, blocks a collector claiming `x`, unregisters without
-- error, frees every name, and the blocked collector then registers
example :
    getNames false f6Collector = [['x'], ['x', '_', 't', 'o', 't', 'a', 'l'], ['x', '_', 'c', 'r', 'e', 'a', 't', 'e', 'd']] ∧
    (register (init false none) f6Collector).2 = none ∧
    (register (register (init false none) f6Collector).1 f6Other).2 = some .valueError ∧
    (unregister (register (init false none) f6Collector).1 f6Collector).2 = none ∧
    (unregister (register (init false none) f6Collector).1 f6Collector).1 = init false none ∧
    (register (unregister (register (init false none) f6Collector).1 f6Collector).1 f6Other).2 = none := by
  decide +kernel

/-! ### the model follows the code: the two recognised other shapes violate the frame clause -/

/-- describes a gauge `x_total` -/
private def incHeld : Collector := ⟨1, some [(['x', '_', 't', 'o', 't', 'a', 'l'], .gauge)], []⟩
/-- describes a counter `x`: claims x (free), x_total (held by `incHeld`), x_created -/
private def incNew : Collector := ⟨0, some [(['x'], .counter)], []⟩

/-- **What the model does on a tree whose `register` tests and stores name by name** (T1 flag
`registerChecksAllBeforeStore = false` selects `registerIncremental`): the rejected registration has already inserted the
names before the clashing one — `x` stays claimed by a collector that is not registered, so nothing can release it. The
frame statement `register_clash_is_frame` is FALSE of that model; on the present tree `register = registerAtomic`
(`register_eq`). -/
theorem incremental_register_breaks_frame :
    (registerIncremental (register (init false none) incHeld).1 incNew).2 = some .valueError ∧
    (registerIncremental (register (init false none) incHeld).1 incNew).1 ≠ (register (init false none) incHeld).1 ∧
    dGet ['x'] (registerIncremental (register (init false none) incHeld).1 incNew).1.namesToCollectors
      = some (Owner.coll incNew) ∧
    dGet incNew (registerIncremental (register (init false none) incHeld).1 incNew).1.collectorToNames = none := by
  decide +kernel

/-- **What the model does on a tree whose `set_target_info` assigns `_target_info` before the clash test** (T1 flag
`setTargetInfoStoresAfterCheck = false`): the rejected call raises `ValueError` and leaves the NEW labels configured while
`target_info` is still owned by the registered collector (so `collect()` yields `target_info` twice).  The frame statement
`targetinfo_clash_is_frame` is FALSE of that model; on the present tree `setTargetInfo = setTargetInfoWith true`. -/
theorem store_first_set_target_info_breaks_frame :
    (setTargetInfoWith false (register (init false none) exT).1 (some [(['a'], ['b'])])).2 = some .valueError ∧
    (setTargetInfoWith false (register (init false none) exT).1 (some [(['a'], ['b'])])).1
      ≠ (register (init false none) exT).1 ∧
    (setTargetInfoWith false (register (init false none) exT).1 (some [(['a'], ['b'])])).1.targetInfo
      = some [(['a'], ['b'])] ∧
    dGet tiName (setTargetInfoWith false (register (init false none) exT).1 (some [(['a'], ['b'])])).1.namesToCollectors
      = some (Owner.coll exT) ∧
    -- the same call on the code as written is a frame
    (setTargetInfoWith true (register (init false none) exT).1 (some [(['a'], ['b'])])).1 = (register (init false none) exT).1 := by
  decide +kernel

/-- **A built-in metric constructor that raises leaves the registry exactly as it was** — whether it raises because the name
clashes or because the class rejects its arguments (T1 flag `ctorsRegisterLast`: on a tree where e.g. `Enum.__init__`
validates `states` after the base constructor registered the metric, `decide` fails here and `construct` keeps the
half-built collector registered; `harness/props/c06frame.py` then exhibits the input). -/
theorem ctor_rejected_is_frame (s : State) (c : Collector) (rejects : Bool) (h : (construct s c rejects).2 ≠ none) :
    (construct s c rejects).1 = s := by
  have hf : PromVerif.Generated.Registry.ctorsRegisterLast = true := by decide
  unfold construct at h ⊢
  simp only [hf, if_true] at h ⊢
  cases rejects
  · simp only [Bool.false_eq_true, if_false] at h ⊢
    exact register_clash_is_frame s c h
  · simp

theorem ctor_accepted_is_register (s : State) (c : Collector) : construct s c false = register s c := by
  have hf : PromVerif.Generated.Registry.ctorsRegisterLast = true := by decide
  simp [construct, hf]

theorem enum_validates_before_register : PromVerif.Generated.Registry.enumValidatesBeforeRegister = true := by decide

example : (construct (register (init true none) exA).1 exB true).2 = some .valueError ∧
    (construct (register (init true none) exA).1 exB true).1 = (register (init true none) exA).1 := by decide +kernel

/-- **Mutating a dict the caller passed to `set_target_info`, got from `get_target_info()` or found on a collected
`target_info` sample is not a registry call**: the registry is exactly as it was (T1 flags `targetInfoStoredCopied`,
`targetInfoHandedOutCopied`; on a tree that stores or hands out the dict itself the model has no answer and this fails). -/
theorem caller_dict_mutation_is_frame (s : State) (h : DictHolder) : afterCallerDictMutation s h = some s := by
  have hp : dictIsPrivate h = true := by cases h <;> decide
  simp [afterCallerDictMutation, hp]

/-- … hence `target_info` stays claimed iff target info is configured, whatever the caller does to its dict afterwards -/
theorem caller_dict_mutation_keeps_inv {s : State} (hi : Inv s) (h : DictHolder) :
    ∃ s', afterCallerDictMutation s h = some s' ∧ Inv s' :=
  ⟨s, caller_dict_mutation_is_frame s h, hi⟩

end PromVerif.Props.C06
