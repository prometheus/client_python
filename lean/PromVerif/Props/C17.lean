/-
C17 — HTTP front-ends serve a body that matches the negotiated headers, and agree.

All theorems are about the executable model `Model/Http.lean`, whose literals, comparison operators, item call
chains, encoder/content-type pairing, compression condition and WSGI dispatch table are re-extracted from the source
(`Generated/Http.lean`).  Header values are quantified as renderings of UNBOUNDED item lists of the grammar in
`Spec/Http.lean` (any tokens without ',' ';' and without leading/trailing whitespace — so every near-miss token —,
any whitespace strings over Python's 29 `isspace` code points around them, any parameters); `grammar_total` shows the
grammar generates every string, and `om_iff_lists` / `gzip_iff_lists` restate the two matching theorems for ALL strings.

Scope decisions (also in the harness and the report):
* A request carries AT MOST ONE `Accept` and one `Accept-Encoding` field line (the property speaks of "any Accept,
  Accept-Encoding and query string" — one value each or absent).  Repeated field lines are OUT OF SCOPE of
  `frontends_agree`; the model still describes them (ASGI joins all values with ',', as wsgiref does for WSGI;
  `MetricsHandler` reads only the first), see `duplicate_field_lines_differ`.
* Header names/values and the query string are BYTES at the front-end boundary (`Req`).  asgi.py decodes them itself
  (modelled; the codec is extracted, latin-1 since commit 34b1cbd); wsgiref and http.server decode them as latin-1
  before the modelled code runs (trusted presentation `Req.environ` / `Req.handler`).
* SCOPE LIMIT: the request target contains no raw '#' (not a valid RFC 3986 path/query character; clients send %23).
  With a raw '#', `urlparse` (MetricsHandler) cuts the target there while wsgiref / ASGI servers split at the first '?'
  only, so MetricsHandler can differ from the other two: `raw_hash_in_target_differs`.
* The property quantifies over Accept, Accept-Encoding and query string, not over the path: `GET /favicon.ico` (WSGI
  answers 200 with an empty body, by design) is excluded by hypothesis `hfav`.

History: findings F12 (the ASGI app called `parse_qs` on the `bytes` query string, got `bytes` keys and never restricted)
and F12b (the same call raised UnicodeEncodeError on non-ASCII escapes such as `?lang=%C3%A9`) were confirmed by this
check and repaired in /repo (asgi.py now decodes the query string as latin-1 before `parse_qs`; the extractor reports
that as `asgiQueryDecoded = true`).  `frontends_agree` and `wsgi_asgi_agree` are therefore stated at full strength; they
stop checking if the decode is removed again, and the harness keeps both failure classes as ordinary VIOLATIONs.
A third defect (asgi.py decoded header bytes as UTF-8 and raised on e.g. a latin-1 NBSP, review finding) was repaired in
commit 34b1cbd; reverting it changes `Generated.Http.asgiHeaderCodec` and breaks `frontends_agree`.
-/
import PromVerif.Model.Http
import PromVerif.Spec.Http
import PromVerif.Lemmas.Http

namespace PromVerif.Props.C17
open PromVerif.Py (PyM PyErr)
open PromVerif.Model.Http PromVerif.Spec.Http PromVerif.Lemmas.Http

/-- the extractor found every site of exposition.py / asgi.py in the shape it understands -/
theorem extract_ok : Generated.Http.extractOk = true := by decide

/-- the literals in the source are the ones the property names -/
theorem literals_ok :
    Generated.Http.omMediaType = omMediaType ∧ Generated.Http.gzipCoding = gzipCoding ∧
    Generated.Http.nameKey = nameKey ∧
    Generated.Http.contentTypeText = contentType .text ∧ Generated.Http.contentTypeOM = contentType .om ∧
    Generated.Http.contentTypeHeader = contentTypeName ∧ Generated.Http.contentEncodingHeader = contentEncoding ∧
    Generated.Http.bakeStatus = statusOK ∧
    Generated.Http.wsgiOptionsHeaders = [allow] ∧ Generated.Http.wsgi405Headers = [allow] ∧
    Generated.Http.wsgiOptionsStatus = statusOK ∧ Generated.Http.wsgi405Status = status405 := by
  -- `String.toList_ofList` matches a literal `"…"` as `String.ofList […]`: the strings are compared as the character
  -- lists they are written as, nothing is encoded or decoded
  delta omMediaType gzipCoding nameKey contentType contentTypeName contentEncoding statusOK allow status405
  repeat rewrite [String.toList_ofList]
  exact ⟨rfl, rfl, rfl, rfl, rfl, rfl, rfl, rfl, rfl, rfl, rfl, rfl⟩

private theorem omListed_eq (accept : Option Str) :
    omListed accept = (tokensOf (accept.getD [])).any (fun t => t == Generated.Http.omMediaType) := by
  simp only [omListed, tokensOf, List.any_map]
  rfl

private theorem chooseEncoder_eq (accept : Option Str) :
    chooseEncoder accept = if omListed accept then (Fmt.om, contentType .om) else (Fmt.text, contentType .text) := by
  obtain ⟨-, -, -, htext, hom, -⟩ := literals_ok
  rw [← htext, ← hom]
  rfl

private theorem choose_om_iff (accept : Option Str) : (chooseEncoder accept).1 = Fmt.om ↔ omListed accept = true := by
  rw [chooseEncoder_eq]
  cases omListed accept <;> simp

/-- **om_iff_listed.**  For every well-formed item list — any length, any tokens (near misses included), any
whitespace, any parameters — the OpenMetrics encoder is chosen iff some item's media type IS
`application/openmetrics-text`. -/
theorem om_iff_listed (items : List Item) (hwf : ∀ it ∈ items, it.WF) :
    (chooseEncoder (some (render items))).1 = Fmt.om ↔ omMediaType ∈ items.map Item.media := by
  rw [choose_om_iff, omListed_eq, Option.getD_some, any_tokens_render _ rfl items hwf, literals_ok.1, List.any_eq_true]
  simp only [beq_iff_eq, exists_eq_right]

/-- non-vacuity: a three-item header with whitespace, parameters and two near-miss tokens -/
def exItems : List Item :=
  [ { pre := " ".toList, media := "application/openmetrics-text-foo".toList, post := [], params := ["q=0.9".toList] },
    { pre := [Char.ofNat 0xa0, '\t'], media := "xapplication/openmetrics-text".toList, post := " ".toList, params := [] },
    { pre := [Char.ofNat 0x2003], media := "application/openmetrics-text".toList, post := "\t ".toList,
      params := [" version=1.0.0".toList, "q=0.5 ".toList] } ]

theorem exItems_wf : ∀ it ∈ exItems, it.WF := by
  delta exItems
  repeat rewrite [String.toList_ofList]
  exact wf_of_check _ (by decide +kernel)

example : (chooseEncoder (some (render exItems))).1 = Fmt.om :=
  (om_iff_listed exItems exItems_wf).mpr (by
    delta exItems omMediaType
    repeat rewrite [String.toList_ofList]
    decide)
example : (chooseEncoder (some (render (exItems.take 2)))).1 = Fmt.text := by
  delta exItems
  repeat rewrite [String.toList_ofList]
  decide +kernel

/-- the same over ALL header strings: the grammar generates every string (`grammar_total`) -/
theorem om_iff_lists (hdr : Str) : (chooseEncoder (some hdr)).1 = Fmt.om ↔ lists omMediaType hdr :=
  iff_exists_render (P := fun hdr => (chooseEncoder (some hdr)).1 = Fmt.om) om_iff_listed hdr

/-- an absent Accept header selects the text format -/
theorem om_absent : (chooseEncoder none).1 = Fmt.text := by decide

/-- the format is always one of the two, and text exactly when OpenMetrics is not listed -/
theorem text_iff_not_listed (items : List Item) (hwf : ∀ it ∈ items, it.WF) :
    (chooseEncoder (some (render items))).1 = Fmt.text ↔ omMediaType ∉ items.map Item.media := by
  rw [← om_iff_listed items hwf]
  cases (chooseEncoder (some (render items))).1 <;> simp

/-- **content type pairing**: the content type returned with an encoder is that encoder's -/
theorem choose_content_type (accept : Option Str) :
    (chooseEncoder accept).2 = contentType (chooseEncoder accept).1 := by
  rw [chooseEncoder_eq]
  cases omListed accept <;> simp only [Bool.false_eq_true, if_true, if_false]

private theorem gzipListed_eq (ae : Option Str) :
    gzipListed ae = (tokensOf (ae.getD [])).any (fun t => lower t == Generated.Http.gzipCoding) := by
  simp only [gzipListed, tokensOf, List.any_map]
  rfl

private theorem gzipAccepted_eq (ae : Option Str) : gzipAccepted ae = gzipListed ae := by
  unfold gzipAccepted
  cases gzipListed ae <;> rfl

private theorem lower_gzip_iff (t : Str) : (lower t == gzipCoding) = true ↔ ciEq t gzipCoding := by
  rw [beq_iff_eq, ← literals_ok.2.1, lower_eq_iff _ (by decide) t]
  exact Iff.rfl

/-- `gzip_accepted` on every well-formed coding list: true iff some coding equals `gzip` up to ASCII case.  Over ALL
Unicode tokens: U+212A KELVIN SIGN and U+0130, whose Python lower-case forms contain ASCII letters, are covered
(`Lemmas.Http.lower_eq_iff`). -/
theorem gzip_accepted_iff (items : List Item) (hwf : ∀ it ∈ items, it.WF) :
    gzipAccepted (some (render items)) = true ↔ ∃ m ∈ items.map Item.media, ciEq m gzipCoding := by
  rw [gzipAccepted_eq, gzipListed_eq, Option.getD_some, any_tokens_render _ rfl items hwf, literals_ok.2.1,
    List.any_eq_true]
  simp only [lower_gzip_iff]

theorem gzip_iff_lists (hdr : Str) : gzipAccepted (some hdr) = true ↔ listsCI gzipCoding hdr :=
  iff_exists_render (P := fun hdr => gzipAccepted (some hdr) = true) gzip_accepted_iff hdr

theorem gzip_absent : gzipAccepted none = false := by decide

/-- non-vacuity: mixed case is accepted; `x-gzip`, `gzipx` and the Kelvin-sign look-alike `Kzip` are not -/
def exCodings : List Item :=
  [ { pre := [], media := "x-gzip".toList, post := [], params := [] },
    { pre := " ".toList, media := "gzipx".toList, post := [], params := ["q=1".toList] },
    { pre := " ".toList, media := [Char.ofNat 0x212A, 'z', 'i', 'p'], post := [], params := [] },
    { pre := "\t".toList, media := "GZip".toList, post := " ".toList, params := ["q=0.5".toList] } ]

theorem exCodings_wf : ∀ it ∈ exCodings, it.WF := by
  delta exCodings
  repeat rewrite [String.toList_ofList]
  exact wf_of_check _ (by decide +kernel)

example : gzipAccepted (some (render exCodings)) = true :=
  (gzip_accepted_iff exCodings exCodings_wf).mpr (by
    delta exCodings gzipCoding
    repeat rewrite [String.toList_ofList]
    exact ⟨['G', 'Z', 'i', 'p'], by decide, by decide⟩)
example : gzipAccepted (some (render (exCodings.take 3))) = false := by
  delta exCodings
  repeat rewrite [String.toList_ofList]
  decide +kernel

variable {B : Type}

/-- the uncompressed body `_bake_output` computes: the chosen format's exposition of the registry, restricted to
`params['name[]']` when that (`str`) key is present -/
def plainBody (env : Env B) (accept : Option Str) (params : Params) : B :=
  env.expo (chooseEncoder accept).1 (params.lookup (PyKey.str nameKey))

/-- normal form of `_bake_output` in the spec's vocabulary -/
theorem bake_eq (env : Env B) (accept ae : Option Str) (params : Params) (d : Bool) :
    bakeOutput env accept ae params d =
      if (!d && gzipAccepted ae) = true then
        ⟨statusOK, [(contentTypeName, contentType (chooseEncoder accept).1), contentEncoding],
          env.gzip (plainBody env accept params), true⟩
      else
        ⟨statusOK, [(contentTypeName, contentType (chooseEncoder accept).1)], plainBody env accept params, true⟩ := by
  have h1 : Generated.Http.compressNeedsEnabled = true := rfl
  have h2 : Generated.Http.compressNeedsAccepted = true := rfl
  -- the values of name[] reach `restricted_registry` as they are: no splitting on ',' or anything else
  have h3 : ∀ o : Option (List PyKey), o.map restrictionNames = o := by
    have hs : Generated.Http.nameValueSplit = [] := rfl
    intro o
    cases o with
    | none => rfl
    | some vs => simp only [Option.map_some, restrictionNames, hs]
  unfold bakeOutput plainBody
  simp only [literals_ok, choose_content_type, h1, h2, h3, Bool.not_true, Bool.false_or]
  split <;> rfl

private theorem bake_gzip {env : Env B} {accept ae : Option Str} {params : Params} {d : Bool}
    (h : d = false ∧ gzipAccepted ae = true) :
    bakeOutput env accept ae params d =
      ⟨statusOK, [(contentTypeName, contentType (chooseEncoder accept).1), contentEncoding],
        env.gzip (plainBody env accept params), true⟩ := by
  rw [bake_eq, if_pos (by simp [h.1, h.2])]

private theorem bake_plain {env : Env B} {accept ae : Option Str} {params : Params} {d : Bool}
    (h : ¬ (d = false ∧ gzipAccepted ae = true)) :
    bakeOutput env accept ae params d =
      ⟨statusOK, [(contentTypeName, contentType (chooseEncoder accept).1)], plainBody env accept params, true⟩ := by
  rw [bake_eq, if_neg (by simpa using h)]

private theorem ce_name_ne : contentEncoding.1 ≠ contentTypeName := by
  delta contentEncoding contentTypeName
  repeat rewrite [String.toList_ofList]
  decide

private theorem ce_not_mem (w : Str) : contentEncoding ∉ [(contentTypeName, w)] :=
  fun h => ce_name_ne (congrArg Prod.fst (List.mem_singleton.mp h))

/-- **gzip_iff.**  For every coding list, compression switch, Accept header and parameter dict: the body is the
compressed exposition AND a `Content-Encoding: gzip` header is present when compression is enabled and gzip is listed
(case-insensitively); otherwise the body is the plain exposition and no `Content-Encoding` header of any value exists. -/
theorem gzip_iff (env : Env B) (accept : Option Str) (items : List Item) (hwf : ∀ it ∈ items, it.WF)
    (params : Params) (d : Bool) :
    let r := bakeOutput env accept (some (render items)) params d
    let listed := ∃ m ∈ items.map Item.media, ciEq m gzipCoding
    ((d = false ∧ listed) → r.body = env.gzip (plainBody env accept params) ∧ contentEncoding ∈ r.headers) ∧
    (¬ (d = false ∧ listed) → r.body = plainBody env accept params ∧ ∀ v, (contentEncoding.1, v) ∉ r.headers) := by
  dsimp only
  rw [← gzip_accepted_iff items hwf]
  refine ⟨fun h => ?_, fun h => ?_⟩
  · rw [bake_gzip h]
    exact ⟨rfl, by simp⟩
  · rw [bake_plain h]
    exact ⟨rfl, fun v hv => ce_name_ne (Prod.mk.inj (List.mem_singleton.mp hv)).1⟩

/-- the header is present iff the body is the compressed one (compression never returns its input) -/
theorem gzip_header_iff_body (env : Env B) (hne : ∀ b, env.gzip b ≠ b) (accept ae : Option Str) (params : Params)
    (d : Bool) :
    let r := bakeOutput env accept ae params d
    (contentEncoding ∈ r.headers ↔ r.body = env.gzip (plainBody env accept params)) ∧
    (contentEncoding ∈ r.headers ↔ (d = false ∧ gzipAccepted ae = true)) := by
  dsimp only
  by_cases h : d = false ∧ gzipAccepted ae = true
  · rw [bake_gzip h]
    simp [h]
  · rw [bake_plain h]
    have hnin := ce_not_mem (contentType (chooseEncoder accept).1)
    simp [hnin, h, (hne _).symm]

example : ∃ env : Env (List Nat), ∀ b, env.gzip b ≠ b :=
  ⟨⟨fun _ _ => [1], fun b => 0 :: b, [], fun _ _ => [2]⟩, by intro b h; simpa using congrArg List.length h⟩

/-- **content_type_matches_body.**  For every request reaching `_bake_output`: status 200, collected, exactly one
`Content-Type` header, and it is the content type of the format `f` whose encoder produced the body. -/
theorem content_type_matches_body (env : Env B) (accept ae : Option Str) (params : Params) (d : Bool) :
    let r := bakeOutput env accept ae params d
    let f := (chooseEncoder accept).1
    let e := env.expo f (params.lookup (PyKey.str nameKey))
    r.status = statusOK ∧ r.collected = true ∧
    (r.body = e ∨ r.body = env.gzip e) ∧
    (contentTypeName, contentType f) ∈ r.headers ∧ (∀ v, (contentTypeName, v) ∈ r.headers → v = contentType f) := by
  dsimp only
  by_cases h : d = false ∧ gzipAccepted ae = true
  · rw [bake_gzip h]
    refine ⟨rfl, rfl, .inr rfl, List.mem_cons_self, fun v hv => ?_⟩
    rcases List.mem_cons.mp hv with hv | hv
    · exact (Prod.mk.inj hv).2
    · exact absurd (congrArg Prod.fst (List.mem_singleton.mp hv)).symm ce_name_ne
  · rw [bake_plain h]
    exact ⟨rfl, rfl, .inl rfl, List.mem_cons_self, fun v hv => (Prod.mk.inj (List.mem_singleton.mp hv)).2⟩

/-- **body_is_restricted_exposition.**  The body, decoded as its own headers say, is the chosen format's exposition of
the registry restricted to `params['name[]']` when the `str` key `name[]` is present, of the whole registry otherwise;
with an injective compression the decoding is unique. -/
theorem body_is_restricted_exposition (env : Env B) (accept ae : Option Str) (params : Params) (d : Bool) :
    let r := bakeOutput env accept ae params d
    let f := (chooseEncoder accept).1
    (∀ names, params.lookup (PyKey.str nameKey) = some names →
        r.body = if contentEncoding ∈ r.headers then env.gzip (env.expo f (some names)) else env.expo f (some names)) ∧
    (params.lookup (PyKey.str nameKey) = none →
        r.body = if contentEncoding ∈ r.headers then env.gzip (env.expo f none) else env.expo f none) ∧
    ((∀ a b, env.gzip a = env.gzip b → a = b) → ∀ x, contentEncoding ∈ r.headers → r.body = env.gzip x →
        x = env.expo f (params.lookup (PyKey.str nameKey))) := by
  dsimp only
  by_cases h : d = false ∧ gzipAccepted ae = true
  · rw [bake_gzip h]
    have hin : contentEncoding ∈ [(contentTypeName, contentType (chooseEncoder accept).1), contentEncoding] := by simp
    refine ⟨fun names hn => ?_, fun hn => ?_, fun hinj x _ hx => (hinj _ _ hx).symm⟩ <;>
      rw [if_pos hin, plainBody, hn]
  · rw [bake_plain h]
    have hnin := ce_not_mem (contentType (chooseEncoder accept).1)
    refine ⟨fun names hn => ?_, fun hn => ?_, fun _ x hx _ => absurd hx hnin⟩ <;>
      rw [if_neg hnin, plainBody, hn]

theorem lookup_strParams (l : List (Str × List Str)) (k : Str) :
    (strParams l).lookup (PyKey.str k) = (l.lookup k).map (fun vs => vs.map PyKey.str) := by
  induction l with
  | nil => rfl
  | cons kv rest ih =>
    by_cases h : k = kv.1
    · subst h; simp [strParams, List.lookup]
    · have h' : (PyKey.str k == PyKey.str kv.1) = false := by simp [h]
      have h'' : (k == kv.1) = false := by simp [h]
      simp only [strParams, List.map_cons, List.lookup, h', h''] at ih ⊢
      exact ih

theorem lookup_bytesParams (l : List (Bytes × List Bytes)) (k : Str) :
    (bytesParams l).lookup (PyKey.str k) = none := by
  rw [List.lookup_eq_none_iff]
  intro p hp
  obtain ⟨kv, -, rfl⟩ := List.mem_map.mp hp
  simp

theorem lookup_none_of_not_mem (l : List (Str × List Str)) (k : Str) (h : k ∉ l.map Prod.fst) : l.lookup k = none := by
  rw [List.lookup_eq_none_iff]
  intro p hp
  have : k ≠ p.1 := fun e => h (e ▸ List.mem_map_of_mem hp)
  simpa using this

/-- the dispatch table of `prometheus_app` in the property's spelling (`Generated.Http` holds it as extracted) -/
private theorem wsgiApp_eq (env : Env B) (parseQs : Str → List (Str × List Str)) (d : Bool) (e : Environ) :
    wsgiApp env parseQs d e =
      if e.requestMethod = "OPTIONS".toList then .ok ⟨statusOK, [allow], env.empty, false⟩
      else if e.requestMethod ≠ "GET".toList then
        .ok ⟨status405, [allow], env.errBody status405 e.requestMethod, false⟩
      else
        match e.pathInfo with
        | none => .error .keyError
        | some p =>
          if p = "/favicon.ico".toList then .ok ⟨statusOK, Generated.Http.faviconHeaders, env.empty, false⟩
          else .ok (bakeOutput env e.httpAccept e.httpAcceptEncoding (strParams (parseQs (e.queryString.getD []))) d) := by
  have hlit : Generated.Http.wsgiOptionsMethod = "OPTIONS".toList ∧ Generated.Http.wsgiGetMethods = ["GET".toList] ∧
      Generated.Http.faviconPath = "/favicon.ico".toList ∧ Generated.Http.faviconStatus = statusOK := by
    delta statusOK
    repeat rewrite [String.toList_ofList]
    exact ⟨rfl, rfl, rfl, rfl⟩
  unfold wsgiApp
  simp only [hlit, literals_ok, List.contains_cons, List.contains_nil, Bool.or_false, Bool.not_eq_true',
    beq_eq_false_iff_ne]
  rfl

/-- **wsgi_options.**  OPTIONS: 200, `Allow: OPTIONS,GET`, empty body, nothing collected — whatever the headers,
query string, path and compression switch. -/
theorem wsgi_options (env : Env B) (parseQs : Str → List (Str × List Str)) (d : Bool) (e : Environ)
    (hm : e.requestMethod = "OPTIONS".toList) :
    wsgiApp env parseQs d e = .ok ⟨statusOK, [allow], env.empty, false⟩ := by
  rw [wsgiApp_eq, if_pos hm]

/-- **wsgi_405_no_collect.**  Every method other than `OPTIONS` and `GET` — HEAD, POST, PUT, DELETE, PATCH, lower-case
`get`, the empty string, anything — gets 405 with the `Allow` header and nothing is collected. -/
theorem wsgi_405_no_collect (env : Env B) (parseQs : Str → List (Str × List Str)) (d : Bool) (e : Environ)
    (h1 : e.requestMethod ≠ "OPTIONS".toList) (h2 : e.requestMethod ≠ "GET".toList) :
    wsgiApp env parseQs d e = .ok ⟨status405, [allow], env.errBody status405 e.requestMethod, false⟩ := by
  rw [wsgiApp_eq, if_neg h1, if_pos h2]

example : ("HEAD".toList ≠ "OPTIONS".toList ∧ "HEAD".toList ≠ "GET".toList) ∧
          ("get".toList ≠ "OPTIONS".toList ∧ "get".toList ≠ "GET".toList) ∧
          ("POST".toList ≠ "OPTIONS".toList ∧ "POST".toList ≠ "GET".toList) := by
  repeat rewrite [String.toList_ofList]
  decide

private theorem get_dispatch {m : Str} (hm : m = "GET".toList) : m ≠ "OPTIONS".toList ∧ ¬ m ≠ "GET".toList := by
  subst hm
  repeat rewrite [String.toList_ofList]
  decide

/-- GET (any path but the favicon) is `_bake_output` on the environ's values -/
theorem wsgi_get (env : Env B) (parseQs : Str → List (Str × List Str)) (d : Bool) (e : Environ) (p : Str)
    (hm : e.requestMethod = "GET".toList) (hp : e.pathInfo = some p) (hfav : p ≠ "/favicon.ico".toList) :
    wsgiApp env parseQs d e =
      .ok (bakeOutput env e.httpAccept e.httpAcceptEncoding (strParams (parseQs (e.queryString.getD []))) d) := by
  rw [wsgiApp_eq, if_neg (get_dispatch hm).1, if_neg (get_dispatch hm).2, hp]
  exact if_neg hfav

/-- GET /favicon.ico: 200, empty body, nothing collected (a deliberate WSGI-only special case) -/
theorem wsgi_favicon (env : Env B) (parseQs : Str → List (Str × List Str)) (d : Bool) (e : Environ)
    (hm : e.requestMethod = "GET".toList) (hp : e.pathInfo = some "/favicon.ico".toList) :
    ∃ hs, wsgiApp env parseQs d e = .ok ⟨statusOK, hs, env.empty, false⟩ := by
  rw [wsgiApp_eq, if_neg (get_dispatch hm).1, if_neg (get_dispatch hm).2, hp]
  exact ⟨_, if_pos rfl⟩

/-- a GET request as it is on the wire, as far as the property quantifies it: the raw path part of the request target
(the text before the first '?'), the query BYTES after it, an Accept and an Accept-Encoding field value (BYTES; each
present once or absent), and any other header fields (name and value BYTES) before and after them -/
structure Req where
  path : Str
  query : Bytes
  accept : Option Bytes
  acceptEnc : Option Bytes
  before : List (Bytes × Bytes)
  after : List (Bytes × Bytes)

def optHeader {α : Type} (name : α) : Option α → List (α × α)
  | none => []
  | some v => [(name, v)]

def l1p (h : Bytes × Bytes) : Str × Str := (latin1 h.1, latin1 h.2)

/-- the field lines of the request as bytes, with the given spellings of the two names -/
def Req.fieldsB (r : Req) (an aen : Bytes) : List (Bytes × Bytes) :=
  r.before ++ (optHeader an r.accept ++ (optHeader aen r.acceptEnc ++ r.after))

/-- TRUSTED presentation (outside the model): what each server makes of the same bytes.
* wsgiref (PEP 3333): header values and QUERY_STRING are the bytes decoded as latin-1; PATH_INFO is `unq path`
  (`unq` = `urllib.parse.unquote(…, 'iso-8859-1')`);
* an ASGI server: the raw bytes;
* http.server (`http.client.parse_headers`): header names and values decoded as latin-1; `self.path` is the target. -/
def Req.environ (r : Req) (method : Str) (unq : Str → Str) : Environ :=
  ⟨r.accept.map latin1, r.acceptEnc.map latin1, some (latin1 r.query), method, some (unq r.path)⟩
def Req.scope (r : Req) (an aen : Bytes) : Scope := ⟨r.fieldsB an aen, some r.query⟩
def Req.handler (r : Req) (an aen : Bytes) : HandlerReq :=
  ⟨(r.fieldsB an aen).map l1p, r.path ++ '?' :: latin1 r.query⟩

/-- other fields are neither Accept nor Accept-Encoding (case-insensitively) -/
def Req.OthersOk (r : Req) : Prop :=
  ∀ h ∈ r.before ++ r.after, lower (latin1 h.1) ≠ "accept".toList ∧ lower (latin1 h.1) ≠ "accept-encoding".toList

theorem Req.othersOk_of_all (r : Req)
    (h : (r.before ++ r.after).all (fun h => lower (latin1 h.1) != "accept".toList &&
      lower (latin1 h.1) != "accept-encoding".toList) = true) :
    r.OthersOk := by
  intro x hx
  simpa only [Bool.and_eq_true, bne_iff_ne] using List.all_eq_true.mp h x hx

/-- is `h` a field line called `lit`, as asgi.py and `Message.get` test it: the latin-1 text of the name, lower-cased -/
private def named (lit : Str) (h : Bytes × Bytes) : Bool := lower (latin1 h.1) == lit

private theorem filter_optHeader (lit : Str) (n : Bytes) (v : Option Bytes) :
    (optHeader n v).filter (named lit) = if lower (latin1 n) = lit then optHeader n v else [] := by
  cases v with
  | none => simp [optHeader]
  | some w => by_cases h : lower (latin1 n) = lit <;> simp [optHeader, named, h]

private theorem fields_named (r : Req) (an aen : Bytes) (lit : Str)
    (hok : ∀ h ∈ r.before ++ r.after, lower (latin1 h.1) ≠ lit) :
    (r.fieldsB an aen).filter (named lit) =
      (if lower (latin1 an) = lit then optHeader an r.accept else []) ++
      (if lower (latin1 aen) = lit then optHeader aen r.acceptEnc else []) := by
  have hno : ∀ hs : List (Bytes × Bytes), (∀ h ∈ hs, lower (latin1 h.1) ≠ lit) → hs.filter (named lit) = [] := by
    intro hs hsub
    rw [List.filter_eq_nil_iff]
    intro h hh
    simpa [named] using hsub h hh
  rw [List.forall_mem_append] at hok
  unfold Req.fieldsB
  rw [List.filter_append, List.filter_append, List.filter_append, filter_optHeader, filter_optHeader,
    hno r.before hok.1, hno r.after hok.2,
    List.nil_append, List.append_nil]

/-- the two field names as the front-ends spell them (asgi.py lower-cases the line's name, `Message.get` both) -/
private theorem field_literals :
    Generated.Http.asgiAcceptName = "accept".toList ∧ Generated.Http.asgiAcceptEncodingName = "accept-encoding".toList ∧
    lower Generated.Http.handlerAcceptName = "accept".toList ∧
    lower Generated.Http.handlerAcceptEncodingName = "accept-encoding".toList ∧
    "accept".toList ≠ "accept-encoding".toList := by
  repeat rewrite [String.toList_ofList]
  decide

private theorem fields_accept {r : Req} {an aen : Bytes} (hok : r.OthersOk)
    (han : lower (latin1 an) = "accept".toList) (haen : lower (latin1 aen) = "accept-encoding".toList) :
    (r.fieldsB an aen).filter (named "accept".toList) = optHeader an r.accept ∧
    (r.fieldsB an aen).filter (named "accept-encoding".toList) = optHeader aen r.acceptEnc := by
  obtain ⟨-, -, -, -, hne⟩ := field_literals
  constructor
  · rw [fields_named r an aen _ (fun h hh => (hok h hh).1), if_pos han, if_neg fun h => hne (h.symm.trans haen),
      List.append_nil]
  · rw [fields_named r an aen _ (fun h hh => (hok h hh).2), if_neg fun h => hne (han.symm.trans h),
      if_pos haen, List.nil_append]

/-- asgi.py decodes header names and values as latin-1 (extracted codec), so its comprehension never raises: it is the
values of the lines called `lit` -/
private theorem asgiCollect_latin1 (lit : Str) (hs : List (Bytes × Bytes)) :
    asgiCollect lit hs = .ok ((hs.filter (named lit)).map fun h => latin1 h.2) := by
  have hc : decodeWith Generated.Http.asgiHeaderCodec = fun b => .ok (latin1 b) := funext fun _ => rfl
  have hl : Generated.Http.asgiNameLowered = true := rfl
  induction hs with
  | nil => rfl
  | cons h rest ih =>
    obtain ⟨n, v⟩ := h
    unfold asgiCollect
    simp only [hc, hl, if_true, ih]
    by_cases hm : (lower (latin1 n) == lit) = true <;> simp [hm, named, Except.map]

private theorem asgiHeader_one {name lit : Str} {hs : List (Bytes × Bytes)} {n : Bytes} {v : Option Bytes}
    (hl : name = lit) (h : hs.filter (named lit) = optHeader n v) :
    asgiHeader name hs = .ok ((v.map latin1).getD []) := by
  rw [asgiHeader, asgiCollect_latin1, hl, h]
  cases v <;> rfl

private theorem headersGet_latin1 (name : Str) (hs : List (Bytes × Bytes)) :
    headersGet name (hs.map l1p) = ((hs.filter (named (lower name))).head?).map fun h => latin1 h.2 := by
  unfold headersGet
  rw [List.find?_map, Option.map_map, List.head?_filter]
  rfl

private theorem headersGet_one {name lit : Str} {hs : List (Bytes × Bytes)} {n : Bytes} {v : Option Bytes}
    (hl : lower name = lit) (h : hs.filter (named lit) = optHeader n v) :
    headersGet name (hs.map l1p) = v.map latin1 := by
  rw [headersGet_latin1, hl, h]
  cases v <;> rfl

/-- `accept_header or ''`: to `_bake_output` an absent header and an empty one are the same -/
private theorem bake_absent_eq_empty (env : Env B) (a ae : Option Str) (params : Params) (d : Bool) :
    bakeOutput env (some (a.getD [])) (some (ae.getD [])) params d = bakeOutput env a ae params d := by
  cases a <;> cases ae <;> rfl

/-- the WSGI app on the presented GET request is `_bake_output` on the latin-1 text of its bytes -/
private theorem wsgi_eq {env : Env B} {parseQs : Str → List (Str × List Str)} {unq : Str → Str} {r : Req} {d : Bool}
    (hfav : unq r.path ≠ "/favicon.ico".toList) :
    wsgiApp env parseQs d (r.environ "GET".toList unq)
      = .ok (bakeOutput env (r.accept.map latin1) (r.acceptEnc.map latin1) (strParams (parseQs (latin1 r.query))) d) :=
  wsgi_get env parseQs d (r.environ "GET".toList unq) (unq r.path) rfl rfl hfav

/-- so is the ASGI app, which never raises -/
private theorem asgi_eq {env : Env B} {parseQs : Str → List (Str × List Str)}
    {parseQsAlt : Str → List (Str × List Str)} {parseQsB : Bytes → PyM (List (Bytes × List Bytes))} {r : Req} {an aen : Bytes} {d : Bool}
    (han : lower (latin1 an) = "accept".toList) (haen : lower (latin1 aen) = "accept-encoding".toList) (hok : r.OthersOk) :
    asgiApp env parseQs parseQsAlt parseQsB d (r.scope an aen)
      = .ok (bakeOutput env (r.accept.map latin1) (r.acceptEnc.map latin1) (strParams (parseQs (latin1 r.query))) d) := by
  obtain ⟨h1, h2⟩ := fields_accept hok han haen
  obtain ⟨l1, l2, -⟩ := field_literals
  have hq : Generated.Http.asgiQueryDecoded = true := rfl
  -- asgi.py calls `parse_qs` with the default percent-decoding, i.e. the same function as the other two front-ends
  have hd : Generated.Http.asgiParseDefault = true := rfl
  have hc : decodeWith Generated.Http.asgiQueryCodec r.query = .ok (latin1 r.query) := rfl
  unfold asgiApp asgiParams Req.scope
  simp only [asgiHeader_one l1 h1, asgiHeader_one l2 h2, Option.getD_some, hq, hd, if_true, hc, Except.map,
    bake_absent_eq_empty]

/-- and so is MetricsHandler (compression on), PROVIDED the target has no raw '#': `urlparse` would cut it there -/
private theorem handler_eq {env : Env B} {parseQs : Str → List (Str × List Str)} {r : Req} {an aen : Bytes}
    (han : lower (latin1 an) = "accept".toList) (haen : lower (latin1 aen) = "accept-encoding".toList) (hok : r.OthersOk)
    (hp : '?' ∉ r.path) (hph : '#' ∉ r.path) (hqh : '#' ∉ latin1 r.query) :
    handlerGet env parseQs (r.handler an aen)
      = bakeOutput env (r.accept.map latin1) (r.acceptEnc.map latin1) (strParams (parseQs (latin1 r.query))) false := by
  obtain ⟨h1, h2⟩ := fields_accept hok han haen
  obtain ⟨-, -, l1, l2, -⟩ := field_literals
  unfold handlerGet Req.handler
  simp only [headersGet_one l1 h1, headersGet_one l2 h2, urlQuery_target _ _ hp hph hqh]
  rfl

/-- **frontends_agree.**  For EVERY GET request given as BYTES — any Accept value or none, any Accept-Encoding value or
none (any bytes, also ≥ 0x80), any other header fields, any spelling of the two field names, any query bytes (`name[]`
values, percent-escapes, non-ASCII included) — the three front-ends return the same status, the same header list (so
the same Content-Type and the same Content-Encoding presence), the same body (so the same format, restriction and
compression) and the same `collected` flag, and none of them raises.  Compression is enabled, since MetricsHandler
cannot disable it (`d = false`).

No library law is assumed: `urlparse(target).query` is modelled (`Model.Http.urlQuery`, compared with the real function
by the harness) and asgi.py's decoding is modelled with the extracted codec.  The hypotheses are
* well-formedness of the presentation: `han`, `haen`, `hok` (which fields are the Accept / Accept-Encoding lines), `hp`
  (`path` is the part of the target before the first '?');
* `hfav`: not WSGI's `/favicon.ico` special case (the property does not quantify over the path);
* **SCOPE LIMIT `hph`, `hqh`: the request target contains no raw '#'.**  A raw '#' is not a valid character of an
  RFC 3986 path or query (clients send `%23`).  With one, the theorem is FALSE: `urlparse` cuts the target at '#', wsgiref
  and ASGI servers do not — see `raw_hash_in_target_differs`.  `wsgi_asgi_agree` does not need this limit. -/
theorem frontends_agree (env : Env B) (parseQs : Str → List (Str × List Str))
    (parseQsAlt : Str → List (Str × List Str)) (parseQsB : Bytes → PyM (List (Bytes × List Bytes))) (unq : Str → Str) (r : Req) (an aen : Bytes)
    (han : lower (latin1 an) = "accept".toList) (haen : lower (latin1 aen) = "accept-encoding".toList) (hok : r.OthersOk)
    (hp : '?' ∉ r.path) (hph : '#' ∉ r.path) (hqh : '#' ∉ latin1 r.query)
    (hfav : unq r.path ≠ "/favicon.ico".toList) :
    wsgiApp env parseQs false (r.environ "GET".toList unq)
        = asgiApp env parseQs parseQsAlt parseQsB false (r.scope an aen) ∧
    asgiApp env parseQs parseQsAlt parseQsB false (r.scope an aen)
        = .ok (handlerGet env parseQs (r.handler an aen)) := by
  rw [wsgi_eq hfav, asgi_eq han haen hok, handler_eq han haen hok hp hph hqh]
  exact ⟨rfl, rfl⟩

/-- **wsgi_asgi_agree.**  WSGI and ASGI agree on every GET request (bytes, as above) for either setting of
`disable_compression`; no scope limit on '#'. -/
theorem wsgi_asgi_agree (env : Env B) (parseQs : Str → List (Str × List Str))
    (parseQsAlt : Str → List (Str × List Str)) (parseQsB : Bytes → PyM (List (Bytes × List Bytes))) (unq : Str → Str) (r : Req) (an aen : Bytes) (d : Bool)
    (han : lower (latin1 an) = "accept".toList) (haen : lower (latin1 aen) = "accept-encoding".toList) (hok : r.OthersOk)
    (hfav : unq r.path ≠ "/favicon.ico".toList) :
    wsgiApp env parseQs d (r.environ "GET".toList unq) = asgiApp env parseQs parseQsAlt parseQsB d (r.scope an aen) := by
  rw [wsgi_eq hfav, asgi_eq han haen hok]

/-- WSGI and MetricsHandler agree on every GET request whose target has no raw '#' -/
theorem wsgi_handler_agree (env : Env B) (parseQs : Str → List (Str × List Str)) (unq : Str → Str)
    (r : Req) (an aen : Bytes)
    (han : lower (latin1 an) = "accept".toList) (haen : lower (latin1 aen) = "accept-encoding".toList) (hok : r.OthersOk)
    (hp : '?' ∉ r.path) (hph : '#' ∉ r.path) (hqh : '#' ∉ latin1 r.query)
    (hfav : unq r.path ≠ "/favicon.ico".toList) :
    wsgiApp env parseQs false (r.environ "GET".toList unq) = .ok (handlerGet env parseQs (r.handler an aen)) := by
  rw [wsgi_eq hfav, handler_eq han haen hok hp hph hqh]

/-- every front-end restricts to the `name[]` values `parse_qs` found in the `str` query string: the body of the common
answer is the exposition restricted to `(parseQs q).lookup 'name[]'` -/
theorem frontends_restrict (env : Env B) (parseQs : Str → List (Str × List Str)) (a ae : Option Str) (q : Str) (d : Bool) :
    let r := bakeOutput env a ae (strParams (parseQs q)) d
    let e := env.expo (chooseEncoder a).1 (((parseQs q).lookup nameKey).map fun vs => vs.map PyKey.str)
    r.body = e ∨ r.body = env.gzip e := by
  intro r e
  have := (content_type_matches_body env a ae (strParams (parseQs q)) d).2.2.1
  rwa [lookup_strParams] at this

/-- a concrete environment: a body records format, restriction and whether it was compressed -/
def exEnv : Env (Fmt × Option (List PyKey) × Bool) :=
  { expo := fun f r => (f, r, false), gzip := fun b => (b.1, b.2.1, true), empty := (.text, none, false),
    errBody := fun _ _ => (.text, none, false) }

/-- `parse_qs` on the query strings used below -/
def exParseQs (q : Str) : List (Str × List Str) :=
  if q = "name[]=a".toList then [("name[]".toList, ["a".toList])]
  else if q = "name[]=up#x".toList then [("name[]".toList, ["up#x".toList])]
  else if q = "name[]=up".toList then [("name[]".toList, ["up".toList])]
  else if q = "lang=%C3%A9".toList then [("lang".toList, [[Char.ofNat 0xe9]])]
  else []
/-- `parse_qs(…, encoding='latin-1')`: a different function (never reached while asgi.py uses the default decoding) -/
def exParseQsAlt (_ : Str) : List (Str × List Str) := [("name[]".toList, ["mojibake".toList])]
/-- latin-1 encode -/
def exEnc (s : Str) : Bytes := s.map fun c => UInt8.ofNat c.toNat
/-- `parse_qs` on `bytes` as the standard library behaves (no longer reached by asgi.py) -/
def exParseQsB (q : Bytes) : PyM (List (Bytes × List Bytes)) :=
  if q = exEnc "lang=%C3%A9".toList then .error .unicodeError else .ok []

/-- `Accept: text/plain;q=0.5, application/openmetrics-text<0xA0>; version=1.0.0` — the byte 0xA0 (NBSP in latin-1, not
valid UTF-8 on its own) sits directly behind the token — and `Accept-Encoding: br, GZip;q=0.9` -/
def exReq (q : String) : Req :=
  { path := "/metrics".toList, query := exEnc q.toList,
    accept := some (exEnc "text/plain;q=0.5, application/openmetrics-text".toList ++ [0xA0] ++ exEnc "; version=1.0.0".toList),
    acceptEnc := some (exEnc "br, GZip;q=0.9".toList),
    before := [(exEnc "Host".toList, exEnc "x".toList)], after := [(exEnc "User-Agent".toList, [0xFF, 0x74])] }

/-- the hypotheses of `frontends_agree` hold for the two former counter-example requests (`?name[]=a`, `?lang=%C3%A9`)
with a header byte ≥ 0x80; the common answer is the gzip-compressed OpenMetrics exposition, restricted to `['a']` in the
first case -/
example :
    (asgiApp exEnv exParseQs exParseQsAlt exParseQsB false
        ((exReq "name[]=a").scope (exEnc "accept".toList) (exEnc "accept-encoding".toList))).toOption.map (fun r => (r.status, r.body))
      = some (statusOK, (Fmt.om, some [PyKey.str "a".toList], true)) ∧
    (asgiApp exEnv exParseQs exParseQsAlt exParseQsB false
        ((exReq "lang=%C3%A9").scope (exEnc "accept".toList) (exEnc "accept-encoding".toList))).toOption.map (fun r => (r.status, r.body))
      = some (statusOK, (Fmt.om, none, true)) := by
  unfold exReq
  delta exParseQs statusOK
  repeat rewrite [String.toList_ofList]
  constructor <;> decide +kernel

example :
    wsgiApp exEnv exParseQs false ((exReq "name[]=a").environ "GET".toList id)
      = asgiApp exEnv exParseQs exParseQsAlt exParseQsB false ((exReq "name[]=a").scope (exEnc "ACCEPT".toList) (exEnc "Accept-Encoding".toList))
    ∧ asgiApp exEnv exParseQs exParseQsAlt exParseQsB false ((exReq "name[]=a").scope (exEnc "ACCEPT".toList) (exEnc "Accept-Encoding".toList))
      = .ok (handlerGet exEnv exParseQs ((exReq "name[]=a").handler (exEnc "ACCEPT".toList) (exEnc "Accept-Encoding".toList))) :=
 by
  refine frontends_agree exEnv exParseQs exParseQsAlt exParseQsB id (exReq "name[]=a") _ _ ?_ ?_
    (Req.othersOk_of_all _ ?_) ?_ ?_ ?_ ?_
  all_goals
    try unfold exReq
    repeat rewrite [String.toList_ofList]
    decide +kernel

/-- **DOCUMENTED SCOPE LIMIT (raw '#' in the request target).**  On `GET /metrics?name[]=up#x` the WSGI and ASGI apps
restrict to `['up#x']` (wsgiref and ASGI servers split the target at the first '?' only) while MetricsHandler restricts
to `['up']` (`urlparse` cuts the fragment off).  A raw '#' is not a valid RFC 3986 query character, so this is outside the
scope of `frontends_agree` (hypotheses `hph`, `hqh`), not a finding. -/
theorem raw_hash_in_target_differs :
    (wsgiApp exEnv exParseQs false ((exReq "name[]=up#x").environ "GET".toList id)).toOption.map (·.body)
        = some (Fmt.om, some [PyKey.str "up#x".toList], true) ∧
    (asgiApp exEnv exParseQs exParseQsAlt exParseQsB false
        ((exReq "name[]=up#x").scope (exEnc "accept".toList) (exEnc "accept-encoding".toList))).toOption.map (·.body)
        = some (Fmt.om, some [PyKey.str "up#x".toList], true) ∧
    (handlerGet exEnv exParseQs ((exReq "name[]=up#x").handler (exEnc "Accept".toList) (exEnc "Accept-Encoding".toList))).body
        = (Fmt.om, some [PyKey.str "up".toList], true) := by
  unfold exReq
  delta exParseQs
  repeat rewrite [String.toList_ofList]
  refine ⟨?_, ?_, ?_⟩ <;> decide +kernel

/-- OUT OF SCOPE of `frontends_agree`, recorded for the reader: with two `Accept` field lines the ASGI app (joining all
values, like wsgiref does for WSGI) chooses OpenMetrics while MetricsHandler, reading only the first line, chooses
text. -/
theorem duplicate_field_lines_differ :
    let fields := [(exEnc "accept".toList, exEnc "text/plain".toList),
                   (exEnc "accept".toList, exEnc "application/openmetrics-text".toList)]
    (asgiApp exEnv exParseQs exParseQsAlt exParseQsB false ⟨fields, none⟩).toOption.map (·.body) = some (Fmt.om, none, false) ∧
    (handlerGet exEnv exParseQs ⟨fields.map l1p, "/metrics".toList⟩).body = (Fmt.text, none, false) := by
  delta exParseQs
  repeat rewrite [String.toList_ofList]
  constructor <;> decide +kernel

end PromVerif.Props.C17
