/-
C15, part 2 — the rules that are enforced while a line is tokenised, stated on TEXT; the exception class of every
rejection; and, for each rule predicate of part 1, a concrete token list that satisfies it (the two pair rules on
histogram buckets on the sample list only: `HistBoundsNotIncreasingDoc`, `HistCountsNotCumulativeDoc` have no witness here).
-/
import PromVerif.Props.C15Rules
import PromVerif.Lemmas.OMExLong
import PromVerif.Lemmas.OMFold

namespace PromVerif.Props.C15
open PromVerif.Py PromVerif.Model PromVerif.Model.ParseCore PromVerif.Model.OMParse PromVerif.Generated.OMParse
open PromVerif.Spec.OMRules PromVerif.Lemmas.OM PromVerif.Lemmas.OMToy
open PromVerif.Lemmas.OMRt PromVerif.Lemmas.TextParse PromVerif.Lemmas.Scanner PromVerif.Model.TextExpo

/-- the tokenised lines of a text -/
def linesOf (P : Params) (text : Str) : List Line := (docLines text).map (parseLine P)

theorem omParse_eq (P : Params) (text : Str) : omParse P text = assemble P (linesOf P text) := rfl

/-- whatever makes the state machine fail on the lines of a text, the parser raises ValueError — for every text and
every choice of the number parameters (with the two interpreter facts of `C14OM.om_parser_total`) -/
theorem rule_violation_is_valueError (P : Params) (hnan : NaNLiteral P) (hd : DigitsNotSpace P) (text : Str)
    (h : isError (assemble P (linesOf P text)) = true) : omParse P text = .error .valueError := by
  rw [omParse_eq]
  cases hp : assemble P (linesOf P text) with
  | ok fams => rw [hp] at h; cases h
  | error e =>
    have := omParse_safe P hnan hd text e (by rw [omParse_eq]; exact hp)
    rw [this]

/-- … instantiated: a text whose lines violate a rule is rejected with ValueError -/
theorem rejected_with_valueError (P : Params) (hnan : NaNLiteral P) (hd : DigitsNotSpace P) (text : Str)
    (h : MissingEOF (linesOf P text) ∨ ContentAfterEOF (linesOf P text) ∨ BlankLine (linesOf P text) ∨
      RepeatedMetadata (linesOf P text) ∨ LateMetadata (linesOf P text) ∨ InterleavedFamilies (linesOf P text) ∨
      ClashingFamilies (linesOf P text) ∨ UnitNotSuffix (linesOf P text) ∨ UnitOnInfoOrStateset (linesOf P text) ∨
      InfoNotOne P (linesOf P text) ∨ StatesetBadValue P (linesOf P text) ∨ StatesetNoLabel (linesOf P text) ∨
      CounterLikeNaN P (linesOf P text) ∨ CounterLikeNegative P (linesOf P text) ∨ QuantileOutOfRange P (linesOf P text) ∨
      CountNotIntegral P (linesOf P text) ∨ BucketBoundNaN P (linesOf P text) ∨ ExemplarIneligible (linesOf P text) ∨
      TimestampBackwards P (linesOf P text) ∨ TimestampPartial (linesOf P text) ∨
      HistBoundsNotIncreasingDoc P (linesOf P text) ∨ HistCountsNotCumulativeDoc P (linesOf P text) ∨
      HistNoInfDoc P (linesOf P text) ∨ HistCountNeInfDoc P (linesOf P text)) :
    omParse P text = .error .valueError := by
  apply rule_violation_is_valueError P hnan hd text
  rcases h with h | h | h | h | h | h | h | h | h | h | h | h | h | h | h | h | h | h | h | h | h | h | h | h
  · exact missing_eof P _ h
  · exact content_after_eof P _ h
  · exact blank_line P _ h
  · exact repeated_metadata P _ h
  · exact late_metadata P _ h
  · exact interleaved_families P _ h
  · exact clashing_families P _ h
  · exact unit_not_suffix P _ h
  · exact unit_on_info_or_stateset P _ h
  · exact info_not_one P _ h
  · exact stateset_bad_value P _ h
  · exact stateset_no_label P _ h
  · exact counter_like_nan P _ h
  · exact counter_like_negative P _ h
  · exact quantile_out_of_range P _ h
  · exact count_not_integral P _ h
  · exact bucket_bound_nan P _ h
  · exact exemplar_ineligible P _ h
  · exact timestamp_backwards P _ h
  · exact timestamp_partial P _ h
  · exact hist_bounds_not_increasing P _ h
  · exact hist_counts_not_cumulative P _ h
  · exact hist_no_inf_document P _ h
  · exact hist_count_ne_inf_document P _ h

/-- **a label block that names one label twice is rejected**: for every list of (name, value) pairs whose names
`_validate_labelname` accepts (legacy names bare, others quoted and escaped) and whose values are arbitrary (escaped),
if a name occurs twice then `parse_labels(block, True)` raises ValueError -/
theorem duplicate_label_rejected (legacy : Bool) (kv : Str × Str) (r : List (Str × Str))
    (hok : ∀ x ∈ kv :: r, labelNameOK legacy x.1 = true) (hdup : ¬ ((kv :: r).map (·.1)).Nodup) :
    parseLabels legacy (exBlock (kv :: r)) true = .error .valueError :=
  parseLabels_om_dup kv r hok hdup

/-- … the sample line `name{block} rest` carrying it is rejected by `_parse_sample` … -/
theorem duplicate_label_line_rejected (P : Params) (n : Str) (hv : Validation.isValidLegacyMetricName n = true)
    (kv : Str × Str) (r : List (Str × Str)) (hok : ∀ x ∈ kv :: r, labelNameOK P.legacy x.1 = true)
    (hdup : ¬ ((kv :: r).map (·.1)).Nodup) (rest : Str) :
    parseSample P (n ++ '{' :: (exBlock (kv :: r) ++ '}' :: ' ' :: rest)) = .error .valueError :=
  parseSample_labels_dup P hv kv r hok hdup rest

/-- the shape of such a line: a legacy metric name, the block, and a remainder `value[ ts][ # {…} v[ ts]]` of number
tokens -/
def dupLine (n : Str) (L : List (Str × Str)) (vtok : Str) (ts : Option Str) (ex : Option (List (Str × Str) × Str × Option Str)) : Str :=
  n ++ '{' :: (exBlock L ++ '}' :: ' ' :: remText vtok ts ex)

/-- a line that begins with a legacy metric name, is not read as a native histogram and is rejected by `_parse_sample`:
every document containing it is rejected, with ValueError -/
theorem bad_sample_line_document (P : Params) (hnan : NaNLiteral P) (hd : DigitsNotSpace P) (text : Str)
    (n : Str) (hv : Validation.isValidLegacyMetricName n = true) (rest : Str) (hnh : nhDetect (n ++ rest) = .ok none)
    (hplain : isError (parseSample P (n ++ rest)) = true) (hmem : n ++ rest ∈ docLines text) :
    omParse P text = .error .valueError := by
  apply rule_violation_is_valueError P hnan hd text
  rw [← omParse_eq]
  apply omParse_bad_line P text _ hmem
  intro st
  obtain ⟨hne, hcs⟩ := legacyName_chars hv (legacyMetric_no_newline hv)
  obtain ⟨e, he⟩ := error_of_isError hplain
  cases n with
  | nil => exact absurd rfl hne
  | cons c t =>
    rw [List.cons_append] at hnh he ⊢
    rw [parseLine_nonHash P c _ (legacyChar_ne (hcs c (by simp)) (by decide)), parseNhLine_none P _ hnh, he]
    exact stepLine_plain_error P st e

/-- a sample line `name{block} rest` whose block `parse_labels` rejects -/
theorem braced_line_document (P : Params) (hnan : NaNLiteral P) (hd : DigitsNotSpace P) (text : Str)
    (n : Str) (hv : Validation.isValidLegacyMetricName n = true) (B : Str) (hB : Pass rbChs B)
    (herr : parseLabels P.legacy B true = .error .valueError)
    (vtok : Str) (ts : Option Str) (ex : Option (List (Str × Str) × Str × Option Str)) (ht : RemTok vtok ts ex)
    (hmem : n ++ '{' :: (B ++ '}' :: ' ' :: remText vtok ts ex) ∈ docLines text) : omParse P text = .error .valueError := by
  have hn : Pass spLbChs n := pass_legacyName (fun c h => by
    simp [spLbChs, legacyChar_eq_false h (show isLegacyChar ' ' = false by decide),
      legacyChar_eq_false h (show isLegacyChar '{' = false by decide)]) hv
  refine bad_sample_line_document P hnan hd text n hv _
    (nhDetect_braced n B hn (pass_append (a := ['{']) (pass_lbrace (by decide)) hB) ht) ?_ hmem
  rw [parseSample_block_error P hv B hB herr]; rfl

/-- … and so is every DOCUMENT that contains such a line, wherever it stands, with ValueError -/
theorem duplicate_label_document (P : Params) (hnan : NaNLiteral P) (hd : DigitsNotSpace P) (text : Str)
    (n : Str) (hv : Validation.isValidLegacyMetricName n = true) (kv : Str × Str) (r : List (Str × Str))
    (hok : ∀ x ∈ kv :: r, labelNameOK P.legacy x.1 = true) (hdup : ¬ ((kv :: r).map (·.1)).Nodup)
    (vtok : Str) (ts : Option Str) (ex : Option (List (Str × Str) × Str × Option Str)) (ht : RemTok vtok ts ex)
    (hmem : dupLine n (kv :: r) vtok ts ex ∈ docLines text) : omParse P text = .error .valueError :=
  braced_line_document P hnan hd text n hv _ (exPass_block (kv :: r) hok) (parseLabels_om_dup kv r hok hdup) vtok ts ex ht hmem

example : errOf (parseLabels false cs!"a=\"1\",b=\"2\",a=\"3\"" true) = some .valueError := by decide +kernel
example : errOf (parseDoc "# TYPE m gauge\nm{a=\"1\",b=\"2\",a=\"3\"} 1\n# EOF\n") = some .valueError := by rw [parseDoc_ofList]; decide +kernel

/-! ### … whatever the spelling of the two name tokens

`duplicate_label_rejected` speaks of rendered blocks, in which a name has ONE spelling (a legacy name bare, any other
quoted).  `parse_labels` compares the names AFTER `_unquote_unescape`, so `a="1","a"="2"` names `a` twice as well.  Below,
every item carries its own name token — the canonical one or the quoted one, chosen per item — and the hypothesis is on
the DECODED names. -/

/-- (token, decoded name, value): the token is the canonical spelling of the name or the quoted spelling `"name"` (for a
legacy name, the other spelling) -/
def Spelled (legacy : Bool) (x : STerm) : Prop :=
  labelNameOK legacy x.2.1 = true ∧ (x.1 = Model.Escape.escapeLabelName x.2.1 ∨ x.1 = qname x.2.1)

theorem spelled_ok {legacy : Bool} {x : STerm} (h : Spelled legacy x) : STermOK legacy x := by
  obtain ⟨tok, k, v⟩ := x
  obtain ⟨hk, e | e⟩ := h
  · simp only at e; subst e; exact tokOK_canonical hk
  · simp only at e; subst e; exact tokOK_quoted hk

/-- the block `tok1="v1",tok2="v2",…` -/
def mixBlock (L : List STerm) : Str := sBlock L

/-- **a label block in which one DECODED name occurs twice is rejected, whether the two occurrences are spelled alike or
not** (bare and quoted, quoted and bare, …): `parse_labels(block, True)` raises ValueError -/
theorem duplicate_label_mixed_rejected (legacy : Bool) (t : STerm) (r : List STerm) (hok : ∀ x ∈ t :: r, Spelled legacy x)
    (hdup : ¬ ((t :: r).map (fun x => x.2.1)).Nodup) :
    parseLabels legacy (mixBlock (t :: r)) true = .error .valueError :=
  (parseLabels_om_sitems t r fun x hx => spelled_ok (hok x hx)).trans (if_neg hdup)

/-- … and with pairwise distinct decoded names the same block is accepted and yields the decoded pairs — so the
hypothesis above is exactly what makes the difference -/
theorem distinct_labels_mixed_accepted (legacy : Bool) (t : STerm) (r : List STerm) (hok : ∀ x ∈ t :: r, Spelled legacy x)
    (hnd : ((t :: r).map (fun x => x.2.1)).Nodup) :
    parseLabels legacy (mixBlock (t :: r)) true = .ok ((t :: r).map sDec) :=
  (parseLabels_om_sitems t r fun x hx => spelled_ok (hok x hx)).trans (if_pos hnd)

/-- the rendered blocks of `duplicate_label_rejected` are the instance "every token canonical" -/
theorem exBlock_eq_mixBlock (L : List (Str × Str)) :
    exBlock L = mixBlock (L.map (fun kv => (Model.Escape.escapeLabelName kv.1, kv.1, kv.2))) :=
  exBlock_eq_sBlock L

/-- … the sample line carrying such a block is rejected by `_parse_sample` … -/
theorem duplicate_label_mixed_line_rejected (P : Params) (n : Str) (hv : Validation.isValidLegacyMetricName n = true)
    (t : STerm) (r : List STerm) (hok : ∀ x ∈ t :: r, Spelled P.legacy x)
    (hdup : ¬ ((t :: r).map (fun x => x.2.1)).Nodup) (rest : Str) :
    parseSample P (n ++ '{' :: (mixBlock (t :: r) ++ '}' :: ' ' :: rest)) = .error .valueError :=
  parseSample_block_error P hv _ (sBlock_pass t r (fun x hx => spelled_ok (hok x hx)))
    (duplicate_label_mixed_rejected P.legacy t r hok hdup) rest

/-- … and so is every DOCUMENT that contains such a line, wherever it stands, with ValueError -/
theorem duplicate_label_mixed_document (P : Params) (hnan : NaNLiteral P) (hd : DigitsNotSpace P) (text : Str)
    (n : Str) (hv : Validation.isValidLegacyMetricName n = true) (t : STerm) (r : List STerm)
    (hok : ∀ x ∈ t :: r, Spelled P.legacy x) (hdup : ¬ ((t :: r).map (fun x => x.2.1)).Nodup)
    (vtok : Str) (ts : Option Str) (ex : Option (List (Str × Str) × Str × Option Str)) (ht : RemTok vtok ts ex)
    (hmem : n ++ '{' :: (mixBlock (t :: r) ++ '}' :: ' ' :: remText vtok ts ex) ∈ docLines text) :
    omParse P text = .error .valueError :=
  braced_line_document P hnan hd text n hv _ (sBlock_pass t r (fun x hx => spelled_ok (hok x hx)))
    (duplicate_label_mixed_rejected P.legacy t r hok hdup) vtok ts ex ht hmem

-- the two spellings differ: `a` bare then quoted, quoted then bare; a quoted-only name; three items
example : mixBlock [(cs!"a", cs!"a", cs!"1"), (cs!"\"a\"", cs!"a", cs!"2")] = cs!"a=\"1\",\"a\"=\"2\"" := by decide +kernel
example : Spelled false (cs!"\"a\"", cs!"a", cs!"2") ∧ Spelled false (cs!"a", cs!"a", cs!"1") :=
  ⟨⟨by decide, Or.inr (by decide)⟩, ⟨by decide, Or.inl (by decide)⟩⟩
example : ¬ ([(cs!"a", cs!"a", cs!"1"), (cs!"\"a\"", cs!"a", cs!"2")].map (fun x : STerm => x.2.1)).Nodup := by decide +kernel
example : errOf (parseLabels false cs!"a=\"1\",\"a\"=\"2\"" true) = some .valueError := by decide +kernel
example : errOf (parseLabels false cs!"\"a\"=\"1\",a=\"1\"" true) = some .valueError := by decide +kernel
example : errOf (parseLabels true cs!"a=\"1\",b=\"x\",\"a\"=\"2\"" true) = some .valueError := by decide +kernel
-- two escape spellings of one quoted name (`\s` is no escape sequence: the backslash stays), and blanks around a token
example : errOf (parseLabels false cs!"\"b\\\\s\"=\"1\",\"b\\s\"=\"2\"" true) = some .valueError := by decide +kernel
example : errOf (parseLabels false cs!"a=\"1\", a =\"2\"" true) = some .valueError := by decide +kernel
-- … in the labels of a sample and of an exemplar, in a whole document
example : errOf (parseDoc "# TYPE m gauge\nm{a=\"1\",\"a\"=\"2\"} 1\n# EOF\n") = some .valueError := by rw [parseDoc_ofList]; decide +kernel
example : errOf (parseDoc "# TYPE m counter\nm_total 1 # {t=\"x\",\"t\"=\"y\"} 1\n# EOF\n") = some .valueError := by rw [parseDoc_ofList]; decide +kernel
example : errOf (parseDoc "# TYPE m counter\nm_total 1 # {\"t\"=\"x\",t=\"x\"} 1\n# EOF\n") = some .valueError := by rw [parseDoc_ofList]; decide +kernel
example : isOkDoc "# TYPE m counter\nm_total 1 # {\"t\"=\"x\",u=\"x\"} 1\n# EOF\n" = true := by rw [isOkDoc_ofList]; decide +kernel

/-- **an exemplar whose label names and values total more than 128 characters is rejected**: for every label list
(names accepted by `_validate_labelname`, values arbitrary; lengths counted on the UNESCAPED names and values), the
remainder `value[ ts] # {block} evalue[ ets]` makes `_parse_remaining_text` raise -/
theorem exemplar_too_long_text (P : Params) (vtok : Str) (hv : NumTok vtok) (ts : Option Str) (hts : ∀ t, ts = some t → NumTok t)
    (kv : Str × Str) (r : List (Str × Str)) (hok : ∀ x ∈ kv :: r, labelNameOK P.legacy x.1 = true)
    (hnd : ((kv :: r).map (·.1)).Nodup) (etok : Str) (hetok : NumTok etok) (ets : Option Str) (hets : ∀ t, ets = some t → NumTok t)
    (hlen : 128 < ((kv :: r).map (fun x => x.1.length + x.2.length)).sum) :
    isError (parseRemainingText P (remText vtok ts (some (kv :: r, etok, ets)))) = true :=
  parseRemaining_ex_too_long P vtok hv ts hts kv r hok hnd etok hetok ets hets hlen

/-- … so the sample line `name value… # {block} …` is rejected by `_parse_sample` … -/
theorem exemplar_too_long_line (P : Params) (n : Str) (hvn : Validation.isValidLegacyMetricName n = true)
    (vtok : Str) (hv : NumTok vtok) (ts : Option Str) (hts : ∀ t, ts = some t → NumTok t)
    (kv : Str × Str) (r : List (Str × Str)) (hok : ∀ x ∈ kv :: r, labelNameOK P.legacy x.1 = true)
    (hnd : ((kv :: r).map (·.1)).Nodup) (etok : Str) (hetok : NumTok etok) (ets : Option Str) (hets : ∀ t, ets = some t → NumTok t)
    (hlen : 128 < ((kv :: r).map (fun x => x.1.length + x.2.length)).sum) :
    isError (parseSample P (n ++ ' ' :: remText vtok ts (some (kv :: r, etok, ets)))) = true := by
  have ht : RemTok vtok ts (some (kv :: r, etok, ets)) :=
    ⟨hv, hts, fun x hx => by cases hx; exact hetok, fun x hx t htt => by cases hx; exact hets t htt⟩
  rw [parseSample_bare P hvn ht]
  exact sampleOf_isError P n [] _ (parseRemaining_ex_too_long P vtok hv ts hts kv r hok hnd etok hetok ets hets hlen)

/-- … and every DOCUMENT containing such a line is rejected with ValueError -/
theorem exemplar_too_long_document (P : Params) (hnan : NaNLiteral P) (hd : DigitsNotSpace P) (text : Str)
    (n : Str) (hvn : Validation.isValidLegacyMetricName n = true)
    (vtok : Str) (hv : NumTok vtok) (ts : Option Str) (hts : ∀ t, ts = some t → NumTok t)
    (kv : Str × Str) (r : List (Str × Str)) (hok : ∀ x ∈ kv :: r, labelNameOK P.legacy x.1 = true)
    (hnd : ((kv :: r).map (·.1)).Nodup) (etok : Str) (hetok : NumTok etok) (ets : Option Str) (hets : ∀ t, ets = some t → NumTok t)
    (hlen : 128 < ((kv :: r).map (fun x => x.1.length + x.2.length)).sum)
    (hmem : n ++ ' ' :: remText vtok ts (some (kv :: r, etok, ets)) ∈ docLines text) :
    omParse P text = .error .valueError := by
  have ht : RemTok vtok ts (some (kv :: r, etok, ets)) :=
    ⟨hv, hts, fun x hx => by cases hx; exact hetok, fun x hx t htt => by cases hx; exact hets t htt⟩
  exact bad_sample_line_document P hnan hd text n hvn _ (nhDetect_bare hvn ht)
    (exemplar_too_long_line P n hvn vtok hv ts hts kv r hok hnd etok hetok ets hets hlen) hmem

/-! ## the rule predicates are satisfiable: a concrete token list for each but the two document-level pair rules
(non-vacuity of the PREDICATES; the `parseDoc` literals next to the theorems show the same documents rejected end to end) -/

/-- a plain sample -/
def mkS (name : String) (labels : Labels) (value : Num) (ts : Option OTs := none) (ex : Option OExemplar := none) : OSample :=
  ⟨name.toList, some labels, some value, ts, ex, none⟩

def ty (n t : String) : Line := .metadata cs!"TYPE" n.toList t.toList

theorem inBlock_here (n t : Str) (bad : List Line) : InBlock (.metadata cs!"TYPE" n t :: bad) n t bad :=
  ⟨[], [], [], by simp, fun l hl => by cases hl⟩

/-! The helpers take string literals; each example first replaces `ty "…" "…"`, `mkS "…" …` (and `bk "…" …` below) by
the line or sample with its character lists written out, so that no `String.toList` of a literal is left to evaluate. -/

theorem ty_ofList (n t : List Char) : ty (String.ofList n) (String.ofList t) = .metadata cs!"TYPE" n t := by
  rw [ty, String.toList_ofList, String.toList_ofList]

theorem mkS_ofList (name : List Char) (labels : Labels) (value : Num) (ts : Option OTs) (ex : Option OExemplar) :
    mkS (String.ofList name) labels value ts ex = ⟨name, some labels, some value, ts, ex, none⟩ := by
  rw [mkS, String.toList_ofList]

example : MissingEOF [ty "a" "gauge", smp (mkS "a" [] (.int 1))] := by
  intro h; simp [ty, smp] at h
example : ContentAfterEOF [ty "a" "gauge", .eof, .blank] := ⟨[ty "a" "gauge"], .blank, [], rfl⟩
example : BlankLine [.blank, .eof] := by simp [BlankLine]
example : InfoNotOne toyP [ty "a" "info", smp (mkS "a_info" [] (.int 2))] := by
  rw [ty_ofList, mkS_ofList]
  exact ⟨cs!"a", _, .int 2, inBlock_here _ _ _, rfl, rfl, by decide⟩
example : StatesetBadValue toyP [ty "a" "stateset", smp (mkS "a" [(cs!"a", cs!"on")] (.int 2))] := by
  rw [ty_ofList, mkS_ofList]
  exact ⟨cs!"a", _, .int 2, inBlock_here _ _ _, rfl, rfl, by decide, by decide⟩
example : StatesetNoLabel [ty "a" "stateset", smp (mkS "a" [(cs!"b", cs!"on")] (.int 1))] := by
  rw [ty_ofList, mkS_ofList]
  exact ⟨cs!"a", _, [(cs!"b", cs!"on")], inBlock_here _ _ _, rfl, rfl, by decide⟩
example : CounterLikeNaN toyP [ty "a" "counter", smp (mkS "a_total" [] (.flt 0))] := by
  rw [ty_ofList, mkS_ofList]
  exact ⟨cs!"a", cs!"counter", _, cs!"_total", 0, inBlock_here _ _ _, rfl, by decide, by decide, rfl, by decide⟩
example : CounterLikeNegative toyP [ty "a" "summary", smp (mkS "a_sum" [] (.int (-1)))] := by
  rw [ty_ofList, mkS_ofList]
  exact ⟨cs!"a", cs!"summary", _, cs!"_sum", .int (-1), inBlock_here _ _ _, rfl, by decide, by decide, rfl, by decide⟩
example : QuantileOutOfRange toyP [ty "a" "summary", smp (mkS "a" [(cs!"quantile", cs!"2")] (.int 1))] := by
  rw [ty_ofList, mkS_ofList]
  exact ⟨cs!"a", _, [(cs!"quantile", cs!"2")], inBlock_here _ _ _, rfl, rfl, by
    simp [dictGet]; rw [show toyP.pyFloat ['2'] = some 5 from by decide]; decide⟩
example : CountNotIntegral toyP [ty "a" "histogram", smp (mkS "a_bucket" [(cs!"le", cs!"+Inf")] (.flt 2))] := by
  rw [ty_ofList, mkS_ofList]
  exact ⟨cs!"a", cs!"histogram", _, cs!"_bucket", 2, inBlock_here _ _ _, rfl, by decide, by decide, rfl, by decide⟩
example : BucketBoundNaN toyP [ty "a" "histogram", smp (mkS "a_bucket" [(cs!"le", cs!"NaN")] (.int 1))] := by
  rw [ty_ofList, mkS_ofList]
  exact ⟨cs!"a", cs!"histogram", _, [(cs!"le", cs!"NaN")], inBlock_here _ _ _, rfl, by decide, rfl, by
    simp [dictGet]; rw [show toyP.pyFloat ['N', 'a', 'N'] = some 0 from by decide]; decide⟩
example : ExemplarIneligible [ty "a" "gauge", smp (mkS "a" [] (.int 1) none (some ⟨[], .int 1, none⟩))] := by
  rw [ty_ofList, mkS_ofList]
  exact ⟨cs!"a", cs!"gauge", _, inBlock_here _ _ _, by decide, rfl, by unfold exemplarEligible; decide⟩
example : TimestampBackwards toyP [ty "a" "gauge", smp (mkS "a" [] (.int 1) (some (.stamp 5 0))), smp (mkS "a" [] (.int 1) (some (.stamp 4 999999999)))] := by
  rw [ty_ofList, mkS_ofList, mkS_ofList]
  exact ⟨cs!"a", cs!"gauge", _, _, .stamp 5 0, .stamp 4 999999999, inBlock_here _ _ _, by decide, by decide, by decide, by unfold SameGroup; decide, rfl, rfl,
    Or.inl (by decide)⟩
example : TimestampBackwards toyP [ty "a" "gauge", smp (mkS "a" [] (.int 1) (some (.flt 5))), smp (mkS "a" [] (.int 1) (some (.stamp 1 500000000)))] := by
  rw [ty_ofList, mkS_ofList, mkS_ofList]
  exact ⟨cs!"a", cs!"gauge", _, _, .flt 5, .stamp 1 500000000, inBlock_here _ _ _, by decide, by decide, by decide, by unfold SameGroup; decide, rfl, rfl,
    by simp [tsLater, toyP, xlt, xv]⟩
example : TimestampPartial [ty "a" "info", smp (mkS "a_info" [(cs!"x", cs!"1")] (.int 1) (some (.stamp 5 0))), smp (mkS "a_info" [(cs!"x", cs!"2")] (.int 1))] := by
  rw [ty_ofList, mkS_ofList, mkS_ofList]
  exact ⟨cs!"a", cs!"info", _, _, inBlock_here _ _ _, by decide, by decide, by unfold SameGroup; decide, by decide⟩
example : RepeatedMetadata [.metadata cs!"HELP" cs!"a" cs!"x", smp (mkS "b" [] (.int 1)), .metadata cs!"HELP" cs!"a" cs!"y"] :=
  ⟨[], cs!"HELP", cs!"a", cs!"x", [smp (mkS "b" [] (.int 1))], cs!"y", [], rfl, by decide⟩
example : LateMetadata [ty "a" "gauge", smp (mkS "a" [] (.int 1)), .metadata cs!"HELP" cs!"a" cs!"y"] := by
  rw [ty_ofList]
  exact ⟨[], cs!"TYPE", cs!"a", cs!"gauge", [smp (mkS "a" [] (.int 1))], cs!"HELP", cs!"y", [], rfl, by decide, _, _, List.mem_singleton.mpr rfl⟩
example : InterleavedFamilies [ty "a" "gauge", ty "b" "gauge", .metadata cs!"HELP" cs!"a" cs!"y"] := by
  rw [ty_ofList, ty_ofList]
  exact ⟨[], cs!"TYPE", cs!"a", cs!"gauge", [], cs!"TYPE", cs!"b", cs!"gauge", [], cs!"HELP", cs!"y", [], rfl, by decide, by decide, by decide⟩
example : ClashingFamilies [ty "a" "counter", ty "a_total" "gauge"] := by
  rw [ty_ofList, ty_ofList]
  exact ⟨[], cs!"a", cs!"counter", [], cs!"a_total", cs!"gauge", [], rfl, by decide, cs!"a_total", Or.inl (by decide), Or.inr rfl⟩
example : UnitNotSuffix [.metadata cs!"UNIT" cs!"a_seconds" cs!"bytes"] :=
  ⟨[], cs!"a_seconds", cs!"bytes", [], rfl, by decide, by decide⟩
example : UnitOnInfoOrStateset [.metadata cs!"UNIT" cs!"a_x" cs!"x", ty "a_x" "info"] := by
  rw [ty_ofList]
  exact ⟨[], cs!"a_x", cs!"x", cs!"info", [], [], by decide, Or.inl rfl, Or.inl rfl⟩

/-- the histogram predicates on a sample list -/
def bk (le : String) (v : Int) : OSample := mkS "a_bucket" [(cs!"le", le.toList)] (.int v)

/-- `bk` and label-less `mkS` with their character lists written out -/
abbrev bucket (le : Str) (v : Int) : OSample := ⟨cs!"a_bucket", some [(cs!"le", le)], some (.int v), none, none, none⟩

abbrev plainS (name : Str) (v : Int) : OSample := ⟨name, some [], some (.int v), none, none, none⟩

theorem bk_ofList (le : List Char) (v : Int) : bk (String.ofList le) v = bucket le v := by
  rw [bk, mkS_ofList, String.toList_ofList]

theorem isBucket_bucket (le : Str) (v : Int) (b : Nat) (h : toyP.pyFloat le = some b) : IsBucket toyP cs!"a" (bucket le v) b [] :=
  ⟨rfl, rfl, by simp [histGroupOf, dictHas], ⟨_, _, rfl, by simp [dictGet], h⟩⟩

theorem isBucket_bk (le : String) (v : Int) (b : Nat) (h : toyP.pyFloat le.toList = some b) : IsBucket toyP cs!"a" (bk le v) b [] :=
  isBucket_bucket le.toList v b h

theorem inGroup_plainS (name : Str) (v : Int) (h1 : name.drop 1 ≠ cs!"_bucket") (h2 : name ≠ cs!"a_bucket") :
    InHistGroup cs!"a" [] none (plainS name v) :=
  ⟨rfl, h1, rfl, ⟨[], by simp [histGroupOf, h2], rfl⟩, fun _ => ⟨_, rfl⟩⟩

example : HistBoundsNotIncreasing toyP cs!"a" [bk "2" 1, bk "1" 1, bk "+Inf" 1] := by
  rw [bk_ofList, bk_ofList, bk_ofList]
  exact ⟨[], _, _, [_], 5, 4, [], [], rfl, isBucket_bucket _ 1 5 (by decide), isBucket_bucket _ 1 4 (by decide), ⟨rfl, rfl⟩, by decide⟩
example : HistCountsNotCumulative toyP cs!"a" [bk "1" 3, bk "+Inf" 2] := by
  rw [bk_ofList, bk_ofList]
  exact ⟨[], _, _, [], 4, 1, [], [], .int 3, .int 2, rfl, isBucket_bucket _ 3 4 (by decide), isBucket_bucket _ 2 1 (by decide),
    ⟨rfl, rfl⟩, rfl, rfl, by decide⟩
example : HistNoInf toyP cs!"a" [bk "1" 1, bk "2" 1, mkS "a_count" [] (.int 1), mkS "a_sum" [] (.int 1)] := by
  rw [bk_ofList, bk_ofList, mkS_ofList, mkS_ofList]
  exact ⟨[bucket cs!"1" 1], bucket cs!"2" 1, [plainS cs!"a_count" 1, plainS cs!"a_sum" 1], [], 5, [], rfl, isBucket_bucket _ 1 5 (by decide),
    by decide,
    List.forall_mem_cons.mpr ⟨inGroup_plainS _ _ (by decide) (by decide),
      List.forall_mem_singleton.mpr (inGroup_plainS _ _ (by decide) (by decide))⟩,
    trivial⟩
/-- the canonical order `_bucket{+Inf}, _count, _sum, _created` with `_count` ≠ the +Inf bucket -/
example : HistCountNeInf toyP cs!"a" [bk "+Inf" 2, mkS "a_count" [] (.int 3), mkS "a_sum" [] (.int 1), mkS "a_created" [] (.int 1)] := by
  rw [bk_ofList, mkS_ofList, mkS_ofList, mkS_ofList]
  exact ⟨[], bucket cs!"+Inf" 2, [], plainS cs!"a_count" 3, [plainS cs!"a_sum" 1, plainS cs!"a_created" 1], [], 1, [], .int 2, .int 3,
    rfl, isBucket_bucket _ 2 1 (by decide), (by intro s hs; cases hs), Or.inl rfl,
    inGroup_plainS _ _ (by decide) (by decide),
    List.forall_mem_cons.mpr ⟨⟨inGroup_plainS _ _ (by decide) (by decide), by decide, by decide⟩,
      List.forall_mem_singleton.mpr ⟨inGroup_plainS _ _ (by decide) (by decide), by decide, by decide⟩⟩,
    rfl, rfl, by decide, trivial⟩

/-- the same two rules on the lines of a document: the group closed by `# EOF` … -/
example : HistNoInfDoc toyP [ty "a" "histogram", smp (bk "1" 1), smp (bk "2" 1), smp (mkS "a_count" [] (.int 1)), .eof] := by
  rw [ty_ofList, bk_ofList, bk_ofList, mkS_ofList]
  exact ⟨[], cs!"a", cs!"histogram", [smp (bucket cs!"1" 1)], [bucket cs!"2" 1, plainS cs!"a_count" 1], [.eof], rfl, Or.inl rfl,
    List.forall_mem_singleton.mpr (by intro s hs; cases hs; decide),
    (by decide),
    (by decide),
    (by
      intro nh s hs x hx
      simp only [List.mem_singleton, smp, Line.sample.injEq, Except.ok.injEq] at hs
      obtain ⟨_, rfl⟩ := hs
      simp only [List.mem_cons, List.not_mem_nil, or_false] at hx
      rcases hx with rfl | rfl <;> decide),
    bucket cs!"2" 1, [plainS cs!"a_count" 1], 5, [], isBucket_bucket _ 1 5 (by decide), by decide,
    List.forall_mem_singleton.mpr (inGroup_plainS _ _ (by decide) (by decide)),
    rfl, Or.inl ⟨rfl, Or.inr ⟨.eof, [], rfl, Or.inl (fun _ _ h => by cases h)⟩⟩⟩

/-- … and by a bucket line of another label group, whatever follows -/
example (rest : List Line) : HistNoInfDoc toyP
    (ty "a" "histogram" :: smp (bk "1" 1) :: smp (mkS "a_bucket" [(cs!"le", cs!"+Inf"), (cs!"x", cs!"y")] (.int 1)) :: rest) := by
  rw [ty_ofList, bk_ofList, mkS_ofList]
  exact ⟨[], cs!"a", cs!"histogram", [], [bucket cs!"1" 1, ⟨cs!"a_bucket", some [(cs!"le", cs!"+Inf"), (cs!"x", cs!"y")], some (.int 1), none, none, none⟩],
    rest, rfl, Or.inl rfl,
    (by intro l hl; cases hl),
    (by decide),
    (by decide), (by intro nh s hs; cases hs),
    bucket cs!"1" 1, [], 4, [], isBucket_bucket _ 1 4 (by decide), by decide, (by intro s hs; cases hs), rfl,
    Or.inr ⟨_, rfl, rfl, by decide, [(cs!"x", cs!"y")], by decide, Or.inl (by decide)⟩⟩

/-- `_count` ≠ the `+Inf` bucket, the family closed by the next family's `# TYPE` line -/
example (rest : List Line) : HistCountNeInfDoc toyP
    (ty "a" "histogram" :: smp (bk "+Inf" 2) :: smp (mkS "a_sum" [] (.int 1)) :: smp (mkS "a_count" [] (.int 3)) :: ty "b" "gauge" :: rest) := by
  rw [ty_ofList, ty_ofList, bk_ofList, mkS_ofList, mkS_ofList]
  exact ⟨[], cs!"a", cs!"histogram", [], [bucket cs!"+Inf" 2, plainS cs!"a_sum" 1, plainS cs!"a_count" 3], .metadata cs!"TYPE" cs!"b" cs!"gauge" :: rest,
    rfl, Or.inl rfl,
    (by intro l hl; cases hl),
    (by decide),
    (by decide), (by intro nh s hs; cases hs),
    bucket cs!"+Inf" 2, [plainS cs!"a_sum" 1], plainS cs!"a_count" 3, [], 1, [], .int 2, .int 3, isBucket_bucket _ 2 1 (by decide),
    List.forall_mem_singleton.mpr (inGroup_plainS _ _ (by decide) (by decide)),
    Or.inl rfl, inGroup_plainS _ _ (by decide) (by decide), (by intro s hs; cases hs),
    rfl, rfl, by decide, rfl, Or.inl ⟨rfl, Or.inr ⟨_, rest, rfl, Or.inl (fun _ _ h => by cases h)⟩⟩⟩

end PromVerif.Props.C15
