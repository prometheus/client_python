/-
C13, cross-class injectivity: "distinct floats never share a rendering".

`Props/C13.lean` proves injectivity INSIDE the rewritten class (`go_injective_big`) and that the other classes are
left untouched.  This module states the property across all five classes of `repr` texts.  Lean has no theory of IEEE
doubles, so the two facts about CPython's `repr` that the text formulation cannot supply are hypotheses (`ReprFacts`);
the correspondence harness of C13 re-validates them on every double it generates.
-/
import PromVerif.Lemmas.GoInjective

namespace PromVerif.Props.C13Injective
open PromVerif.Py PromVerif.Spec PromVerif.Model.Utils PromVerif.Props.C13 PromVerif.Lemmas.GoInjective
set_option autoImplicit false

/-- two texts denote the same number -/
def SameDenotation (s t : Str) : Prop := ∃ a b c, denote s = some a ∧ denote t = some b ∧ a.eqv c ∧ b.eqv c

/-- what is assumed about the set `S` of texts `repr` actually produces:
    * `shortest` — one text per value: two texts of `S` denoting the same number are the same text
      (`repr` prints the shortest digit string that round-trips, so `1000000.0` occurs and `1000000.00` does not);
    * `range` — `repr` uses the exponent form only from `1e16` on, where it does not use the plain form: the rendering of a
      text of `S` is never a DIFFERENT exponent-form text of `S` (`1e+15` is a rendering, not a `repr`). -/
structure ReprFacts (S : Str → Prop) : Prop where
  shortest : ∀ s t, S s → S t → SameDenotation s t → s = t
  range : ∀ s t, S s → S t → ExpRepr t → floatToGoString s = t → s = t

/-- **go_injective.**  For `repr` texts `s1 s2` of the five classes (`ReprText`: plain ≤ 6 integer digits, plain > 6,
    exponent form, `inf`, negative finite) among those `repr` produces (`S`, with the `range` fact), equal renderings
    force equal texts or — only inside the rewritten class — equal denotation. -/
theorem go_injective (S : Str → Prop) (hf : ReprFacts S) (s1 s2 : Str) (h1 : ReprText s1) (h2 : ReprText s2)
    (m1 : S s1) (m2 : S s2) (heq : floatToGoString s1 = floatToGoString s2) : s1 = s2 ∨ SameDenotation s1 s2 := by
  rcases render_injective s1 s2 h1 h2 heq with h | h | ⟨e1, e2⟩ | ⟨e1, e2⟩
  · exact Or.inl h
  · exact Or.inr h
  · exact Or.inl (hf.range s1 s2 m1 m2 e1 e2)
  · exact Or.inl (hf.range s2 s1 m2 m1 e1 e2).symm

/-- **go_injective_texts.**  With both `repr` facts: distinct `repr` texts never share a rendering (and `repr` being
    injective on doubles — `float(repr(d)) == d`, trusted — distinct floats never do). -/
theorem go_injective_texts (S : Str → Prop) (hf : ReprFacts S) (s1 s2 : Str) (h1 : ReprText s1) (h2 : ReprText s2)
    (m1 : S s1) (m2 : S s2) (heq : floatToGoString s1 = floatToGoString s2) : s1 = s2 := by
  rcases go_injective S hf s1 s2 h1 h2 m1 m2 heq with h | h
  · exact h
  · exact hf.shortest s1 s2 m1 m2 h

/-! ### non-vacuity -/

example : ReprText "1.5".toList := by
  rw [String.toList_ofList]
  exact ReprText.small ['1'] ['5'] ⟨by decide, by decide, by decide, by decide, by decide⟩ (by decide)
example : ReprText "12345678.25".toList := by
  rw [String.toList_ofList]
  exact ReprText.big '1' ['2', '3', '4', '5', '6', '7', '8'] ['2', '5']
    ⟨by decide, by decide, by decide, by decide, by decide⟩ (by decide)
example : ReprText "1e+16".toList := by
  rw [String.toList_ofList]
  exact ReprText.exp _ ⟨⟨'1', [], ['+', '1', '6'], by decide, by decide, by decide, Or.inl rfl⟩⟩
example : ReprText "inf".toList := by
  rw [String.toList_ofList]
  exact ReprText.inf
example : ReprText "-2.5".toList := by
  rw [String.toList_ofList]
  exact ReprText.neg '2' ['.', '5'] (by decide)

/-- `ReprFacts` is satisfiable (a set with one text), and `go_injective_texts` applies -/
example : ReprFacts (fun s => s = "12345678.25".toList) :=
  ⟨fun _ _ hs ht _ => hs.trans ht.symm, fun _ _ hs ht _ _ => hs.trans ht.symm⟩

/-- the renderings of the five sample texts are pairwise different, as the theorem predicts -/
example : floatToGoString "1.5".toList = "1.5".toList ∧
    floatToGoString "1e+16".toList = "1e+16".toList ∧
    floatToGoString "inf".toList = "+Inf".toList ∧
    floatToGoString "-2.5".toList = "-2.5".toList := by
  repeat rw [String.toList_ofList]
  decide +kernel
example : floatToGoString "12345678.25".toList = "1.234567825e+07".toList := by
  repeat rw [String.toList_ofList]
  exact (go_big '1' ['2', '3', '4', '5', '6', '7', '8'] ['2', '5']
    ⟨by decide, by decide, by decide, by decide, by decide⟩ (by decide)).trans (by decide +kernel)

end PromVerif.Props.C13Injective
