/-
C04: `_parse_remaining_text` — the character state machine — on what the exposition writes after the name / label block:
`value[ timestamp][ # {labels} value[ timestamp]]`.

The machine flips its in-quotes flag on every double quote that is not preceded by an unescaped backslash (since bc8d08a; before,
on EVERY double quote: finding F18), and it skips every character while the flag is set.  In state `exemplarparsedlabels` it
follows exactly the quote/backslash automaton of `_next_unquoted_char` (`Scanner.run`); a rendered exemplar label block is a
text that automaton passes without meeting a '}' outside quotes (`ExPass`).  First the loop on the pieces of the text, then
the token level (which state the machine ends in), then `remFinish` on that state.
-/
import PromVerif.Lemmas.OMRtLabels
import PromVerif.Lemmas.OMRtTs

set_option autoImplicit false

namespace PromVerif.Lemmas.OMRt
open PromVerif.Py PromVerif.Model PromVerif.Model.Escape PromVerif.Model.ParseCore PromVerif.Model.Validation
open PromVerif.Model.OMParse PromVerif.Spec.OMRoundtrip PromVerif.Lemmas.Escape PromVerif.Lemmas.Scanner
open PromVerif.Lemmas.TextParse PromVerif.Model.TextExpo

theorem pyBound_nat (len n : Nat) : pyBound len (n : Int) = min n len := by
  unfold pyBound
  have : ¬ ((n : Int) < 0) := by omega
  simp [this]

theorem pyFrom_nat (s : Str) (n : Nat) : pyFrom s (n : Int) = s.drop n := by
  rw [pyFrom, pyBound_nat, ← List.drop_eq_drop_min]

theorem pySlice_nat (s : Str) (a b : Nat) (hb : b ≤ s.length) : pySlice s (a : Int) (b : Int) = (s.take b).drop a := by
  rw [pySlice, pyBound_nat, pyBound_nat, Nat.min_eq_left hb]
  by_cases h : a ≤ s.length
  · rw [Nat.min_eq_left h]
  · rw [Nat.min_eq_right (by omega), List.drop_of_length_le (by simp; omega), List.drop_of_length_le (by simp; omega)]

theorem pySlice_left (a b : Str) : pySlice (a ++ b) 0 (a.length : Int) = a := by
  rw [show (0 : Int) = ((0 : Nat) : Int) from rfl, pySlice_nat _ _ _ (by simp), List.take_left]
  rfl

theorem pySlice_mid (a sep m b : Str) :
    pySlice (a ++ sep ++ m ++ b) ((a.length : Int) + (sep.length : Int)) ((a ++ sep ++ m).length : Int) = m := by
  rw [← Int.natCast_add, pySlice_nat _ _ _ (by simp), List.take_left, ← List.length_append]
  exact List.drop_left

theorem pyFrom_right (a sep b : Str) : pyFrom (a ++ sep ++ b) ((a.length : Int) + (sep.length : Int)) = b := by
  rw [← Int.natCast_add, pyFrom_nat, ← List.length_append]
  exact List.drop_left

theorem escFlags_append (a b : Str) : ∀ (i : Nat) (odd : Bool),
    escFlags (a ++ b) i odd = escFlags a i odd ++ escFlags b (i + a.length) (a.foldl bsStep odd) := by
  induction a with
  | nil => intro i odd; simp [escFlags]
  | cons c cs ih =>
    intro i odd
    simp only [List.cons_append, escFlags, ih, List.length_cons, List.foldl_cons]
    congr 3; omega

theorem escFlags_index (b : Str) : ∀ (i : Nat) (odd : Bool) (x : Nat × Char × Bool), x ∈ escFlags b i odd → i ≤ x.1 ∧ x.2.1 ∈ b := by
  induction b with
  | nil => intro i odd x hx; simp [escFlags] at hx
  | cons c cs ih =>
    intro i odd x hx
    simp only [escFlags, List.mem_cons] at hx
    rcases hx with h | h
    · subst h; simp
    · have := ih (i + 1) _ x h
      exact ⟨by omega, by simp [this.2]⟩

theorem lastGo_skip (chs : Char → Bool) : ∀ (l rest : List (Nat × Char × Bool)),
    (∀ x ∈ l, x.1 ≠ 0 ∧ x.2.1 ≠ '"' ∧ chs x.2.1 = false) →
    lastUnquotedChar.go chs (l ++ rest) false = lastUnquotedChar.go chs rest false := by
  intro l
  induction l with
  | nil => intro rest _; rfl
  | cons x xs ih =>
    intro rest h
    obtain ⟨i, c, esc⟩ := x
    obtain ⟨h1, h2, h3⟩ := h (i, c, esc) (by simp)
    have e1 : (i == 0) = false := by simpa using h1
    have e2 : (c == '"') = false := by simpa using h2
    rw [List.cons_append, lastUnquotedChar.go]
    simp only [e1, Bool.false_eq_true, ↓reduceIte, e2, Bool.false_and, h3, Bool.and_false]
    exact ih rest (List.forall_mem_cons.mp h).2

theorem lastUnquotedChar_tail (chs : Char → Bool) (a b : Str) (c : Char) (ha : a ≠ []) (hc : chs c = true) (hcq : c ≠ '"')
    (hb : ∀ d ∈ b, d ≠ '"' ∧ chs d = false) :
    lastUnquotedChar (a ++ c :: b) chs = some a.length := by
  unfold lastUnquotedChar
  rw [escFlags_append]
  simp only [escFlags, Nat.zero_add, List.reverse_append, List.reverse_cons, List.append_assoc, List.singleton_append]
  rw [lastGo_skip]
  · rw [lastUnquotedChar.go]
    have e1 : (a.length == 0) = false := by
      have := List.length_pos_iff.mpr ha
      simp; omega
    have e2 : (c == '"') = false := by simpa using hcq
    simp [e1, e2, hc]
  · intro x hx
    have hx' := List.mem_reverse.mp hx
    have := escFlags_index b _ _ x hx'
    refine ⟨by omega, (hb _ this.2).1, (hb _ this.2).2⟩

theorem remLoop_append (P : Params) (text : Str) : ∀ {s : Str} {a a' : RAcc} (t : Str), remLoop P text a s = .ok a' →
    remLoop P text a (s ++ t) = remLoop P text a' t := by
  intro s
  induction s with
  | nil => intro a a' t h; cases h; rfl
  | cons c cs ih =>
    intro a a' t h
    rw [remLoop] at h
    rw [List.cons_append, remLoop]
    cases hs : remStep P text a c with
    | error e => rw [hs] at h; cases h
    | ok a1 => rw [hs] at h; exact ih t h

theorem remEscape_on : Generated.OMParse.remEscapeAware = true := by decide

/-- characters of a number token as the machine sees them: no quote, backslash, blank or hash -/
def TsChars (s : Str) : Prop := ∀ c ∈ s, c ≠ '"' ∧ c ≠ ' ' ∧ c ≠ '#' ∧ c ≠ '\\'

theorem tsChars_numTok {t : Str} (h : NumTok t) : TsChars t := fun c hc =>
  ⟨numChar_ne (h.2 c hc) (by decide), numChar_ne (h.2 c hc) (by decide), numChar_ne (h.2 c hc) (by decide),
   numChar_ne (h.2 c hc) (by decide)⟩

theorem remLoop_token (P : Params) (text : Str) : ∀ (s : Str), TsChars s → ∀ (ts ev et : Str) (el : Option Labels),
    remLoop P text ⟨.timestamp, false, false, ts, ev, et, el⟩ s = .ok ⟨.timestamp, false, false, s.reverse ++ ts, ev, et, el⟩ ∧
    remLoop P text ⟨.exemplarvalue, false, false, ts, ev, et, el⟩ s =
      .ok ⟨.exemplarvalue, false, false, ts, s.reverse ++ ev, et, el⟩ ∧
    remLoop P text ⟨.exemplartimestamp, false, false, ts, ev, et, el⟩ s =
      .ok ⟨.exemplartimestamp, false, false, ts, ev, s.reverse ++ et, el⟩ := by
  intro s
  induction s with
  | nil => intro _ ts ev et el; exact ⟨rfl, rfl, rfl⟩
  | cons c cs ih =>
    intro h ts ev et el
    obtain ⟨h1, h2, h3, h4⟩ := h c (by simp)
    have e1 : (c == '"') = false := by simpa using h1
    have e2 : (c == ' ') = false := by simpa using h2
    have e3 : (c == '#') = false := by simpa using h3
    have e4 : (c == '\\') = false := by simpa using h4
    have ih' := ih (List.forall_mem_cons.mp h).2
    refine ⟨?_, ?_, ?_⟩
    · rw [remLoop]
      simp only [remStep, e1, e2, e3, e4, Bool.false_eq_true, ↓reduceIte, Bool.false_and]
      rw [(ih' _ _ _ _).1]; simp
    · rw [remLoop]
      simp only [remStep, e1, e2, e4, Bool.false_eq_true, ↓reduceIte, Bool.false_and]
      rw [(ih' _ _ _ _).2.1]; simp
    · rw [remLoop]
      simp only [remStep, e1, e4, Bool.false_eq_true, ↓reduceIte, Bool.false_and]
      rw [(ih' _ _ _ _).2.2]; simp

/-- in state `exemplarparsedlabels` the machine (escape-aware since bc8d08a) follows exactly the quote/backslash automaton of
`_next_unquoted_char` (`Scanner.run`) and leaves the state at the first '}' outside quotes: a text without one (`noHit`) is
passed -/
theorem remLoop_parsedlabels (P : Params) (text : Str) : ∀ (s : Str) (q o : Bool), noHit rbChs s q o = true →
    ∀ (ts ev et : Str) (el : Option Labels),
    remLoop P text ⟨.exemplarparsedlabels, q, o, ts, ev, et, el⟩ s =
      .ok ⟨.exemplarparsedlabels, (Scanner.run s q o).1, (Scanner.run s q o).2, ts, ev, et, el⟩ := by
  intro s
  induction s with
  | nil => intro q o _ ts ev et el; rfl
  | cons c cs ih =>
    intro q o h ts ev et el
    simp only [noHit, Bool.and_eq_true, Bool.not_eq_true', Bool.and_eq_false_iff, Bool.not_eq_false'] at h
    rw [remLoop, Scanner.run]
    have hq : (if c == '"' && !(Generated.OMParse.remEscapeAware && o) then !q else q) = qStep q o c := by
      simp [remEscape_on, qStep]
    have ho : (c == '\\' && !o) = bsStep o c := by
      unfold bsStep; by_cases hc : (c == '\\') = true <;> simp [hc]
    cases hqs : qStep q o c with
    | true =>
      simp only [remStep, hq, hqs, ho, ↓reduceIte]
      exact ih true _ (by rw [hqs] at h; exact h.2) ts ev et el
    | false =>
      have hne : (c == '}') = false := by
        rcases h.1 with h1 | h1
        · rw [hqs] at h1; cases h1
        · simpa [rbChs] using h1
      simp only [remStep, hq, hqs, ho, Bool.false_eq_true, ↓reduceIte, hne]
      exact ih false _ (by rw [hqs] at h; exact h.2) ts ev et el

/-- the scanner passes the text without meeting a '}' outside quotes and ends where it started -/
def ExPass (s : Str) : Prop := Pass rbChs s

/-- the rendered label block of an (already ordered) item list: items joined by ',' -/
def exBlock : List (Str × Str) → Str
  | [] => []
  | kv :: r => labelItem kv ++ tailStr r

/-- ` token` or nothing -/
def optTok : Option Str → Str
  | none => []
  | some t => ' ' :: t

/-- `# {labels} value[ timestamp]` -/
def exTail (L : List (Str × Str)) (etok : Str) (ets : Option Str) : Str :=
  '#' :: ' ' :: '{' :: (exBlock L ++ '}' :: ' ' :: (etok ++ optTok ets))

/-- what precedes the exemplar in the text the machine runs over: nothing, or `timestamp ` -/
def tsPre : Option Str → Str
  | none => []
  | some t => t ++ [' ']

theorem exPass_block {legacy : Bool} (L : List (Str × Str)) (h : ∀ kv ∈ L, labelNameOK legacy kv.1 = true) : ExPass (exBlock L) := by
  cases L with
  | nil => exact ⟨rfl, rfl⟩
  | cons kv r =>
    exact pass_append (item_pass rbChs_safe (by decide) (h kv (by simp)))
      (tail_pass rbChs_safe (by decide) (by decide) r (List.forall_mem_cons.mp h).2)

theorem parseLabels_block {legacy : Bool} (L : List (Str × Str)) (hok : ∀ x ∈ L, labelNameOK legacy x.1 = true)
    (hnd : (L.map (·.1)).Nodup) : parseLabels legacy (exBlock L) true = .ok L := by
  cases L with
  | nil => rfl
  | cons kv r => exact parseLabels_om_items kv r hok hnd

def lbChs : Char → Bool := (· == '{')

theorem plainFor_tschars {chs : Char → Bool} {t : Str} (h : NumTok t) (hc : ∀ c, Lemmas.TextParse.isNumChar c = true → chs c = false) :
    PlainFor chs t := fun c hm =>
  ⟨numChar_ne (h.2 c hm) (by decide), numChar_ne (h.2 c hm) (by decide), hc c (h.2 c hm)⟩

theorem plainFor_valts {chs : Char → Bool} (hsp : chs ' ' = false) (hn : ∀ c, Lemmas.TextParse.isNumChar c = true → chs c = false)
    {vtok : Str} (hv : NumTok vtok) (ts : Option Str) (hts : ∀ t, ts = some t → NumTok t) : PlainFor chs (vtok ++ optTok ts) := by
  have hnum : ∀ t, NumTok t → PlainFor chs t := fun t ht => plainFor_tschars ht hn
  cases ts with
  | none => simpa [optTok] using hnum vtok hv
  | some t =>
    refine plainFor_append (hnum vtok hv) ?_
    intro c hc
    simp only [optTok, List.mem_cons] at hc
    rcases hc with h | h
    · subst h; exact ⟨by decide, by decide, hsp⟩
    · exact hnum t (hts t rfl) c h

theorem numChar_eq_false {c d : Char} (h : Lemmas.TextParse.isNumChar c = true) (hd : Lemmas.TextParse.isNumChar d = false) :
    (c == d) = false := by
  simpa using numChar_ne h hd

theorem pass_tsPre (ts : Option Str) (hts : ∀ t, ts = some t → NumTok t) : Pass lbChs (tsPre ts ++ ['#', ' ']) := by
  have h2 : Pass lbChs ['#', ' '] := pass_plain (by unfold PlainFor; decide)
  cases ts with
  | none => simpa [tsPre] using h2
  | some t =>
    have h1 : Pass lbChs t := pass_plain (plainFor_tschars (hts t rfl) (fun c hc => numChar_eq_false hc (by decide)))
    have h3 : Pass lbChs [' '] := pass_plain (by unfold PlainFor; decide)
    simpa [tsPre] using pass_append (pass_append h1 h3) h2

/-- the exemplar's labels are cut out of the WHOLE text: first unquoted '{' … last unquoted '}' -/
theorem exemplarLabels_braced (P : Params) (A B C : Str) (hA : Pass lbChs A) (hC : PlainFor rbChs C) :
    exemplarLabels P (A ++ ['{'] ++ B ++ '}' :: C) = parseLabels P.legacy B true := by
  have hls : nextUnquotedChar (A ++ ['{'] ++ B ++ '}' :: C) (· == '{') = some A.length := by
    rw [show A ++ ['{'] ++ B ++ '}' :: C = A ++ '{' :: (B ++ '}' :: C) by simp]
    exact scan_pass_hit hA '{' _ (by decide) (by decide)
  have hle : lastUnquotedChar (A ++ ['{'] ++ B ++ '}' :: C) (· == '}') = some (A ++ ['{'] ++ B).length :=
    lastUnquotedChar_tail _ _ _ '}' (by simp) (by decide) (by decide) (fun d hd => ⟨(hC d hd).1, (hC d hd).2.2⟩)
  unfold exemplarLabels
  rw [hls, hle]
  simp only [optIdx, Int.ofNat_eq_natCast]
  exact congrArg (fun b => parseLabels P.legacy b true) (pySlice_mid A ['{'] B ('}' :: C))

/-- the reversed text of an optional token (the loop keeps its character lists reversed) -/
def revOpt (o : Option Str) : Str := (o.getD []).reverse

/-- the state the machine ends in: with or without an exemplar timestamp -/
def exState : Option Str → RState
  | none => .exemplarvalue
  | some _ => .exemplartimestamp

theorem remLoop_lbrace (P : Params) (text : Str) (Lp : List (Str × Str)) (hel : exemplarLabels P text = .ok Lp) (ts : Str) :
    remLoop P text ⟨.exemplarstartoflabels, false, false, ts, [], [], none⟩ ['{'] =
      .ok ⟨.exemplarparsedlabels, false, false, ts, [], [], some Lp⟩ := by
  simp [remLoop, remStep, hel]

theorem remLoop_upto_brace (P : Params) (text : Str) (Lp : List (Str × Str)) (hel : exemplarLabels P text = .ok Lp)
    (ts : Option Str) (hts : ∀ t, ts = some t → NumTok t) :
    remLoop P text {} (tsPre ts ++ ['#', ' ', '{']) = .ok ⟨.exemplarparsedlabels, false, false, revOpt ts, [], [], some Lp⟩ := by
  cases ts with
  | none =>
    have h : remLoop P text {} ['#', ' '] = .ok ⟨.exemplarstartoflabels, false, false, [], [], [], none⟩ := rfl
    rw [show tsPre none ++ ['#', ' ', '{'] = ['#', ' '] ++ ['{'] from rfl, remLoop_append P text _ h]
    exact remLoop_lbrace P text Lp hel []
  | some t =>
    have h1 := (remLoop_token P text t (tsChars_numTok (hts t rfl)) [] [] [] none).1
    rw [List.append_nil] at h1
    have h2 : remLoop P text ⟨.timestamp, false, false, t.reverse, [], [], none⟩ [' ', '#', ' '] =
        .ok ⟨.exemplarstartoflabels, false, false, t.reverse, [], [], none⟩ := rfl
    rw [show tsPre (some t) ++ ['#', ' ', '{'] = t ++ ([' ', '#', ' '] ++ ['{']) by simp [tsPre], remLoop_append P text _ h1,
      remLoop_append P text _ h2]
    exact remLoop_lbrace P text Lp hel _

theorem remLoop_after_brace (P : Params) (text : Str) (Lp : List (Str × Str)) (T : Str) (L : List (Str × Str))
    (hpass : ExPass (exBlock L)) (etok : Str) (hetok : NumTok etok) (ets : Option Str) (hets : ∀ t, ets = some t → NumTok t) :
    remLoop P text ⟨.exemplarparsedlabels, false, false, T, [], [], some Lp⟩ (exBlock L ++ '}' :: ' ' :: (etok ++ optTok ets)) =
      .ok ⟨exState ets, false, false, T, etok.reverse, revOpt ets, some Lp⟩ := by
  have h0 := remLoop_parsedlabels P text _ false false hpass.1 T [] [] (some Lp)
  rw [hpass.2] at h0
  have h1 : remLoop P text ⟨.exemplarparsedlabels, false, false, T, [], [], some Lp⟩ ['}', ' '] =
      .ok ⟨.exemplarvalue, false, false, T, [], [], some Lp⟩ := rfl
  have h2 := (remLoop_token P text etok (tsChars_numTok hetok) T [] [] (some Lp)).2.1
  rw [remLoop_append P text _ h0, show '}' :: ' ' :: (etok ++ optTok ets) = ['}', ' '] ++ (etok ++ optTok ets) from rfl,
    remLoop_append P text _ h1, remLoop_append P text _ h2, List.append_nil]
  cases ets with
  | none => rfl
  | some t =>
    obtain ⟨c, E, hE⟩ := List.exists_cons_of_ne_nil (mt List.reverse_eq_nil_iff.mp hetok.1)
    have h3 : remLoop P text ⟨.exemplarvalue, false, false, T, c :: E, [], some Lp⟩ [' '] =
        .ok ⟨.exemplartimestamp, false, false, T, c :: E, [], some Lp⟩ := rfl
    rw [show optTok (some t) = [' '] ++ t from rfl, hE, remLoop_append P text _ h3,
      (remLoop_token P text t (tsChars_numTok (hets t rfl)) _ _ _ _).2.2, List.append_nil]
    rfl

/-- the remainder of a sample line at token level: `value[ ts][ # {labels} value[ ts]]` -/
def remText (vtok : Str) (ts : Option Str) (ex : Option (List (Str × Str) × Str × Option Str)) : Str :=
  vtok ++ optTok ts ++ (match ex with
    | none => []
    | some x => ' ' :: exTail x.1 x.2.1 x.2.2)

theorem space_not_mem_numTok {t : Str} (h : NumTok t) : ' ' ∉ t := numTok_not_mem h (d := ' ') (by decide)

theorem parseRemaining_ex (P : Params) (vtok : Str) (hv : NumTok vtok) (ts : Option Str) (hts : ∀ t, ts = some t → NumTok t)
    (L Lp : List (Str × Str)) (hpass : ExPass (exBlock L)) (etok : Str) (hetok : NumTok etok) (ets : Option Str)
    (hets : ∀ t, ets = some t → NumTok t) (hlab : parseLabels P.legacy (exBlock L) true = .ok Lp) :
    parseRemainingText P (remText vtok ts (some (L, etok, ets))) =
      (match P.parseValue vtok with
       | .ok val => remFinish P val ⟨exState ets, false, false, revOpt ts, etok.reverse, revOpt ets, some Lp⟩
       | .error e => .error e) := by
  have hshape : remText vtok ts (some (L, etok, ets)) = vtok ++ ' ' :: (tsPre ts ++ exTail L etok ets) := by
    cases ts <;> simp [remText, optTok, tsPre]
  -- the machine over `[timestamp ]# {labels} value[ timestamp]`: up to the '{', where it stores the labels, and after it
  have hel : exemplarLabels P (tsPre ts ++ exTail L etok ets) = .ok Lp := by
    have hC : PlainFor rbChs (' ' :: (etok ++ optTok ets)) :=
      plainFor_append (plainFor_sp (by decide) true)
        (plainFor_valts (by decide) (fun c h => numChar_eq_false h (by decide)) hetok ets hets)
    have := exemplarLabels_braced P (tsPre ts ++ ['#', ' ']) (exBlock L) _ (pass_tsPre ts hts) hC
    rw [hlab] at this
    simpa [exTail] using this
  have hloop := remLoop_after_brace P (tsPre ts ++ exTail L etok ets) Lp (revOpt ts) L hpass etok hetok ets hets
  rw [← remLoop_append P _ _ (remLoop_upto_brace P _ Lp hel ts hts),
    show tsPre ts ++ ['#', ' ', '{'] ++ (exBlock L ++ '}' :: ' ' :: (etok ++ optTok ets)) = tsPre ts ++ exTail L etok ets by
      simp [exTail]] at hloop
  unfold parseRemainingText
  rw [hshape]
  simp only [splitFirst_append_of_not_mem (space_not_mem_numTok hv), bind, Except.bind]
  cases P.parseValue vtok with
  | error e => rfl
  | ok val => simp only [hloop]

theorem parseRemaining_noex (P : Params) (vtok : Str) (hv : NumTok vtok) (ts : Option Str) (hts : ∀ t, ts = some t → NumTok t) :
    parseRemainingText P (remText vtok ts none) =
      (match P.parseValue vtok with
       | .error e => .error e
       | .ok val =>
         match parseTimestamp P (ts.getD []) with
         | .error e => .error e
         | .ok o => .ok (val, o, none)) := by
  unfold parseRemainingText remText
  cases ts with
  | none =>
    simp only [optTok, List.append_nil, splitFirst_of_not_mem (space_not_mem_numTok hv), bind, Except.bind]
    cases P.parseValue vtok <;> rfl
  | some t =>
    have hne : t.reverse.isEmpty = false := by simpa using (hts t rfl).1
    simp only [optTok, List.append_nil, splitFirst_append_of_not_mem (space_not_mem_numTok hv), bind, Except.bind]
    cases P.parseValue vtok with
    | error e => rfl
    | ok val =>
      simp only []
      rw [show ({} : RAcc) = ⟨.timestamp, false, false, [], [], [], none⟩ from rfl,
        (remLoop_token P t t (tsChars_numTok (hts t rfl)) [] [] [] none).1]
      simp [remFinish, runChecks, raiseIf, hne]
      cases parseTimestamp P t <;> rfl

theorem exState_checks (ets : Option Str) (hets : ∀ t, ets = some t → t ≠ []) :
    (exState ets == RState.timestamp) = false ∧ (exState ets == RState.exemplartimestamp && (revOpt ets).isEmpty) = false ∧
    (exState ets == RState.exemplarhash || exState ets == RState.exemplarspace || exState ets == RState.exemplarstartoflabels
      || exState ets == RState.exemplarparsedlabels) = false := by
  cases ets with
  | none => exact ⟨rfl, rfl, rfl⟩
  | some t =>
    exact ⟨rfl, by simpa [exState, revOpt] using hets t rfl, rfl⟩

/-- the total length of names and values -/
def labelsLen (ls : List (Str × Str)) : Nat := (ls.map (fun kv => kv.1.length + kv.2.length)).sum

theorem remFinish_ex (P : Params) (val : Num) (ts : Option Str) (etok : Str) (ets : Option Str) (hets : ∀ t, ets = some t → t ≠ [])
    (Lp : List (Str × Str)) (hlen : labelsLen Lp ≤ 128) :
    remFinish P val ⟨exState ets, false, false, revOpt ts, etok.reverse, revOpt ets, some Lp⟩ =
      (match parseTimestamp P (ts.getD []) with
       | .error e => .error e
       | .ok ots =>
         match P.parseValue etok with
         | .error e => .error e
         | .ok ev =>
           match parseTimestamp P (ets.getD []) with
           | .error e => .error e
           | .ok oets => .ok (val, ots, some ⟨Lp, ev, oets⟩)) := by
  obtain ⟨c1, c2, c3⟩ := exState_checks ets hets
  have hcmp : natCmp Generated.OMParse.exemplarLenCmp ((Lp.map (fun kv => kv.1.length + kv.2.length)).sum)
      Generated.OMParse.exemplarMaxLen = false := by
    have : ¬ (labelsLen Lp > 128) := by omega
    simpa [natCmp, Generated.OMParse.exemplarLenCmp, Generated.OMParse.exemplarMaxLen, labelsLen] using this
  unfold remFinish
  simp only [runChecks, raiseIf, c1, c2, c3, Bool.false_and, Bool.false_eq_true, ↓reduceIte]
  simp only [revOpt, List.reverse_reverse]
  cases parseTimestamp P (ts.getD []) with
  | error e => rfl
  | ok ots =>
    simp only [remExemplar, hcmp, Bool.false_eq_true, ↓reduceIte, List.reverse_reverse]
    cases P.parseValue etok with
    | error e => rfl
    | ok ev =>
      cases parseTimestamp P (ets.getD []) <;> rfl

end PromVerif.Lemmas.OMRt
