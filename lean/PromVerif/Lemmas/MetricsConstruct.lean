/-
What the constructors guarantee.  `Histogram._prepare_buckets` returns bounds that are
sorted by `<=`, end in `+Inf` and are at least two — for bounds WITHOUT NaN.  (With a NaN bound the real check
`buckets != sorted(buckets)` is blind: `sorted` cannot order around a NaN and list equality compares identical objects
by identity, so `Histogram(buckets=[2.0, nan, 1.0])` is accepted by the library; NaN bounds are outside the property's
"sorted bucket layouts" and outside this model, whose `sortedAdjacent` is the check for NaN-free lists.)
-/
import PromVerif.Lemmas.MetricsCollect

namespace PromVerif.Lemmas.Metrics
open PromVerif.Py PromVerif.Model.Metrics PromVerif.Generated.Metrics

variable {V : Type} [Val V]

/-- the IEEE facts about `+Inf` the constructor theorem uses: every value that is `<=` itself (not NaN) is `<= +Inf`;
only `+Inf` is `== +Inf` -/
structure InfLaws (V : Type) [Val V] : Prop where
  le_inf : ∀ x : V, Val.le x x = true → Val.le x Val.inf = true
  beq_inf : ∀ x : V, Val.beq x Val.inf = true → x = Val.inf

theorem sortedAdjacent_pairwise (htr : LeTrans V) :
    ∀ l : List V, sortedAdjacent l = true → l.Pairwise (fun x y => Val.le x y = true)
  | [], _ => List.Pairwise.nil
  | [a], _ => by simp
  | a :: b :: rest, h => by
    simp only [sortedAdjacent, Bool.and_eq_true] at h
    have ih := sortedAdjacent_pairwise htr (b :: rest) h.2
    exact List.Pairwise.cons
      (List.forall_mem_cons.mpr ⟨h.1, fun x hx => htr a b x h.1 ((List.pairwise_cons.mp ih).1 x hx)⟩) ih

theorem prepareBuckets_ok (htr : LeTrans V) (hl : InfLaws V) (bs bounds : List (V × Str))
    (hnn : ∀ b ∈ bs, Val.le b.1 b.1 = true) (h : prepareBuckets bs = .ok bounds) :
    (bounds.map (·.1)).Pairwise (fun x y => Val.le x y = true) ∧ (bounds.map (·.1)).getLast? = some Val.inf ∧
      2 ≤ bounds.length := by
  unfold prepareBuckets at h
  split at h
  · simp at h
  · next hs =>
    have hp := sortedAdjacent_pairwise htr _ (by simpa using hs)
    cases hlast : bs.getLast? with
    | none =>
      rw [List.getLast?_eq_none_iff.mp hlast] at h
      cases h
    | some l =>
      simp only [hlast] at h
      cases hb : Val.beq l.1 Val.inf with
      | true =>
        simp only [hb, Bool.not_true, Bool.false_eq_true, if_false] at h
        split at h
        · cases h
        · cases h
          refine ⟨hp, ?_, by omega⟩
          rw [List.getLast?_map, hlast, Option.map_some, hl.beq_inf l.1 hb]
      | false =>
        simp only [hb, Bool.not_false, if_true] at h
        split at h
        · cases h
        · cases h
          refine ⟨?_, by simp, by omega⟩
          rw [List.map_append, List.pairwise_append]
          refine ⟨hp, List.pairwise_singleton _ _, fun x hx y hy => ?_⟩
          obtain ⟨b, hb1, rfl⟩ := List.mem_map.mp hx
          rw [List.mem_singleton.mp hy]
          exact hl.le_inf _ (hnn b hb1)

/-- what the caller must supply beyond what the constructors check: no NaN among the histogram bounds, pairwise
distinct enum states (the library accepts a repeated state and exposes it twice) -/
def InputsOK (d : Decl V) : Prop :=
  match d.kind with
  | .histogram bs => ∀ b ∈ bs, Val.le b.1 b.1 = true
  | .enum states => states.Nodup
  | _ => True

/-! The constructor is a `do` block: one step that prepares the kind, then checks run for their exceptions only, then
`pure`.  Three facts peel a successful run down to that `pure`. -/

theorem ok_of_bind {α β : Type} {x : PyM α} {y : PyM β} {b : β} (h : (x >>= fun _ => y) = .ok b) : y = .ok b := by
  cases x
  · cases h
  · exact h

theorem ok_of_guard {α β : Type} {c : Prop} [Decidable c] {e : PyErr} {f : α → PyM β} {y : PyM β} {b : β}
    (h : (if c then throw e >>= f else y) = .ok b) : y = .ok b := by
  split at h
  · cases h
  · exact h

theorem ok_of_map_bind {α β γ : Type} {x : PyM α} {g : α → γ} {f : γ → PyM β} {b : β}
    (h : (Except.map g x >>= f) = .ok b) : ∃ a, x = .ok a ∧ f (g a) = .ok b := by
  cases x
  · cases h
  · exact ⟨_, rfl, h⟩

theorem construct_shape (legacy : Bool) (d d' : Decl V) (h : construct legacy d = .ok d') :
    d'.name = d.name ∧ d'.labelnames = d.labelnames ∧
      (match d.kind with
        | .histogram bs => ∃ bounds, prepareBuckets bs = .ok bounds ∧ d'.kind = .histogram bounds
        | k => d'.kind = k) := by
  obtain ⟨name, kind, ln⟩ := d
  -- with the kind known `construct` computes to: [prepare;] name check; two validations; [two Enum checks;] `pure`
  cases kind with
  | histogram bs =>
    obtain ⟨bounds, hp, h⟩ := ok_of_map_bind h
    cases ok_of_bind (ok_of_bind (ok_of_guard h))
    exact ⟨rfl, rfl, bounds, hp, rfl⟩
  | enum states =>
    cases ok_of_guard (ok_of_guard (ok_of_bind (ok_of_bind (ok_of_guard h))))
    exact ⟨rfl, rfl, rfl⟩
  | _ =>
    cases ok_of_bind (ok_of_bind (ok_of_guard h))
    exact ⟨rfl, rfl, rfl⟩

theorem construct_good (htr : LeTrans V) (hl : InfLaws V) (legacy : Bool) (d d' : Decl V)
    (hin : InputsOK d) (h : construct legacy d = .ok d') : GoodDecl d' := by
  obtain ⟨_, _, hk⟩ := construct_shape legacy d d' h
  obtain ⟨name, kind, ln⟩ := d
  unfold GoodDecl
  cases kind with
  | histogram bs =>
    obtain ⟨bounds, hp, hk'⟩ := hk
    rw [hk']
    exact (prepareBuckets_ok htr hl bs bounds hin hp).1
  | enum states =>
    rw [show d'.kind = .enum states from hk]
    exact hin
  | _ =>
    rw [show d'.kind = _ from hk]
    trivial

end PromVerif.Lemmas.Metrics
