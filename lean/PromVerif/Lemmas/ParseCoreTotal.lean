/-
What can escape from the scanning core shared by the two parsers (`Model/ParseCore.lean`): `Safe r` says that `r` ends in
a value or in ValueError.  Facts about `str.strip`, `_unquote_unescape`, `_parse_value`, the name validators and the body
of the label loop after `_next_term`; nothing here depends on which parser calls them.
-/
import PromVerif.Lemmas.Str
import PromVerif.Model.ParseCore

namespace PromVerif.Lemmas.TextParse
open PromVerif.Py

theorem lstrip_of_head {s : Str} {a : Char} (h : s.head? = some a) (ha : isPySpace a = false) : lstrip s = s := by
  cases s with
  | nil => rfl
  | cons c cs =>
    simp at h; subst h
    simp [lstrip, lstripSet, List.dropWhile, ha]

theorem rstrip_of_last {s : Str} {b : Char} (h : s.getLast? = some b) (hb : isPySpace b = false) : rstrip s = s :=
  rstripSet_of_last _ _ (fun c hc => by rw [h] at hc; cases hc; exact hb)

theorem strip_of_head {s : Str} {a : Char} (h : s.head? = some a) (ha : isPySpace a = false) : strip s = rstrip s := by
  have e1 : lstripSet isPySpace s = s := lstrip_of_head h ha
  unfold strip stripSet rstrip
  rw [e1]

theorem strip_eq_self {s : Str} {a b : Char} (h1 : s.head? = some a) (ha : isPySpace a = false)
    (h2 : s.getLast? = some b) (hb : isPySpace b = false) : strip s = s := by
  rw [strip_of_head h1 ha]
  exact rstrip_of_last h2 hb

theorem strip_line {s : Str} {a b : Char} (h1 : s.head? = some a) (ha : isPySpace a = false)
    (h2 : s.getLast? = some b) (hb : isPySpace b = false) : strip (s ++ ['\n']) = s := by
  rw [strip_of_head (a := a) (by rw [List.head?_append, h1]; rfl) ha]
  unfold rstrip
  rw [rstripSet_append_of_eq_nil _ _ _ (by decide)]
  exact rstrip_of_last h2 hb

theorem strip_nil : strip [] = [] := rfl

theorem last_not_space {s : Str} (hne : s ≠ []) (h : ∀ c ∈ s, isPySpace c = false) :
    ∃ b, s.getLast? = some b ∧ isPySpace b = false := by
  cases hl : s.getLast? with
  | none => exact absurd (List.getLast?_eq_none_iff.mp hl) hne
  | some b => exact ⟨b, rfl, h b (List.mem_of_getLast? hl)⟩

theorem strip_of_not_space {s : Str} (h : ∀ c ∈ s, isPySpace c = false) : strip s = s := by
  cases s with
  | nil => rfl
  | cons c cs =>
    obtain ⟨b, hl, hb⟩ := last_not_space (List.cons_ne_nil c cs) h
    exact strip_eq_self (a := c) rfl (h c (by simp)) hl hb

end PromVerif.Lemmas.TextParse

namespace PromVerif.Lemmas.OM
open PromVerif.Py

/-- every successful result satisfies `Q` -/
def Post {α : Type} (Q : α → Prop) (x : PyM α) : Prop := ∀ a, x = .ok a → Q a

theorem post_bind {α β : Type} {Q : β → Prop} (x : PyM α) (f : α → PyM β) (h : ∀ a, Post Q (f a)) : Post Q (x >>= f) := by
  intro b hb
  cases x with
  | error e => cases hb
  | ok a => exact h a b hb

theorem post_pure {α : Type} {Q : α → Prop} (a : α) (h : Q a) : Post Q (pure a : PyM α) := by
  intro b hb; cases hb; exact h

theorem post_throw_bind {α β : Type} {Q : β → Prop} (e : PyErr) (f : α → PyM β) : Post Q ((throw e : PyM α) >>= f) := by
  intro b hb; cases hb

theorem post_ite {α : Type} {Q : α → Prop} {c : Prop} [Decidable c] {a b : PyM α} (ha : Post Q a) (hb : Post Q b) :
    Post Q (if c then a else b) := by
  split <;> assumption

end PromVerif.Lemmas.OM

namespace PromVerif.Lemmas.TextTotal
open PromVerif.Py PromVerif.Model.ParseCore PromVerif.Model.Validation PromVerif.Lemmas.TextParse

/-- the only errors `r` can end in: ValueError, IndexError (then `P` holds), OverflowError (then `Q` holds) -/
def Err3 {α : Type} (P Q : Prop) (r : PyM α) : Prop :=
  ∀ e, r = .error e → e = .valueError ∨ (e = .indexError ∧ P) ∨ (e = .overflowError ∧ Q)

/-- only ValueError -/
def Safe {α : Type} (r : PyM α) : Prop := ∀ e, r = .error e → e = .valueError

theorem Safe.err3 {α : Type} {P Q : Prop} {r : PyM α} (h : Safe r) : Err3 P Q r := fun e he => Or.inl (h e he)

theorem safe_ok {α : Type} (a : α) : Safe (.ok a : PyM α) := fun e he => by cases he
theorem safe_pure {α : Type} (a : α) : Safe (pure a : PyM α) := safe_ok a
theorem safe_valueError {α : Type} : Safe (.error .valueError : PyM α) := fun e he => by cases he; rfl
theorem safe_throw {α : Type} : Safe (throw .valueError : PyM α) := safe_valueError

theorem bind_error {α β : Type} {m : PyM α} {f : α → PyM β} {e : PyErr} (h : m >>= f = .error e) :
    m = .error e ∨ ∃ a, m = .ok a ∧ f a = .error e := by
  cases m with
  | error e' => cases h; exact Or.inl rfl
  | ok a => exact Or.inr ⟨a, rfl, h⟩

theorem err3_bind {α β : Type} {P Q : Prop} {m : PyM α} {f : α → PyM β} (hm : Err3 P Q m)
    (hf : ∀ a, m = .ok a → Err3 P Q (f a)) : Err3 P Q (m >>= f) := by
  intro e he
  rcases bind_error he with h | ⟨a, ha, h⟩
  · exact hm e h
  · exact hf a ha e h

theorem safe_bind {α β : Type} {m : PyM α} {f : α → PyM β} (hm : Safe m) (hf : ∀ a, m = .ok a → Safe (f a)) :
    Safe (m >>= f) := by
  intro e he
  rcases bind_error he with h | ⟨a, ha, h⟩
  · exact hm e h
  · exact hf a ha e h

theorem safe_ite {α : Type} {c : Prop} [Decidable c] {a b : PyM α} (ha : Safe a) (hb : Safe b) : Safe (if c then a else b) := by
  split <;> assumption

theorem safe_throw_bind {α β : Type} (f : α → PyM β) : Safe ((throw .valueError : PyM α) >>= f) := by
  intro e he; cases he; rfl

theorem lstrip_head_not_space (s : Str) (a : Char) (h : (lstrip s).head? = some a) : isPySpace a = false := by
  unfold lstrip lstripSet at h
  have := List.head?_dropWhile_not isPySpace s
  rw [h] at this
  simpa using this

theorem rstripSet_head (p : Char → Bool) (s : Str) : (rstripSet p s).head? = some a → s.head? = some a := by
  intro h
  obtain ⟨j, hj, _⟩ := rstripSet_prefix p s
  cases hr : rstripSet p s with
  | nil => rw [hr] at h; simp at h
  | cons x xs => rw [hr] at h hj; rw [hj]; simpa using h

theorem strip_head_not_space (s : Str) (a : Char) (h : (strip s).head? = some a) : isPySpace a = false := by
  unfold strip stripSet at h
  exact lstrip_head_not_space s a (rstripSet_head _ _ h)

theorem take_safe_of_head {term : Str} (hh : ∀ a, term.head? = some a → isPySpace a = false) (n : Nat) :
    term.take n = [] ∨ strip (term.take n) ≠ [] := by
  cases term with
  | nil => left; simp
  | cons a t =>
    cases n with
    | zero => left; rfl
    | succ k =>
      right
      have ha := hh a rfl
      simp only [List.take_succ_cons]
      rw [strip_of_head (a := a) rfl ha]
      intro e
      have := (rstripSet_eq_nil_iff isPySpace (a :: List.take k t)).mp e
      simp [ha] at this

theorem strip_take_ne_nil (s : Str) (n : Nat) (h : (strip s).take n ≠ []) : strip ((strip s).take n) ≠ [] :=
  (take_safe_of_head (strip_head_not_space s) n).resolve_left h

theorem strip_length_le (s : Str) : (strip s).length ≤ s.length := by
  unfold strip stripSet lstripSet
  rw [rstripSet_eq, List.length_reverse]
  refine Nat.le_trans (List.dropWhile_sublist _).length_le ?_
  rw [List.length_reverse]
  exact (List.dropWhile_sublist _).length_le

/-- `_unquote_unescape` (which strips first and returns on an empty result — the F8 repair) raises only ValueError -/
theorem unquoteUnescape_safe_all (t : Str) : Safe (unquoteUnescape t) := by
  unfold unquoteUnescape
  simp only [Generated.ParseCore.unquoteStripsFirst, Bool.true_or, ↓reduceIte]
  refine safe_ite (safe_ok _) ?_
  split
  · exact safe_ok _
  · exact safe_ite safe_valueError (safe_ok _)
  · exact safe_ok _

theorem safe_parseValue (pyInt : Str → Option Int) (pyFloat : Str → Option Nat) (v : Str) : Safe (parseValue pyInt pyFloat v) := by
  unfold parseValue
  refine safe_ite safe_valueError ?_
  split
  · exact safe_ok _
  · split
    · exact safe_ok _
    · exact safe_valueError

theorem parseValue_int (pyInt : Str → Option Int) (pyFloat : Str → Option Nat) (v : Str) (n : Int)
    (h : parseValue pyInt pyFloat v = .ok (.int n)) : pyInt v = some n := by
  unfold parseValue at h
  split at h
  · cases h
  · split at h
    · next m hm => cases h; exact hm
    · split at h <;> cases h

/-- the body of one iteration of the `while sub_labels:` loop after `_next_term` (text mode) -/
def oneLabelBody (legacy : Bool) (labels : List (Str × Str)) (term rest : Str) : PyM (List (Str × Str) × Str) :=
  if term.isEmpty then pure (labels, rest)
  else do
    let opPos := nextUnquotedChar term (· == '=')
    let (labelName, quotedName, term1) ← (match opPos with
      | none => (pure (("__name__".toList, true, term)) : PyM (Str × Bool × Str))
      | some vs => do
        let (ln, q) ← unquoteUnescape (term.take vs)
        pure (ln, q, term.drop (vs + 1)))
    if !quotedName && !isValidLegacyMetricName labelName then throw .valueError
    let term2 := strip term1
    match term2 with
    | '"' :: _ =>
      match findClosingQuote term2 (term2.length + 1) 1 with
      | none => throw .valueError
      | some i =>
        let quoteEnd := i + 1
        if quoteEnd != term2.length then throw .valueError
        let (labelValue, _) ← unquoteUnescape (term2.take quoteEnd)
        if labelName == "__name__".toList then validateMetricName legacy labelName
        else validateLabelname legacy labelName
        if labels.any (fun kv => kv.1 == labelName) then throw .valueError
        pure (labels ++ [(labelName, labelValue)], rest)
    | _ => throw .valueError

theorem parseOneLabel_eq (legacy : Bool) (sub : Str) (labels : List (Str × Str)) :
    parseOneLabel legacy false sub labels = nextTerm sub false >>= fun tr => oneLabelBody legacy labels tr.1 tr.2 := rfl

theorem safe_validateMetricName (legacy : Bool) (n : Str) : Safe (validateMetricName legacy n) :=
  safe_ite safe_valueError (safe_ite safe_valueError (safe_ok _))

theorem safe_validateLabelname (legacy : Bool) (n : Str) : Safe (validateLabelname legacy n) :=
  safe_ite (safe_ite safe_valueError (safe_ite safe_valueError (safe_ok _))) (safe_ite safe_valueError (safe_ok _))

theorem oneLabelBody_safe (legacy : Bool) (labels : List (Str × Str)) (term rest : Str) :
    Safe (oneLabelBody legacy labels term rest) := by
  unfold oneLabelBody
  apply safe_ite (safe_pure _)
  apply safe_bind
  · split
    · exact safe_pure _
    · exact safe_bind (unquoteUnescape_safe_all _) (fun _ _ => safe_pure _)
  · intro x _
    obtain ⟨labelName, quotedName, term1⟩ := x
    simp only []
    refine safe_ite (safe_throw_bind _) ?_
    split
    · split
      · exact safe_throw
      · refine safe_ite (safe_throw_bind _) (safe_bind (unquoteUnescape_safe_all _) (fun y _ => safe_ite ?_ ?_))
        · exact safe_bind (safe_validateMetricName _ _) (fun _ _ => safe_ite (safe_throw_bind _) (safe_pure _))
        · exact safe_bind (safe_validateLabelname _ _) (fun _ _ => safe_ite (safe_throw_bind _) (safe_pure _))
    · exact safe_throw

theorem oneLabelBody_rest (legacy : Bool) (labels : List (Str × Str)) (term rest : Str) :
    ∀ l' r', oneLabelBody legacy labels term rest = .ok (l', r') → r' = rest := by
  have hp : ∀ l, OM.Post (fun p : List (Str × Str) × Str => p.2 = rest) (pure (l, rest)) := fun l => OM.post_pure _ rfl
  have h : OM.Post (fun p => p.2 = rest) (oneLabelBody legacy labels term rest) := by
    unfold oneLabelBody
    apply OM.post_ite (hp _)
    apply OM.post_bind
    intro x
    obtain ⟨labelName, quotedName, term1⟩ := x
    simp only []
    refine OM.post_ite (OM.post_throw_bind _ _) ?_
    split
    · split
      · exact fun _ h => by cases h
      · refine OM.post_ite (OM.post_throw_bind _ _) (OM.post_bind _ _ (fun y => OM.post_ite ?_ ?_))
        · exact OM.post_bind _ _ (fun _ => OM.post_ite (OM.post_throw_bind _ _) (hp _))
        · exact OM.post_bind _ _ (fun _ => OM.post_ite (OM.post_throw_bind _ _) (hp _))
    · exact fun _ h => by cases h
  exact fun l' r' e => h (l', r') e

end PromVerif.Lemmas.TextTotal
