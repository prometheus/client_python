/-
C12: after `normalise`, the series the collector reports for one child (`mpChild`) and the in-process samples of that
child are the same set — kind by kind: label dicts sort to the same list, `0.0 + x` is `x`, the `pid` label goes,
the cumulated buckets and `_count` agree, a never-set mostrecent gauge is absent on both sides.
-/
import PromVerif.Lemmas.BackendsInput

namespace PromVerif.Lemmas.Backends
open PromVerif.Py PromVerif.Generated.Multiprocess
open PromVerif.Model.Metrics (Val Decl Kind Child Action Sample childSamples)
open PromVerif.Model.Multiprocess
open PromVerif.Model.Values
open PromVerif.Model.Backends
open PromVerif.Spec.Metrics (Hist)
open PromVerif.Spec.Multiprocess (SFile Contrib normTs kindOf)
open PromVerif.Spec.Backends
open PromVerif.Lemmas.Metrics (childOf)
set_option autoImplicit false
set_option linter.unusedSectionVars false

variable {V : Type} [Val V] {B : Type} [DecidableEq B]

theorem declOf_self (ds : List (MDecl V)) (d : MDecl V) (hn : (ds.map (fun d => d.decl.name)).Nodup) (hd : d ∈ ds) :
    declOf ds d.decl.name = some d := by
  unfold declOf
  cases hf : ds.find? (fun x => decide (x.decl.name = d.decl.name)) with
  | none => exact absurd (List.find?_eq_none.mp hf d hd) (by simp)
  | some x =>
    have hx := List.find?_some hf
    rw [inj_of_nodup_map _ ds hn x (List.mem_of_find?_eq_some hf) d hd (of_decide_eq_true hx)]

theorem zip_getElem_mem {α β : Type} (a : List α) (b : List β) (i : Nat) (x : α) (y : β) (h1 : a[i]? = some x)
    (h2 : b[i]? = some y) : (x, y) ∈ a.zip b :=
  List.mem_of_getElem? (List.getElem?_zip_eq_some.mpr ⟨h1, h2⟩)

theorem zip_mem_index {α β : Type} (a : List α) (b : List β) (x : α) (y : β) (h : (x, y) ∈ a.zip b) :
    ∃ i : Nat, a[i]? = some x ∧ b[i]? = some y := by
  obtain ⟨i, hi⟩ := List.mem_iff_getElem?.mp h
  exact ⟨i, List.getElem?_zip_eq_some.mp hi⟩

theorem plainLabels_nil (d : MDecl V) : plainLabels d [] = [] := by
  unfold plainLabels
  rw [List.zip_nil_right]
  rfl

theorem any_unique {α : Type} (l : List α) (p q : α → Bool) (x : α) (hx : x ∈ l) (hpx : p x = true)
    (huniq : ∀ y ∈ l, p y = true → y = x) : l.any (fun y => p y && q y) = q x := by
  cases hq : q x with
  | true => exact List.any_eq_true.mpr ⟨x, hx, by rw [hpx, hq]; rfl⟩
  | false =>
    rw [List.any_eq_false]
    intro y hy
    cases hp : p y with
    | false => simp
    | true => rw [huniq y hy hp, hq]; simp

theorem neverSet_eq (ds : List (MDecl V)) (hs : List (Hist V)) (hn : (ds.map (fun d => d.decl.name)).Nodup)
    (i : Nat) (d : MDecl V) (h : Hist V) (hd : ds[i]? = some d) (hh : hs[i]? = some h) (hln : d.decl.labelnames.Nodup)
    (hck : ChildKeys d (childList d h)) (ka : List Str × List (Action V)) (hka : ka ∈ childList d h) :
    neverSet ds hs d.decl.name (plainLabels d ka.1) = !hasSet ka.2 := by
  obtain ⟨hnd, hlen⟩ := hck
  unfold neverSet
  -- only the pair `(d, h)` has the family's name …
  rw [any_unique (ds.zip hs) (fun dh => decide (dh.1.decl.name = d.decl.name)) _ (d, h)
    (zip_getElem_mem ds hs i d h hd hh) (by simp)]
  · -- … and in it only the child `ka` has these labels
    unfold childList at hka hnd hlen
    cases hl : d.decl.labelnames.isEmpty with
    | true =>
      simp only [hl, if_true, List.mem_singleton] at hka ⊢
      subst hka
      simp [plainLabels_nil]
    | false =>
      simp only [hl, Bool.false_eq_true, if_false] at hka hnd hlen ⊢
      apply any_unique h.table (fun kh => decide (sortByKey (d.decl.labelnames.zip kh.1) = plainLabels d ka.1)) _ ka hka
        (by simp [plainLabels])
      intro kh hkh e
      exact inj_of_nodup_map _ _ hnd kh hkh ka hka
        (sorted_zip_inj _ _ _ hln (hlen kh hkh) (hlen ka hka) (of_decide_eq_true e))
  · intro dh hdh e
    obtain ⟨j, hj1, hj2⟩ := zip_mem_index ds hs dh.1 dh.2 hdh
    by_cases hij : j = i
    · subst hij
      rw [hd] at hj1; rw [hh] at hj2
      cases hj1; cases hj2
      rfl
    · exact absurd (of_decide_eq_true e) (names_ne hn j i dh.1 d hj1 hd hij)

/-- the label part of `normOne` for a known declaration -/
def normLabels (d : MDecl V) (labels : Labels) : Labels :=
  sortByKey (if pidMode d then labels.filter (fun l => l.1 ≠ "pid".toList) else labels)

/-- `normOne` for a sample of a known family -/
def normD (d : MDecl V) (ns : Str → Labels → Bool) (name : Str) (labels : Labels) (value : V) : Option (SKey × V) :=
  if hasCreated d.decl.kind && decide (name = d.decl.name ++ "_created".toList) then none
  else if isMostRecent d && ns d.decl.name (normLabels d labels) then none
  else some ((name, normLabels d labels), value)

theorem normOne_known (ds : List (MDecl V)) (ns : Str → Labels → Bool) (d : MDecl V) (x : Flat V)
    (hfam : x.fam = d.decl.name) (hdecl : declOf ds d.decl.name = some d) :
    normOne ds ns x = normD d ns x.name x.labels x.value := by
  unfold normOne normD normLabels
  rw [hfam, hdecl]

theorem normD_eval (d : MDecl V) (ns : Str → Labels → Bool) (name : Str) (labels : Labels) (v : V)
    (hc : (hasCreated d.decl.kind && decide (name = d.decl.name ++ "_created".toList)) = false)
    (hm : (isMostRecent d && ns d.decl.name (normLabels d labels)) = false) :
    normD d ns name labels v = some ((name, normLabels d labels), v) := by
  unfold normD
  rw [hc]
  simp only [Bool.false_eq_true, if_false]
  rw [hm]
  simp only [Bool.false_eq_true, if_false]

theorem plainLabels_nodupKeys (d : MDecl V) (hln : d.decl.labelnames.Nodup) (key : List Str) :
    ((plainLabels d key).map (·.1)).Nodup :=
  sortByKey_nodupKeys _ (zip_nodupKeys _ _ hln)

section labels
variable (d : MDecl V) (hln : d.decl.labelnames.Nodup) (hpid : pidMode d = true → "pid".toList ∉ d.decl.labelnames) (key : List Str)
include hln hpid

/-- a plain series, multiprocess side: `dict(labels)` of the sorted key labels -/
theorem normLabels_mp_plain : normLabels d (pyDict (plainLabels d key)) = plainLabels d key := by
  unfold normLabels
  rw [pyDict_id _ (plainLabels_nodupKeys d hln key)]
  have hs : sortByKey (plainLabels d key) = plainLabels d key := sortByKey_idem _ (zip_nodupKeys _ _ hln)
  cases hp : pidMode d with
  | false => simpa using hs
  | true =>
    simp only [if_true]
    rw [filter_ne_self _ _ (plainLabels_no_key d key _ (hpid hp))]
    exact hs

omit hln in
/-- a plain series, in-process side: `dict(zip(labelnames, labelvalues) + {})` -/
theorem normLabels_in_plain : normLabels d (d.decl.labelnames.zip key ++ []) = plainLabels d key := by
  unfold normLabels plainLabels
  rw [List.append_nil]
  cases hp : pidMode d with
  | false => simp
  | true =>
    simp only [if_true]
    rw [filter_ne_self _ _ (zip_no_key _ key _ (hpid hp))]

theorem normLabels_mp_pid (hp : pidMode d = true) (p : Str) :
    normLabels d (pyDict (plainLabels d key ++ [("pid".toList, p)])) = plainLabels d key := by
  have hno := plainLabels_no_key d key _ (hpid hp)
  unfold normLabels
  rw [pyDict_id _ (snoc_nodupKeys _ (plainLabels_nodupKeys d hln key) _ _ hno)]
  simp only [hp, if_true]
  rw [List.filter_append, filter_ne_self _ _ hno]
  simp only [ne_eq, decide_not, List.filter_cons, decide_true, Bool.not_true, Bool.false_eq_true, if_false,
    List.filter_nil, List.append_nil]
  exact sortByKey_idem _ (zip_nodupKeys _ _ hln)

theorem plain_pair (ns : Str → Labels → Bool)
    (hmr : (isMostRecent d && ns d.decl.name (plainLabels d key)) = false) (sfx : Str)
    (hsfx : (hasCreated d.decl.kind && decide (d.decl.name ++ sfx = d.decl.name ++ "_created".toList)) = false) (v : V) :
    normD d ns (d.decl.name ++ sfx) (pyDict (plainLabels d key)) v = some ((d.decl.name ++ sfx, plainLabels d key), v) ∧
    normD d ns (d.decl.name ++ sfx) (d.decl.labelnames.zip key ++ []) v = some ((d.decl.name ++ sfx, plainLabels d key), v) := by
  constructor
  · rw [normD_eval d ns _ _ v hsfx (by rw [normLabels_mp_plain d hln hpid key]; exact hmr),
      normLabels_mp_plain d hln hpid key]
  · rw [normD_eval d ns _ _ v hsfx (by rw [normLabels_in_plain d hpid key]; exact hmr),
      normLabels_in_plain d hpid key]

omit hpid in
theorem normLabels_bucket (hp : pidMode d = false) (hle : leName ∉ d.decl.labelnames) (t : Str) :
    normLabels d (pyDict (plainLabels d key ++ [(leName, t)]))
      = normLabels d (d.decl.labelnames.zip key ++ [(leName, t)]) := by
  have hno := plainLabels_no_key d key _ hle
  unfold normLabels
  rw [pyDict_id _ (snoc_nodupKeys _ (plainLabels_nodupKeys d hln key) _ _ hno)]
  simp only [hp, Bool.false_eq_true, if_false]
  apply sortByKey_eq_of_perm
  · exact List.Perm.append_right _ (PromVerif.Lemmas.GatewaySort.sortByKey_perm _)
  · exact snoc_nodupKeys _ (plainLabels_nodupKeys d hln key) _ _ hno

end labels

/-- a series of the multiprocess collection as a flat sample (`Sample(name, dict(labels), value)`) -/
def mpFlat (d : MDecl V) (kv : SKey × V) : Flat V := ⟨d.decl.name, kv.1.1, pyDict kv.1.2, kv.2⟩

/-- the in-process samples of one child (`_multi_samples` / `_samples`, then `collect`'s name prefix) -/
def inChild (d : MDecl V) (ka : List Str × List (Action V)) : List (Flat V) :=
  (childSamples d.decl (childOf d.decl ka.2)).map (fun s =>
    ⟨d.decl.name, d.decl.name ++ s.name, d.decl.labelnames.zip ka.1 ++ s.labels, s.value⟩)

/-- after `normalise`, the series the collector reports for child `ka` and the child's in-process samples are the same set -/
def ChildAgree (bo : BOps B) (Bs : List B) (d : MDecl V) (ns : Str → Labels → Bool) (pid : Str) (disk : List (Str × Store V))
    (ka : List Str × List (Action V)) : Prop :=
  ∀ kv : SKey × V,
    (∃ x ∈ mpChild bo Bs d pid disk ka, normD d ns (mpFlat d x).name (mpFlat d x).labels (mpFlat d x).value = some kv) ↔
      (∃ f ∈ inChild d ka, normD d ns f.name f.labels f.value = some kv)

theorem not_created (d : MDecl V) (sfx : Str) (h : sfx ≠ "_created".toList) :
    (hasCreated d.decl.kind && decide (d.decl.name ++ sfx = d.decl.name ++ "_created".toList)) = false := by
  have : ¬ (d.decl.name ++ sfx = d.decl.name ++ "_created".toList) := fun e => h (List.append_cancel_left e)
  rw [decide_eq_false this, Bool.and_false]

theorem sfx_not_created : sTotal ≠ "_created".toList ∧ sCount ≠ "_created".toList ∧ sSum ≠ "_created".toList ∧
    sBucket ≠ "_created".toList := by decide +kernel

theorem pidLabel_eq : pidLabel = "pid".toList := by decide +kernel

theorem cumulate_zip (Bs : List B) : ∀ (a : V) (vs : List V),
    Spec.Multiprocess.cumulate (voOf V) a (Bs.zip vs) = Bs.zip (Model.Metrics.cumulate a vs) := by
  induction Bs with
  | nil => intro a vs; simp [Spec.Multiprocess.cumulate]
  | cons b bs ih =>
    intro a vs
    cases vs with
    | nil => simp [Spec.Multiprocess.cumulate, Model.Metrics.cumulate]
    | cons v vs =>
      simp only [List.zip_cons_cons, Spec.Multiprocess.cumulate, Model.Metrics.cumulate]
      rw [ih]
      rfl

theorem cumulate_last_fold : ∀ (vs : List V) (a : V),
    ((Model.Metrics.cumulate a vs).getLast?).getD a = vs.foldl Val.add a
  | [], a => rfl
  | v :: vs, a => by
    simp only [Model.Metrics.cumulate, List.foldl_cons]
    have ih := cumulate_last_fold vs (Val.add a v)
    cases hc : Model.Metrics.cumulate (Val.add a v) vs with
    | nil => rw [hc] at ih; simpa using ih
    | cons x xs =>
      rw [hc] at ih
      rw [List.getLast?_cons_cons]
      exact ih

theorem voOf_zero_add (hz : ∀ a : V, Val.add Val.zero a = a) (x : V) : (voOf V).add (voOf V).zero x = x := hz x

theorem map_zero_add (hz : ∀ a : V, Val.add Val.zero a = a) (Bs : List B) (vs : List V) :
    (Bs.zip vs).map (fun p => (p.1, (voOf V).add (voOf V).zero p.2)) = Bs.zip vs := by
  have : (fun p : B × V => (p.1, (voOf V).add (voOf V).zero p.2)) = id := by
    funext p; simp [voOf, hz]
  rw [this, List.map_id]


theorem CellsAgree.map_eq {d : MDecl V} {pid : Str} {disk : List (Str × Store V)} {ka : List Str × List (Action V)}
    (h : CellsAgree d pid disk ka) :
    (cellParams d ka.1).map (fun p => (cv pid disk p).1) = cellValues d (childOf d.decl ka.2) := by
  have hlen := cells_length d ka.1 ka.2
  apply List.ext_getElem?
  intro j
  rw [List.getElem?_map]
  cases hp : (cellParams d ka.1)[j]? with
  | none =>
    have := List.getElem?_eq_none_iff.mp hp
    exact (List.getElem?_eq_none_iff.mpr (by omega)).symm
  | some p =>
    have hj := (List.getElem?_eq_some_iff.mp hp).1
    have hv : j < (cellValues d (childOf d.decl ka.2)).length := by omega
    rw [List.getElem?_eq_getElem hv]
    exact congrArg some (h j p _ hp (List.getElem?_eq_getElem hv))

theorem exists_norm_of_perm {α β γ : Type} (N : α → Option γ) (N' : β → Option γ) (xs : List α) (fs : List β)
    (h : (xs.map N).Perm (fs.map N')) (kv : γ) : (∃ x ∈ xs, N x = some kv) ↔ (∃ f ∈ fs, N' f = some kv) := by
  have := h.mem_iff (a := some kv)
  simpa only [List.mem_map] using this

theorem exists_mem_singleton {α : Type} (a : α) (P : α → Prop) : (∃ x ∈ [a], P x) ↔ P a := by simp

theorem nongauge_flags (d : MDecl V) (hg : isGauge d = false) : isMostRecent d = false ∧ pidMode d = false := by
  simp [isMostRecent, pidMode, hg]

theorem gaugeMode_flags : ∀ m ∈ gaugeModes,
    (decide (m = "all".toList) || decide (m = "liveall".toList)) = decide (kindOf gaugeType m = .gaugeAll) ∧
      mostRecentModes.contains m = decide (kindOf gaugeType m = .gaugeMostRecent) := by decide +kernel

theorem lt_normTs (hlt : Val.lt (Val.zero : V) Val.zero = false) (acts : List (Action V)) (ts : V) (h : TsOK acts ts) :
    (voOf V).lt (voOf V).zero (normTs (voOf V) ts) = hasSet acts := by
  unfold normTs
  cases hset : hasSet acts with
  | false =>
    rw [h.1 hset]
    split <;> exact hlt
  | true =>
    obtain ⟨ht1, ht2⟩ := h.2 hset
    rw [if_pos ht1]
    exact ht2

theorem gauge_not_created (d : MDecl V) (hk : d.decl.kind = .gauge) (x : Bool) : (hasCreated d.decl.kind && x) = false := by
  rw [hk]; rfl

theorem leTexts_hist (d : MDecl V) (bs : List (V × Str)) (hk : d.decl.kind = .histogram bs) :
    leTexts d = bs.map (fun b => Model.Utils.floatToGoString b.2) := by
  unfold leTexts; simp only [hk]

theorem in_hist_list (d : MDecl V) (bs : List (V × Str)) (hk : d.decl.kind = .histogram bs)
    (hsum : Model.Metrics.sumExposed (bs.map (·.1)) = true) (ka : List Str × List (Action V)) :
    inChild d ka
      = ((leTexts d).zip (Model.Metrics.cumulate Val.zero (childOf d.decl ka.2).buckets)).map (fun ta =>
            (⟨d.decl.name, d.decl.name ++ sBucket, d.decl.labelnames.zip ka.1 ++ [(leName, ta.1)], ta.2⟩ : Flat V))
        ++ [⟨d.decl.name, d.decl.name ++ sCount, d.decl.labelnames.zip ka.1 ++ [],
              ((Model.Metrics.cumulate Val.zero (childOf d.decl ka.2).buckets).getLast?).getD Val.zero⟩,
            ⟨d.decl.name, d.decl.name ++ sSum, d.decl.labelnames.zip ka.1 ++ [], (childOf d.decl ka.2).sum⟩] := by
  unfold inChild
  simp only [childSamples, hk, hsum, if_true, List.map_append, List.map_cons, List.map_nil, List.map_map,
    List.append_assoc, List.cons_append, List.nil_append]
  congr 1
  rw [leTexts_hist d bs hk, List.zip_map_left, List.map_map]
  rfl

section oneChild
variable (bo : BOps B) (Bs : List B) (d : MDecl V) (ns : Str → Labels → Bool) (pid : Str) (disk : List (Str × Store V))
    (ka : List Str × List (Action V)) (hz : ∀ a : V, Val.add Val.zero a = a) (hcells : CellsAgree d pid disk ka)
include hcells

/-- a child all of whose cells are plain cells — `svs` lists the sample-name suffix and the in-memory value of each; the
kinds differ in this table only -/
theorem plain_child (hln : d.decl.labelnames.Nodup) (hpid : pidMode d = true → "pid".toList ∉ d.decl.labelnames)
    (hmr : (isMostRecent d && ns d.decl.name (plainLabels d ka.1)) = false)
    (f : V × V → V) (hf : ∀ x, f x = x.1) (typ mode : Str) (svs : List (Str × V))
    (hcp : cellParams d ka.1 = svs.map (fun sv => plainParam d typ sv.1 mode ka.1))
    (hin : childSamples d.decl (childOf d.decl ka.2) = svs.map (fun sv => ⟨sv.1, [], sv.2⟩))
    (hcv : cellValues d (childOf d.decl ka.2) = svs.map (·.2))
    (hsfx : ∀ sv ∈ svs, sv.1 ≠ "_created".toList) (kv : SKey × V) :
    (∃ x ∈ plainSeries f d pid disk ka.1, normD d ns (mpFlat d x).name (mpFlat d x).labels (mpFlat d x).value = some kv) ↔
      ∃ s ∈ inChild d ka, normD d ns s.name s.labels s.value = some kv := by
  have hv : ∀ sv ∈ svs, (cv pid disk (plainParam d typ sv.1 mode ka.1)).1 = sv.2 := by
    have hm := hcells.map_eq
    rw [hcp, hcv, List.map_map] at hm
    exact List.map_inj_left.mp hm
  apply exists_norm_of_perm (fun x : SKey × V => normD d ns (mpFlat d x).name (mpFlat d x).labels (mpFlat d x).value)
    (fun s : Flat V => normD d ns s.name s.labels s.value)
  apply List.Perm.of_eq
  unfold plainSeries inChild
  rw [hcp, hin, List.map_map, List.map_map, List.map_map, List.map_map]
  apply List.map_congr_left
  intro sv hsv
  have hpp := plain_pair d hln hpid ka.1 ns hmr sv.1 (not_created d sv.1 (hsfx sv hsv)) sv.2
  simp only [Function.comp, mpFlat]
  rw [plain_name, plain_labels d hln, hf, hv sv hsv, hpp.1]
  exact hpp.2.symm

theorem bucket_cells (bs : List (V × Str)) (hk : d.decl.kind = .histogram bs) :
    (cv pid disk (plainParam d sHistogram sSum [] ka.1)).1 = (childOf d.decl ka.2).sum ∧
    (leTexts d).map (fun t => (cv pid disk (bucketParam d ka.1 t)).1) = (childOf d.decl ka.2).buckets := by
  have hmap := hcells.map_eq
  rw [cellParams_eq] at hmap
  simp only [hk, cellValues, List.map_cons, List.map_map, List.cons.injEq] at hmap
  exact hmap

include hz

theorem child_norm_sum (hln : d.decl.labelnames.Nodup) (hk : d.decl.kind = .counter ∨ d.decl.kind = .summary) :
    ChildAgree bo Bs d ns pid disk ka := by
  intro kv
  have hg : isGauge d = false := by rcases hk with hk | hk <;> simp [isGauge, hk]
  obtain ⟨hmr, hpm⟩ := nongauge_flags d hg
  have hpid : pidMode d = true → "pid".toList ∉ d.decl.labelnames := fun h => by rw [hpm] at h; cases h
  have hmr' : (isMostRecent d && ns d.decl.name (plainLabels d ka.1)) = false := by rw [hmr]; rfl
  rcases hk with hk | hk
  · simp only [mpChild, hk]
    exact plain_child d ns pid disk ka hcells hln hpid hmr' _ (fun x => hz x.1) sCounter [] [(sTotal, (childOf d.decl ka.2).value)]
      (by rw [cellParams_eq]; simp only [hk]; rfl) (by simp only [childSamples, hk]; rfl) (by simp only [cellValues, hk]; rfl)
      (List.forall_mem_singleton.mpr sfx_not_created.1) kv
  · simp only [mpChild, hk]
    exact plain_child d ns pid disk ka hcells hln hpid hmr' _ (fun x => hz x.1) sSummary []
      [(sCount, (childOf d.decl ka.2).count), (sSum, (childOf d.decl ka.2).sum)]
      (by rw [cellParams_eq]; simp only [hk]; rfl) (by simp only [childSamples, hk]; rfl) (by simp only [cellValues, hk]; rfl)
      (List.forall_mem_cons.mpr ⟨sfx_not_created.2.1, List.forall_mem_singleton.mpr sfx_not_created.2.2.1⟩) kv

theorem child_norm_gauge (hln : d.decl.labelnames.Nodup) (hk : d.decl.kind = .gauge)
    (hmode : d.mode ∈ gaugeModes) (hnopid : pidLabel ∉ d.decl.labelnames) (hlt : Val.lt (Val.zero : V) Val.zero = false)
    (hns : isMostRecent d = true → ns d.decl.name (plainLabels d ka.1) = !hasSet ka.2)
    (hts : isMostRecent d = true → ∀ p ∈ cellParams d ka.1, TsOK ka.2 (cv pid disk p).2) :
    ChildAgree bo Bs d ns pid disk ka := by
  intro kv
  have hg : isGauge d = true := by simp [isGauge, hk]
  have hpid : pidMode d = true → "pid".toList ∉ d.decl.labelnames := fun _ => by rw [← pidLabel_eq]; exact hnopid
  have hp : cellParams d ka.1 = [plainParam d sGauge [] d.mode ka.1] := gauge_params d hk ka.1
  have hpm : pidMode d = decide (kindOf gaugeType d.mode = .gaugeAll) := by
    simp only [pidMode, hg, Bool.true_and]; exact (gaugeMode_flags d.mode hmode).1
  have hmrk : isMostRecent d = decide (kindOf gaugeType d.mode = .gaugeMostRecent) := by
    simp only [isMostRecent, hg, Bool.true_and]; exact (gaugeMode_flags d.mode hmode).2
  have hnc := gauge_not_created d hk
  -- the one cell under its plain key, the sample not dropped by `normalise`: unchanged (`0.0 + x` is `x`)
  have hplain : ∀ f : V × V → V, (∀ x, f x = x.1) → (isMostRecent d && ns d.decl.name (plainLabels d ka.1)) = false →
      ((∃ x ∈ plainSeries f d pid disk ka.1, normD d ns (mpFlat d x).name (mpFlat d x).labels (mpFlat d x).value = some kv) ↔
        ∃ s ∈ inChild d ka, normD d ns s.name s.labels s.value = some kv) := fun f hf hmr =>
    plain_child d ns pid disk ka hcells hln hpid hmr f hf sGauge d.mode [([], (childOf d.decl ka.2).value)] hp
      (by simp only [childSamples, hk]; rfl) (by simp only [cellValues, hk]; rfl) (by simp) kv
  rcases rule_kind d.mode hmode with ⟨_, hkd⟩ | ⟨_, hkd⟩ | ⟨_, hkd⟩ | ⟨_, hkd⟩ | ⟨_, hkd⟩
  · simp only [mpChild, hk, hkd]
    exact hplain _ (fun _ => rfl) (by rw [hmrk, hkd]; rfl)
  · simp only [mpChild, hk, hkd]
    exact hplain _ (fun _ => rfl) (by rw [hmrk, hkd]; rfl)
  · simp only [mpChild, hk, hkd]
    exact hplain _ (fun x => hz x.1) (by rw [hmrk, hkd]; rfl)
  · -- mostrecent: the collector keeps the cell iff its set-time is positive, iff the child was ever set
    have hmr : isMostRecent d = true := by rw [hmrk, hkd]; rfl
    have hkeep : ∀ p ∈ cellParams d ka.1,
        (voOf V).lt (voOf V).zero (normTs (voOf V) (cv pid disk p).2) = hasSet ka.2 :=
      fun p hp' => lt_normTs hlt ka.2 _ (hts hmr p hp')
    simp only [mpChild, hk, hkd]
    cases hset : hasSet ka.2 with
    | true =>
      rw [filterMap_eq_map_of _ (fun p => (((mmapKey p).name, (mmapKey p).labels), (cv pid disk p).1)) _
        (fun p hp' => by rw [hkeep p hp', hset]; rfl)]
      exact hplain (fun x => x.1) (fun _ => rfl) (by rw [hns hmr, hset, Bool.not_true, Bool.and_false])
    | false =>
      -- never set: no series, and `normalise` drops the in-process sample
      rw [List.filterMap_eq_nil_iff.mpr (fun p hp' => by rw [hkeep p hp', hset]; rfl)]
      simp only [List.not_mem_nil, false_and, exists_false, false_iff, inChild, childSamples, hk, List.map_cons,
        List.map_nil, exists_mem_singleton]
      unfold normD
      rw [hnc]
      simp only [Bool.false_eq_true, if_false]
      rw [normLabels_in_plain d hpid ka.1, hmr, hns hmr, hset]
      simp
  · -- all / liveall: the `pid` label goes
    have hmr : isMostRecent d = false := by rw [hmrk, hkd]; rfl
    have hpmt : pidMode d = true := by rw [hpm, hkd]; rfl
    have hv : (cv pid disk (plainParam d sGauge [] d.mode ka.1)).1 = (childOf d.decl ka.2).value :=
      hcells 0 _ _ (by rw [hp]; rfl) (by simp [cellValues, hk])
    simp only [mpChild, hk, hkd, hp, inChild, childSamples, List.map_cons, List.map_nil, exists_mem_singleton, mpFlat]
    rw [plain_name, plain_labels d hln, hv]
    have h1 : normD d ns (d.decl.name ++ []) (pyDict (plainLabels d ka.1 ++ [("pid".toList, pid)])) (childOf d.decl ka.2).value
        = some ((d.decl.name ++ [], plainLabels d ka.1), (childOf d.decl ka.2).value) := by
      rw [normD_eval d ns _ _ _ (hnc _) (by rw [hmr]; rfl), normLabels_mp_pid d hln hpid ka.1 hpmt pid]
    rw [h1, (plain_pair d hln hpid ka.1 ns (by rw [hmr]; rfl) [] (hnc _) (childOf d.decl ka.2).value).2]

theorem mp_hist_list (hw : WFDeclB bo Bs d) (bs : List (V × Str)) (hk : d.decl.kind = .histogram bs) :
    mpChild bo Bs d pid disk ka
      = ((d.decl.name ++ sSum, plainLabels d ka.1), (childOf d.decl ka.2).sum) ::
        (((leTexts d).zip (Model.Metrics.cumulate Val.zero (childOf d.decl ka.2).buckets)).map (fun ta =>
            ((d.decl.name ++ sBucket, plainLabels d ka.1 ++ [(leName, ta.1)]), ta.2))
          ++ [((d.decl.name ++ sCount, plainLabels d ka.1),
              (childOf d.decl ka.2).buckets.foldl Val.add Val.zero)]) := by
  obtain ⟨hsum, hbuckets⟩ := bucket_cells d pid disk ka hcells bs hk
  have hbv : bucketVals bo d pid disk Bs ka = (childOf d.decl ka.2).buckets := by
    unfold bucketVals
    rw [← hbuckets, hw.bounds.texts, List.map_map]
    rfl
  have hlenB : (childOf d.decl ka.2).buckets.length = Bs.length := by
    rw [← hbv]; simp [bucketVals]
  simp only [mpChild, hk]
  rw [hsum, voOf_zero_add hz]
  congr 1
  unfold Lemmas.Backends.childSeries
  simp only [hbv]
  rw [map_zero_add hz, cumulate_zip, hw.bounds.texts, List.zip_map_left, List.map_map]
  congr 1
  unfold Spec.Multiprocess.aggSum
  rw [List.map_snd_zip (by omega)]
  rfl

theorem child_norm_hist (hw : WFDeclB bo Bs d) (bs : List (V × Str)) (hk : d.decl.kind = .histogram bs)
    (hsum : Model.Metrics.sumExposed (bs.map (·.1)) = true) : ChildAgree bo Bs d ns pid disk ka := by
  intro kv
  have hln := hw.wf.lnNodup
  have hg : isGauge d = false := by simp [isGauge, hk]
  obtain ⟨hmr, hpm⟩ := nongauge_flags d hg
  have hpid : pidMode d = true → "pid".toList ∉ d.decl.labelnames := fun h => by rw [hpm] at h; cases h
  have hmr' : ∀ x, (isMostRecent d && x) = false := fun x => by rw [hmr]; rfl
  rw [mp_hist_list bo Bs d pid disk ka hz hcells hw bs hk, in_hist_list d bs hk hsum ka]
  have hS := plain_pair d hln hpid ka.1 ns (hmr' _) sSum (not_created d sSum sfx_not_created.2.2.1) (childOf d.decl ka.2).sum
  have hC := plain_pair d hln hpid ka.1 ns (hmr' _) sCount (not_created d sCount sfx_not_created.2.1)
    ((childOf d.decl ka.2).buckets.foldl Val.add Val.zero)
  have hBk : ∀ (t : Str) (a : V),
      normD d ns (d.decl.name ++ sBucket) (pyDict (plainLabels d ka.1 ++ [(leName, t)])) a
        = normD d ns (d.decl.name ++ sBucket) (d.decl.labelnames.zip ka.1 ++ [(leName, t)]) a := by
    intro t a
    rw [normD_eval d ns _ _ a (not_created d sBucket sfx_not_created.2.2.2) (hmr' _),
      normD_eval d ns _ _ a (not_created d sBucket sfx_not_created.2.2.2) (hmr' _),
      normLabels_bucket d hln ka.1 hpm hw.wf.noLe t]
  -- the same normalised samples, `_sum` first on one side and last on the other
  apply exists_norm_of_perm (fun x : SKey × V => normD d ns (mpFlat d x).name (mpFlat d x).labels (mpFlat d x).value)
    (fun f : Flat V => normD d ns f.name f.labels f.value)
  simp only [List.map_cons, List.map_append, List.map_map, List.map_nil, mpFlat, Function.comp_def]
  simp only [hBk]
  rw [cumulate_last_fold, hS.1, hS.2, hC.1, hC.2]
  exact (List.perm_append_singleton _ _).symm.trans (List.Perm.of_eq (List.append_assoc _ _ _))

theorem child_norm (hw : WFDeclB bo Bs d) (hnopid : isGauge d = true → pidLabel ∉ d.decl.labelnames)
    (hsum : ∀ bs, d.decl.kind = Kind.histogram bs → Model.Metrics.sumExposed (bs.map (·.1)) = true)
    (hlt : Val.lt (Val.zero : V) Val.zero = false)
    (hns : isMostRecent d = true → ns d.decl.name (plainLabels d ka.1) = !hasSet ka.2)
    (hts : isMostRecent d = true → ∀ p ∈ cellParams d ka.1, TsOK ka.2 (cv pid disk p).2) :
    ChildAgree bo Bs d ns pid disk ka := by
  cases hk : d.decl.kind with
  | counter => exact child_norm_sum bo Bs d ns pid disk ka hz hcells hw.wf.lnNodup (Or.inl hk)
  | summary => exact child_norm_sum bo Bs d ns pid disk ka hz hcells hw.wf.lnNodup (Or.inr hk)
  | gauge =>
    have hg : isGauge d = true := by simp [isGauge, hk]
    exact child_norm_gauge bo Bs d ns pid disk ka hz hcells hw.wf.lnNodup hk (hw.mode hg) (hnopid hg) hlt hns hts
  | histogram bs => exact child_norm_hist bo Bs d ns pid disk ka hz hcells hw bs hk (hsum bs hk)
  | info => exact absurd hw.wf.sup (by simp [Supported, hk])
  | enum s => exact absurd hw.wf.sup (by simp [Supported, hk])

end oneChild

end PromVerif.Lemmas.Backends
