/-
C10/C11: the format of a store file.  Little-endian packing, slices and slice writes on `List UInt8`; the entry-list view
of a file (header + encoded entries + tail) with the layout arithmetic for every key length, tied to the two generated
source expressions; the scan lemma: the reader loop over `pre ++ encEntries es ++ tail` returns exactly `es` (any tail:
the reader is bounded by the header) and never runs out of fuel; `FileRep`, and what the readers return on such a file.
-/
import PromVerif.Model.MmapDict
namespace PromVerif.Lemmas.Mmap
open PromVerif.Py PromVerif.Model.MmapDict PromVerif.Generated.Mmap

@[simp] theorem le_length (w n : Nat) : (le w n).length = w := by
  induction w generalizing n <;> simp [le, *]

theorem unle_le (w n : Nat) : unle (le w n) = n % 256 ^ w := by
  induction w generalizing n with
  | zero => simp [le, unle, Nat.mod_one]
  | succ w ih =>
    simp only [le, unle, ih]
    have : (UInt8.ofNat n).toNat = n % 256 := by simp
    rw [this, Nat.pow_succ', Nat.mod_mul]

theorem unle_le_of_lt (w n : Nat) (h : n < 256 ^ w) : unle (le w n) = n := by
  rw [unle_le, Nat.mod_eq_of_lt h]

@[simp] theorem le64_length (v : UInt64) : (le64 v).length = 8 := by simp [le64]

theorem unle64_le64 (v : UInt64) : unle64 (le64 v) = v := by
  unfold unle64 le64
  rw [unle_le_of_lt _ _ (by have := v.toNat_lt; omega)]
  simp

theorem slice_of_eq {data a b c : Bytes} {pos n : Nat} (h : data = a ++ (b ++ c)) (hp : pos = a.length)
    (hn : n = b.length) : slice data pos n = b := by
  subst h hp hn
  simp [slice]

theorem sliceWrite_of_eq {data a b c b' : Bytes} {pos : Nat} (h : data = a ++ (b ++ c)) (hp : pos = a.length)
    (hn : b'.length = b.length) : sliceWrite data pos b' = a ++ (b' ++ c) := by
  subst h hp
  simp [sliceWrite, hn]

theorem truncate_ge (f : Bytes) (n : Nat) (h : f.length ≤ n) : truncate f n = f ++ zeros (n - f.length) := by
  simp [truncate, List.take_of_length_le h]

@[simp] theorem zeros_length (n : Nat) : (zeros n).length = n := by simp [zeros]

theorem zeros_append (a b : Nat) : zeros a ++ zeros b = zeros (a + b) := by
  simp [zeros, List.replicate_append_replicate]

theorem take_zeros (m n : Nat) : (zeros n).take m = zeros (min m n) := by simp [zeros, List.take_replicate]

structure Entry where
  key : Key
  v : UInt64
  t : UInt64

/-- encoded key length -/
def klen (k : Key) : Nat := (encodeKey k).length

/-- pad bytes after a key of `n` encoded bytes (natural-number form of both source expressions) -/
def padLen (n : Nat) : Nat := 8 - (n + 4) % 8

def encEntry (e : Entry) : Bytes :=
  le 4 (klen e.key) ++ (encodeKey e.key ++ (List.replicate (padLen (klen e.key)) 32 ++ (le64 e.v ++ le64 e.t)))

def entryLen (k : Key) : Nat := 4 + klen k + padLen (klen k) + 16

def encEntries (es : List Entry) : Bytes := es.flatMap encEntry

/-- what the scan yields from offset `pos` -/
def scanOut (pos : Nat) : List Entry → List Item
  | [] => []
  | e :: es => (e.key, e.v, e.t, pos + 4 + klen e.key + padLen (klen e.key)) :: scanOut (pos + entryLen e.key) es

/-! ### ties to the generated arithmetic (re-proved against the source on every run) -/

/-- the cast to `Int` commutes with `+` and `%`, and `8 - x % 8` is not negative -/
theorem padCountWriter_eq (n : Nat) : padCountWriter n = padLen n := by
  have h : ((n : Int) + 4) % 8 = (((n + 4) % 8 : Nat) : Int) := by rw [Int.natCast_emod, Int.natCast_add]; rfl
  unfold padCountWriter padLen
  rw [h]
  exact Int.toNat_sub 8 _

theorem paddedLenReader_eq (n : Nat) : paddedLenReader n = n + padLen n := by
  rw [← padCountWriter_eq]
  unfold paddedLenReader padCountWriter
  rw [Int.toNat_add (Int.natCast_nonneg n) (Int.sub_nonneg_of_le (Int.le_of_lt (Int.emod_lt_of_pos _ (by decide)))),
    Int.toNat_natCast]

theorem layout (n : Nat) : (4 + n + padLen n) % 8 = 0 ∧ 1 ≤ padLen n ∧ padLen n ≤ 8 := by
  unfold padLen; omega

theorem entryLen_mod (k : Key) : entryLen k % 8 = 0 := by
  unfold entryLen; rw [Nat.add_mod, (layout (klen k)).1]

@[simp] theorem encEntry_length (e : Entry) : (encEntry e).length = entryLen e.key := by
  simp [encEntry, entryLen, klen]; omega

/-- the part of an entry that depends on the key only -/
def entryHead (k : Key) : Bytes := le 4 (klen k) ++ (encodeKey k ++ List.replicate (padLen (klen k)) 32)

theorem encEntry_eq (e : Entry) : encEntry e = entryHead e.key ++ (le64 e.v ++ le64 e.t) := by
  simp [encEntry, entryHead]

theorem entryHead_length (k : Key) : (entryHead k).length + 16 = entryLen k := by
  simp [entryHead, entryLen, klen]; omega

@[simp] theorem encEntries_nil : encEntries [] = [] := rfl
@[simp] theorem encEntries_cons (e : Entry) (es : List Entry) : encEntries (e :: es) = encEntry e ++ encEntries es := by
  simp [encEntries]
@[simp] theorem encEntries_append (a b : List Entry) : encEntries (a ++ b) = encEntries a ++ encEntries b := by
  simp [encEntries]

theorem entryLen_pos (k : Key) : 24 ≤ entryLen k := by
  unfold entryLen; have := layout (klen k); omega

theorem length_le_encEntries (es : List Entry) : 24 * es.length ≤ (encEntries es).length := by
  induction es with
  | nil => simp
  | cons e es ih => simp; have := entryLen_pos e.key; omega

theorem encEntries_length_mod (es : List Entry) : (encEntries es).length % 8 = 0 := by
  induction es with
  | nil => rfl
  | cons e es ih => rw [encEntries_cons, List.length_append, encEntry_length, Nat.add_mod, entryLen_mod, ih]

theorem decode_encode (k : Key) : decodeKey (encodeKey k) = .ok k := by
  unfold decodeKey encodeKey
  have e : ∀ b : ByteArray, ByteArray.mk b.data = b := fun _ => rfl
  simp only [String.toByteArray_ofList, Array.toArray_toList, e, List.utf8Decode?_utf8Encode]

/-- `struct.pack('i{n}sdd', …)` of a fresh key is the encoded entry at (0, 0) -/
theorem entryBytes_eq (k : Key) (h : klen k < 2147483648) : entryBytes k = .ok (encEntry ⟨k, 0, 0⟩) := by
  unfold entryBytes
  have h' : (encodeKey k).length < 2147483648 := h
  have hz : (8 - (4 + ((encodeKey k).length + padLen (encodeKey k).length)) % 8) % 8 = 0 := by
    rw [← Nat.add_assoc, (layout _).1]
  simp [h', padCountWriter_eq, hz, encEntry, klen, zeros, intWidth, padByte, le64, entryPacksDoubles]

section fields
variable {data pre rest : Bytes} {pos : Nat} {e : Entry}

theorem unpackInt_le {data a c : Bytes} {pos n : Nat} (h : data = a ++ (le 4 n ++ c)) (hp : pos = a.length)
    (hn : n < 2147483648) : unpackInt data pos = .ok (n : Int) := by
  have hs : slice data pos 4 = le 4 n := slice_of_eq h hp (by simp)
  have hl : pos + 4 ≤ data.length := by subst h hp; simp <;> omega
  unfold unpackInt
  simp only [intWidth, hl, hs, if_true]
  rw [unle_le_of_lt _ _ (by omega)]
  simp [hn]

theorem unpackInt_entry (h : data = pre ++ (encEntry e ++ rest)) (hp : pos = pre.length)
    (hk : klen e.key < 2147483648) : unpackInt data pos = .ok (klen e.key : Int) :=
  unpackInt_le (by rw [h, encEntry, List.append_assoc]) hp hk

theorem slice_key (h : data = pre ++ (encEntry e ++ rest)) (hp : pos = pre.length) :
    slice data (pos + 4) (klen e.key) = encodeKey e.key :=
  slice_of_eq (a := pre ++ le 4 (klen e.key)) (by simp only [h, encEntry, List.append_assoc]; rfl) (by simp [hp]) rfl

theorem unpackTwoDoubles_at {data a c : Bytes} {pos : Nat} {v t : UInt64} (h : data = a ++ (le64 v ++ le64 t ++ c))
    (hp : pos = a.length) : unpackTwoDoubles data pos = .ok (v, t) := by
  have h1 : slice data pos 8 = le64 v := slice_of_eq (c := le64 t ++ c) (by simp [h]) hp (by simp)
  have h2 : slice data (pos + 8) 8 = le64 t :=
    slice_of_eq (a := a ++ le64 v) (c := c) (by simp [h]) (by simp [hp]) (by simp)
  have hl : pos + 16 ≤ data.length := by subst h hp; simp <;> omega
  unfold unpackTwoDoubles
  simp [twoDoublesWidth, hl, h1, h2, unle64_le64]

theorem unpackTwoDoubles_entry (h : data = pre ++ (encEntry e ++ rest)) (hp : pos = pre.length) :
    unpackTwoDoubles data (pos + 4 + klen e.key + padLen (klen e.key)) = .ok (e.v, e.t) :=
  unpackTwoDoubles_at (a := pre ++ entryHead e.key) (c := rest) (by simp [h, encEntry_eq])
    (by simp [hp, klen, entryHead]; omega)

end fields

theorem unpackInt_zeros (n : Nat) (h : 4 ≤ n) : unpackInt (zeros n) headerPos = .ok 0 :=
  unpackInt_le (a := []) (c := zeros (n - 4)) (n := 0)
    (by rw [show le 4 0 = zeros 4 from rfl, zeros_append, Nat.add_sub_cancel' h]; rfl) rfl (by omega)

theorem readLoopAcc_entry {pre rest : Bytes} {e : Entry} {fuel pos used : Nat} (acc : List Item)
    (hp : pos = pre.length) (hu : pos + entryLen e.key ≤ used) (hl : used < 2147483648) :
    readLoopAcc (pre ++ (encEntry e ++ rest)) used (fuel + 1) pos acc
      = readLoopAcc (pre ++ (encEntry e ++ rest)) used fuel (pos + entryLen e.key)
          ((e.key, e.v, e.t, pos + 4 + klen e.key + padLen (klen e.key)) :: acc) := by
  have hlen : entryLen e.key = 4 + klen e.key + padLen (klen e.key) + 16 := rfl
  have harith : klen e.key < 2147483648 ∧ pos < used ∧ ¬ (klen e.key + pos > used) ∧
      pos + 4 + klen e.key + padLen (klen e.key) + 16 = pos + entryLen e.key ∧ ¬ (pos + entryLen e.key ≤ pos) := by omega
  obtain ⟨hk, hpos, hin, hnext, hprog⟩ := harith
  have h1 := unpackInt_entry (rest := rest) (e := e) rfl hp hk
  have h2 := slice_key (rest := rest) (e := e) rfl hp
  have h3 := unpackTwoDoubles_entry (rest := rest) (e := e) rfl hp
  have hneg : ¬ ((klen e.key : Int) < 0) := Int.not_lt.mpr (Int.natCast_nonneg _)
  rw [readLoopAcc]
  simp only [hpos, if_true, h1, hneg, if_false, Int.toNat_natCast, hin, paddedLenReader_eq, lenFieldSkip, valueSkip,
    ← Nat.add_assoc, h3, h2, decode_encode, hnext, hprog]

theorem readLoopAcc_ok (es : List Entry) : ∀ (pre tail : Bytes) (fuel pos used : Nat) (acc : List Item),
    pos = pre.length → used = pos + (encEntries es).length → used < 2147483648 → es.length ≤ fuel →
    readLoopAcc (pre ++ (encEntries es ++ tail)) used fuel pos acc = .ok (acc.reverse ++ scanOut pos es) := by
  induction es with
  | nil =>
    intro pre tail fuel pos used acc hp hu _ _
    have : ¬ pos < used := by simp at hu; omega
    cases fuel <;> simp [readLoopAcc, this, scanOut]
  | cons e es ih =>
    intro pre tail fuel pos used acc hp hu hlt hf
    cases fuel with
    | zero => simp at hf
    | succ fuel =>
      rw [encEntries_cons, List.length_append, encEntry_length, ← Nat.add_assoc] at hu
      have hih := ih (pre ++ encEntry e) tail fuel (pos + entryLen e.key) used
        ((e.key, e.v, e.t, pos + 4 + klen e.key + padLen (klen e.key)) :: acc) (by simp [hp]) hu hlt
        (Nat.le_of_succ_le_succ hf)
      rw [List.append_assoc] at hih
      rw [encEntries_cons, List.append_assoc, readLoopAcc_entry acc hp (hu ▸ Nat.le_add_right _ _) hlt, hih]
      simp [scanOut]

/-- the 8 header bytes: used-bytes counter and 4 bytes of padding (never written, zero since the first truncate) -/
def hdr (used : Nat) : Bytes := le 4 used ++ [0, 0, 0, 0]

@[simp] theorem hdr_length (u : Nat) : (hdr u).length = 8 := by simp [hdr]

/-- writing the counter replaces the header -/
theorem sliceWrite_hdr (u u' : Nat) (rest : Bytes) : sliceWrite (hdr u ++ rest) 0 (le 4 u') = hdr u' ++ rest := by
  rw [sliceWrite_of_eq (pos := 0) (a := []) (b := le 4 u) (c := [0, 0, 0, 0] ++ rest) (by simp [hdr]) rfl (by simp)]
  simp [hdr]

/-- `file` is header + the encoded entries `es` + `tail`, and the header counts exactly the entries.  Nothing is said
about `tail`: the readers never look beyond `used`. -/
structure FileRep (file : Bytes) (used : Nat) (es : List Entry) (tail : Bytes) : Prop where
  file_eq : file = hdr used ++ (encEntries es ++ tail)
  used_eq : used = 8 + (encEntries es).length
  used_lt : used < 2147483648

theorem FileRep.length {file used es tail} (h : FileRep file used es tail) : file.length = used + tail.length := by
  rw [h.file_eq, h.used_eq]; simp; omega

theorem FileRep.unpack_header {file used es tail} (h : FileRep file used es tail) :
    unpackInt file headerPos = .ok (used : Int) :=
  unpackInt_le (a := []) (c := [0, 0, 0, 0] ++ (encEntries es ++ tail)) (by simp [h.file_eq, hdr]) rfl h.used_lt

theorem FileRep.loop_ok {file used es tail} (h : FileRep file used es tail) :
    readLoop file used used scanStart = .ok (scanOut 8 es) := by
  have := length_le_encEntries es
  rw [h.file_eq]
  simpa [readLoop, scanStart] using readLoopAcc_ok es (hdr used) tail used 8 used [] (by simp) h.used_eq h.used_lt
    (by have := h.used_eq; omega)

theorem FileRep.used_pos {file used es tail} (h : FileRep file used es tail) : ¬ ((used : Int) ≤ 0) := by
  have := h.used_eq; omega

theorem FileRep.raw_ok {file used es tail} (h : FileRep file used es tail) :
    readAllValuesRaw file (used : Int) = .ok (scanOut 8 es) := by
  unfold Model.MmapDict.readAllValuesRaw
  simp only [h.used_pos, if_false, bind, Except.bind, Int.toNat_natCast]
  exact h.loop_ok

/-- `_read_all_values(data)` without a `used` argument takes it from the header -/
theorem FileRep.raw_zero_ok {file used es tail} (h : FileRep file used es tail) :
    readAllValuesRaw file 0 = .ok (scanOut 8 es) := by
  unfold Model.MmapDict.readAllValuesRaw
  simp only [Int.le_refl, if_true, h.unpack_header, bind, Except.bind, h.used_pos, if_false, Int.toNat_natCast]
  exact h.loop_ok

theorem FileRep.take {file used es tail} (h : FileRep file used es tail) (m : Nat) (hm : used ≤ m) :
    FileRep (file.take m) used es (tail.take (m - used)) := by
  refine ⟨?_, h.used_eq, h.used_lt⟩
  have hu := h.used_eq
  rw [h.file_eq, ← List.append_assoc, List.take_append, List.take_of_length_le (by simp; omega)]
  simp only [List.append_assoc, List.length_append, hdr_length]
  rw [← hu]

theorem FileRep.append_zeros {file u es tl} (h : FileRep file u es tl) (z : Nat) :
    FileRep (file ++ zeros z) u es (tl ++ zeros z) :=
  ⟨by rw [h.file_eq]; simp, h.used_eq, h.used_lt⟩

theorem FileRep.write_tail {file used es tail} (h : FileRep file used es tail) (b : Bytes) (hb : b.length ≤ tail.length) :
    FileRep (sliceWrite file used b) used es (b ++ tail.drop b.length) := by
  refine ⟨?_, h.used_eq, h.used_lt⟩
  rw [sliceWrite_of_eq (a := hdr used ++ encEntries es) (b := tail.take b.length) (c := tail.drop b.length)
    (by rw [h.file_eq, List.take_append_drop, List.append_assoc]) (by rw [List.length_append, hdr_length, ← h.used_eq])
    (by rw [List.length_take, Nat.min_eq_left hb]), List.append_assoc]

theorem FileRep.write_entry {file used es tail} (h : FileRep file used es tail) (e : Entry) (z : Nat)
    (hroom : entryLen e.key ≤ tail.length + z) :
    FileRep (sliceWrite (file ++ zeros z) used (encEntry e)) used es
      (encEntry e ++ (tail ++ zeros z).drop (entryLen e.key)) := by
  have := (h.append_zeros z).write_tail (encEntry e)
    (by rw [encEntry_length, List.length_append, zeros_length]; exact hroom)
  rwa [encEntry_length] at this

theorem FileRep.publish {file used es tail} {e : Entry} (h : FileRep file used es (encEntry e ++ tail))
    (hlt : used + entryLen e.key < 2147483648) :
    FileRep (sliceWrite file 0 (le 4 (used + entryLen e.key))) (used + entryLen e.key) (es ++ [e]) tail := by
  refine ⟨?_, by rw [h.used_eq, encEntries_append, List.length_append, encEntries_cons, encEntries_nil,
    List.append_nil, encEntry_length, Nat.add_assoc], hlt⟩
  rw [h.file_eq, sliceWrite_hdr, encEntries_append, encEntries_cons, encEntries_nil, List.append_nil, List.append_assoc]

/-! ## the collector's file reader: two `read()` calls -/

/-- the short-file guard of the source (`len(data) < 4`) does not fire on a first block that holds the counter -/
theorem shortFile_false {data : Bytes} (h : 4 ≤ data.length) : shortFile data = false := by
  simp [shortFile, shortFileGuard]; omega

/-- … and fires on anything shorter (re-proved against the extracted guard on every run) -/
theorem shortFile_true {data : Bytes} (h : data.length < 4) : shortFile data = true := by
  simp [shortFile, shortFileGuard]; omega

theorem fromFile_eq (page : Nat) (f : Bytes) : readAllValuesFromFile page f = readAllValuesFromFile2 page f f := rfl

/-- a first block shorter than the 4-byte counter (file created, not yet sized) reads as empty — the repaired
behaviour (F11) -/
theorem fromFile2_short (page : Nat) (f1 f2 : Bytes) (h : f1.length < 4) :
    readAllValuesFromFile2 page f1 f2 = .ok [] := by
  have : shortFile (f1.take page) = true := shortFile_true (by rw [List.length_take]; omega)
  simp [readAllValuesFromFile2, this]

theorem fromFile2_zeros (page n : Nat) (hp : 4 ≤ page) (f2 : Bytes) :
    readAllValuesFromFile2 page (zeros n) f2 = .ok [] := by
  by_cases hn : n < 4
  · exact fromFile2_short page _ f2 (by rw [zeros_length]; exact hn)
  have h0 := unpackInt_zeros (min page n) (by omega)
  have hsf : shortFile (zeros (min page n)) = false := shortFile_false (by simp; omega)
  have : ¬ ((0 : Int) > ((zeros (min page n)).length : Int)) := by omega
  unfold readAllValuesFromFile2
  simp only [take_zeros, hsf, Bool.false_eq_true, if_false, h0, bind, Except.bind, this]
  unfold readAllValuesRaw
  simp [h0, bind, Except.bind]

theorem fromFile_short (page : Nat) (f : Bytes) (h : f.length < 4) : readAllValuesFromFile page f = .ok [] :=
  fromFile2_short page f f h

theorem fromFile_empty (page : Nat) : readAllValuesFromFile page [] = .ok [] :=
  fromFile_short page [] (by simp)

theorem fromFile_zeros (page n : Nat) (hp : 4 ≤ page) : readAllValuesFromFile page (zeros n) = .ok [] :=
  fromFile2_zeros page n hp _

/-- `unpack_from` looks at its four bytes only -/
theorem unpackInt_take (data : Bytes) (pos m : Nat) (h : pos + intWidth ≤ m) :
    unpackInt (data.take m) pos = unpackInt data pos := by
  have hs : slice (data.take m) pos intWidth = slice data pos intWidth := by
    unfold slice
    rw [List.drop_take, List.take_take, Nat.min_eq_left (Nat.le_sub_of_add_le' h)]
  have hl : pos + intWidth ≤ (data.take m).length ↔ pos + intWidth ≤ data.length := by
    rw [List.length_take, Nat.le_min]
    exact ⟨And.right, fun h' => ⟨h, h'⟩⟩
  unfold unpackInt
  by_cases hc : pos + intWidth ≤ data.length
  · rw [if_pos hc, if_pos (hl.mpr hc), hs]
  · rw [if_neg hc, if_neg (fun h' => hc (hl.mp h'))]

/-- with the counter inside the first block, the two reads hand `_read_all_values` the first block or, if the entries do
not fit into it, the first block followed by the bytes up to `used` of the second snapshot -/
theorem FileRep.fromFile2_eq {f1 used es tail} (h : FileRep f1 used es tail) (page : Nat) (hp : 4 ≤ page) (f2 : Bytes) :
    readAllValuesFromFile2 page f1 f2 = readAllValuesRaw
      (if page < used then f1.take page ++ (f2.drop page).take (used - page) else f1.take page) used := by
  have hle : used ≤ f1.length ∧ 4 ≤ f1.length := by have := h.length; have := h.used_eq; omega
  have hsf : shortFile (f1.take page) = false :=
    shortFile_false (by rw [List.length_take]; exact Nat.le_min.mpr ⟨hp, hle.2⟩)
  have hhead : unpackInt (f1.take page) headerPos = .ok (used : Int) := by
    rw [unpackInt_take _ _ _ (show headerPos + intWidth ≤ page from hp)]; exact h.unpack_header
  unfold readAllValuesFromFile2
  simp only [hsf, Bool.false_eq_true, if_false, hhead, bind, Except.bind, Int.toNat_natCast, List.length_take]
  by_cases hc : page < used
  · rw [Nat.min_eq_left (Nat.le_trans (Nat.le_of_lt hc) hle.1), if_pos hc, if_pos (Int.ofNat_lt.mpr hc)]
  · rw [if_neg hc, if_neg (fun h' => Nat.not_lt.mpr (Nat.le_min.mpr ⟨Nat.le_of_not_lt hc, hle.1⟩) (Int.ofNat_lt.mp h'))]

/-- the collector's file reader (two reads: one page, then the rest up to `used`) sees exactly the entries -/
theorem FileRep.fromFile_ok {file used es tail} (h : FileRep file used es tail) (page : Nat) (hp : 4 ≤ page) :
    readAllValuesFromFile page file = .ok (scanOut 8 es) := by
  rw [fromFile_eq, h.fromFile2_eq page hp]
  by_cases hc : page < used
  · rw [if_pos hc, ← List.take_add, show page + (used - page) = used by omega]
    exact (h.take used (Nat.le_refl _)).raw_ok
  · rw [if_neg hc]
    exact (h.take page (by omega)).raw_ok

theorem readMetrics_ok (page : Nat) : ∀ (files : List Bytes),
    (∀ f ∈ files, ∃ items, readAllValuesFromFile page f = .ok items) → ∃ r, readMetrics page files = .ok r := by
  intro files
  induction files with
  | nil => intro _; exact ⟨[], rfl⟩
  | cons f files ih =>
    intro h
    obtain ⟨items, hi⟩ := h f (by simp)
    obtain ⟨r, hr⟩ := ih (fun g hg => h g (List.mem_cons_of_mem _ hg))
    unfold readMetrics at hr ⊢
    exact ⟨items :: r, by simp [List.mapM_cons, hi, hr, bind, Except.bind, pure, Except.pure]⟩

theorem readMetrics_fail (page : Nat) (healthy : Bytes) (items : List Item) (bad : Bytes) (rest : List Bytes) (e : PyErr)
    (h1 : readAllValuesFromFile page healthy = .ok items) (h2 : readAllValuesFromFile page bad = .error e) :
    readMetrics page (healthy :: bad :: rest) = .error e := by
  unfold readMetrics
  simp [List.mapM_cons, h1, h2, bind, Except.bind]

end PromVerif.Lemmas.Mmap
