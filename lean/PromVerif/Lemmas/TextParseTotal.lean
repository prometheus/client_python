/-
Totality of the text parser model (C14, text part): which exception classes can escape from each function, and that the
fuel of the label loop always suffices.
-/
import PromVerif.Lemmas.TextParseDoc

namespace PromVerif.Lemmas.TextTotal
open PromVerif.Py PromVerif.Model.ParseCore PromVerif.Model.Validation PromVerif.Model.TextParse
open PromVerif.Lemmas.Scanner PromVerif.Lemmas.TextParse

/-- the label-block invariant: no unquoted '}' -/
def NoRB (s : Str) : Prop := noHit rbChs s false false = true

theorem noRB_nil : NoRB [] := rfl

theorem noRB_prefix {a b : Str} (h : NoRB (a ++ b)) : NoRB a := by
  unfold NoRB at h ⊢
  rw [noHit_append, Bool.and_eq_true] at h
  exact h.1

theorem noRB_plain_cons {c : Char} {s : Str} (h1 : c ≠ '"') (h2 : c ≠ '\\') (h : NoRB (c :: s)) : NoRB s := by
  unfold NoRB at h ⊢
  simp only [noHit, qStep, bsStep, beq_false_of_ne h1, beq_false_of_ne h2, Bool.false_and, Bool.false_eq_true, ↓reduceIte,
    Bool.not_false, Bool.true_and, Bool.and_eq_true] at h
  exact h.2

theorem space_not_quote {c : Char} (h : isPySpace c = true) : c ≠ '"' ∧ c ≠ '\\' := by
  constructor <;> (intro e; subst e; revert h; decide)

theorem noRB_lstrip {s : Str} (h : NoRB s) : NoRB (lstrip s) := by
  induction s with
  | nil => exact h
  | cons c cs ih =>
    unfold lstrip lstripSet
    rw [List.dropWhile_cons]
    by_cases hc : isPySpace c = true
    · simp only [hc, ↓reduceIte]
      have := space_not_quote hc
      exact ih (noRB_plain_cons this.1 this.2 h)
    · simp only [hc, Bool.false_eq_true, ↓reduceIte]; exact h

theorem noRB_strip {s : Str} (h : NoRB s) : NoRB (strip s) := by
  obtain ⟨j, hj, _⟩ := rstripSet_prefix isPySpace (lstrip s)
  have := noRB_lstrip h
  rw [hj] at this
  exact noRB_prefix this

theorem comma_of_hit {a b : Str} {c : Char} (hI : NoRB (a ++ c :: b))
    (hc : (!(qStep (run a false false).1 (run a false false).2 c) && (c == ',' || c == '}')) = true) :
    c = ',' ∧ NoRB (c :: b) := by
  unfold NoRB at hI ⊢
  rw [noHit_append, Bool.and_eq_true, noHit, Bool.and_eq_true] at hI
  rw [Bool.and_eq_true, Bool.or_eq_true, beq_iff_eq, beq_iff_eq] at hc
  obtain ⟨hq, hcc⟩ := hc
  have hcomma : c = ',' := by
    rcases hcc with h | h
    · exact h
    · rw [hq, h] at hI; exact absurd hI.2.1 (by decide)
  subst hcomma
  have hq' : (run a false false).1 = false := by simpa [qStep] using hq
  rw [hq'] at hI
  exact ⟨rfl, by rw [noHit, Bool.and_eq_true]; exact ⟨rfl, hI.2.2⟩⟩

theorem nextTermTail_spec {t term rest : Str} (hI : NoRB t) (h : nextTermTail t = .ok (term, rest)) :
    rest.length ≤ t.length ∧ (t ≠ [] → t.head? ≠ some ',' → rest.length < t.length) ∧ NoRB rest := by
  unfold nextTermTail at h
  simp only [Except.ok.injEq, Prod.mk.injEq] at h
  obtain ⟨_, rfl⟩ := h
  cases hs : nextUnquotedChar t (fun ch => ch == ',' || ch == '}') with
  | none =>
    simp only [List.drop_length, strip_nil]
    exact ⟨Nat.zero_le _, fun hne _ => List.length_pos_iff.mpr hne, noRB_nil⟩
  | some p =>
    rw [nextUnquotedChar_zero] at hs
    obtain ⟨a, c, b, e, hl, _, hc⟩ := scan_some_split _ _ _ _ _ hs
    subst e hl
    obtain ⟨hcomma, hnb⟩ := comma_of_hit hI hc
    have hle := strip_length_le (c :: b)
    simp only [List.drop_left, List.length_append, List.length_cons] at hle ⊢
    refine ⟨by omega, fun _ hh => ?_, noRB_strip hnb⟩
    -- the split is at a comma: at position 0 it would be the first character
    cases a with
    | nil => exact absurd (by rw [hcomma]; rfl) hh
    | cons x xs => simp only [List.length_cons]; omega

theorem nextTerm_spec (sub : Str) (hne : sub ≠ []) (hI : NoRB sub) :
    Safe (nextTerm sub false) ∧
    ∀ term rest, nextTerm sub false = .ok (term, rest) → rest.length < sub.length ∧ NoRB rest := by
  have hsafe : ∀ t, Safe (nextTermTail t) := fun t e he => by unfold nextTermTail at he; cases he
  cases sub with
  | nil => exact absurd rfl hne
  | cons c rest0 =>
    by_cases hc : c = ','
    · subst hc
      have hI' : NoRB rest0 := noRB_plain_cons (by decide) (by decide) hI
      cases rest0 with
      | nil =>
        rw [nextTerm_comma_nil]
        exact ⟨safe_ok _, fun term rest h => by cases h; exact ⟨Nat.zero_lt_succ _, noRB_nil⟩⟩
      | cons d ds =>
        by_cases hd : d = ','
        · subst hd
          rw [nextTerm_comma_comma]
          exact ⟨safe_valueError, fun _ _ h => by cases h⟩
        · rw [nextTerm_comma_cons d ds hd]
          refine ⟨hsafe _, fun term rest h => ?_⟩
          obtain ⟨hle, _, hn⟩ := nextTermTail_spec hI' h
          exact ⟨Nat.lt_succ_of_le hle, hn⟩
    · rw [nextTerm_no_comma c rest0 hc]
      refine ⟨hsafe _, fun term rest h => ?_⟩
      obtain ⟨_, hlt, hn⟩ := nextTermTail_spec hI h
      exact ⟨hlt (List.cons_ne_nil _ _) (by simpa using hc), hn⟩

theorem parseOneLabel_spec (legacy : Bool) (sub : Str) (hne : sub ≠ []) (hI : NoRB sub) (labels : List (Str × Str)) :
    Safe (parseOneLabel legacy false sub labels) ∧
    ∀ l' rest, parseOneLabel legacy false sub labels = .ok (l', rest) → rest.length < sub.length ∧ NoRB rest := by
  obtain ⟨hs, hr⟩ := nextTerm_spec sub hne hI
  rw [parseOneLabel_eq]
  refine ⟨safe_bind hs (fun tr _ => oneLabelBody_safe _ _ _ _), ?_⟩
  intro l' rest h
  cases hnt : nextTerm sub false with
  | error e => rw [hnt] at h; cases h
  | ok tr =>
    rw [hnt] at h
    rw [oneLabelBody_rest legacy labels tr.1 tr.2 l' rest h]
    exact hr tr.1 tr.2 hnt

/-- with fuel above the length of a string without unquoted '}', `timeout` is unreachable -/
theorem parseLabelsLoop_safe (legacy : Bool) : ∀ (fuel : Nat) (sub : Str) (labels : List (Str × Str)),
    sub.length < fuel → NoRB sub → Safe (parseLabelsLoop legacy false fuel sub labels) := by
  intro fuel
  induction fuel with
  | zero => intro sub labels h; omega
  | succ f ih =>
    intro sub labels hf hI
    rw [parseLabelsLoop]
    cases sub with
    | nil => exact safe_ok _
    | cons c cs =>
      obtain ⟨hs, hr⟩ := parseOneLabel_spec legacy (c :: cs) (List.cons_ne_nil c cs) hI labels
      refine safe_bind hs (fun ⟨l', rest⟩ hx => ?_)
      obtain ⟨hlt, hn⟩ := hr l' rest hx
      exact ih rest l' (by omega) hn

theorem parseLabels_safe (legacy : Bool) (s : Str) (hI : NoRB s) : Safe (parseLabels legacy s false) := by
  unfold parseLabels
  simp only [Bool.false_and, Bool.false_eq_true, ↓reduceIte]
  exact parseLabelsLoop_safe legacy _ _ _ (by omega) (noRB_strip hI)

/-- `x / 1000` raises only ValueError: the OverflowError of a huge int is caught and re-raised (this is where the
re-extracted flag `tsOverflowToValueError` is used; without the handler the proof does not go through) -/
theorem safe_divThousand (t : Num) : Safe (divThousand t) := by
  cases t with
  | flt b => exact safe_ok _
  | int n =>
    have hflag : PromVerif.Generated.TextParse.tsOverflowToValueError = true := rfl
    unfold divThousand
    rw [hflag]
    exact safe_ite safe_valueError (safe_ok _)

theorem safe_pvt (pyInt : Str → Option Int) (pyFloat : Str → Option Nat) (s : Str) :
    Safe (parseValueAndTimestamp pyInt pyFloat s) := by
  unfold parseValueAndTimestamp
  simp only []
  split
  · split
    · exact safe_ok _
    · exact safe_valueError
  · refine safe_bind (safe_parseValue _ _ _) (fun value _ => ?_)
    split
    · exact safe_pure _
    · exact safe_bind (safe_parseValue _ _ _) (fun t _ => safe_bind (safe_divThousand t) (fun _ _ => safe_pure _))

theorem run_after_lbrace (t : Str) (i : Nat) (h : nextUnquotedChar t (· == '{') = some i) :
    run (t.take (i + 1)) false false = (false, false) := by
  rw [nextUnquotedChar_zero] at h
  obtain ⟨a, c, b, e, hl, _, hc⟩ := scan_some_split _ _ _ _ _ h
  simp only [Bool.and_eq_true, Bool.not_eq_true', beq_iff_eq] at hc
  obtain ⟨hq, hcc⟩ := hc
  subst hcc
  rw [e, ← hl, List.append_cons, List.take_left' (by simp), run_append]
  have hq' : (run a false false).1 = false := by simpa [qStep] using hq
  simp [run, qStep, bsStep, hq']

theorem sliceTo_eq_take (t : Str) (le : Option Nat) : ∃ m, sliceTo t le = t.take m := by
  cases le with
  | none => exact ⟨t.length - 1, List.dropLast_eq_take⟩
  | some p => exact ⟨p, rfl⟩

theorem noRB_take_of_scan (t : Str) : NoRB (sliceTo t (nextUnquotedChar t (· == '}'))) := by
  generalize h : nextUnquotedChar t (· == '}') = le
  rw [nextUnquotedChar_zero] at h
  cases le with
  | none =>
    obtain ⟨m, hm⟩ := sliceTo_eq_take t none
    rw [hm]
    exact noRB_prefix (b := t.drop m) (by rw [List.take_append_drop]; exact scan_none_noHit rbChs t false false h)
  | some p =>
    obtain ⟨a, c, b, e, hl, hn, _⟩ := scan_some_split rbChs _ _ _ _ h
    subst hl
    rw [e]
    show NoRB (List.take a.length (a ++ c :: b))
    rw [List.take_left]
    exact hn

theorem noRB_drop {x : Str} (k : Nat) (hx : NoRB x) (hr : run (x.take k) false false = (false, false)) : NoRB (x.drop k) := by
  unfold NoRB at hx ⊢
  rw [← List.take_append_drop k x, noHit_append, hr, Bool.and_eq_true] at hx
  exact hx.2

theorem noRB_label_block (text : Str) (ls : Nat) (h1 : nextUnquotedChar text (· == '{') = some ls) :
    NoRB ((sliceTo text (nextUnquotedChar text (· == '}'))).drop (ls + 1)) := by
  have hX := noRB_take_of_scan text
  obtain ⟨m, hm⟩ := sliceTo_eq_take text (nextUnquotedChar text (· == '}'))
  rw [hm] at hX ⊢
  by_cases hle : ls + 1 ≤ m
  · apply noRB_drop _ hX
    rw [List.take_take, Nat.min_eq_left hle]
    exact run_after_lbrace text ls h1
  · rw [List.drop_eq_nil_of_le (by rw [List.length_take]; omega)]
    exact noRB_nil

theorem safe_parseSample (legacy : Bool) (pyInt : Str → Option Int) (pyFloat : Str → Option Nat) (text : Str) :
    Safe (parseSample legacy pyInt pyFloat text) := by
  unfold parseSample
  cases hls : nextUnquotedChar text (· == '{') with
  | none =>
    simp only [↓reduceIte]
    exact safe_ite safe_valueError (safe_bind (safe_pvt _ _ _) (fun _ _ => safe_pure _))
  | some ls =>
    simp only [Option.getD_some]
    by_cases hinf : isInfix sepHash (text.take ls) = true
    · simp only [hinf, ↓reduceIte]
      exact safe_ite safe_valueError (safe_bind (safe_pvt _ _ _) (fun _ _ => safe_pure _))
    · simp only [hinf, Bool.false_eq_true, ↓reduceIte]
      apply safe_bind (parseLabels_safe legacy _ (noRB_label_block text ls hls))
      intro labels _
      refine safe_bind (safe_ite ?_ (safe_ite safe_throw (safe_pure _)))
        (fun _ _ => safe_bind (safe_pvt _ _ _) (fun _ _ => safe_pure _))
      split
      · exact safe_throw
      · exact safe_pure _

theorem safe_buildMetric (legacy : Bool) (name doc typ : Str) (samples : List PSample) :
    Safe (buildMetric legacy name doc typ samples) := by
  unfold buildMetric
  exact safe_bind (safe_validateMetricName _ _) (fun _ _ => safe_ite (safe_throw_bind _) (safe_pure _))

theorem safe_flush (legacy : Bool) (st : St) : Safe (flush legacy st) := by
  unfold flush
  exact safe_ite (safe_pure _) (safe_bind (safe_buildMetric _ _ _ _ _) (fun _ _ => safe_pure _))

theorem safe_openFamily (legacy : Bool) (st st' : St) (n : Str) : Safe (openFamily legacy st st' n) :=
  safe_ite (safe_bind (safe_flush _ _) (fun _ _ => safe_pure _)) (safe_pure _)

theorem safe_metaBody (legacy : Bool) (st : St) (parts : List Str) (p1 candidate : Str) :
    Safe (metaBody legacy st parts p1 candidate) := by
  unfold metaBody
  refine safe_ite (safe_bind (safe_openFamily _ _ _ _) (fun _ _ => safe_pure _)) (safe_ite ?_ (safe_pure _))
  exact safe_ite safe_throw (safe_bind (safe_openFamily _ _ _ _) (fun _ _ => safe_pure _))

theorem safe_metaStep (legacy : Bool) (st : St) (parts : List Str) : Safe (metaStep legacy st parts) := by
  unfold metaStep
  refine safe_ite (safe_pure _) (safe_bind ?_ (fun _ _ => safe_metaBody _ _ _ _ _))
  cases parts[2]? with
  | none => exact safe_pure _
  | some p2 => exact safe_bind (unquoteUnescape_safe_all p2) (fun _ _ => safe_ite (safe_throw_bind _) (safe_pure _))

theorem safe_sampleStep (legacy : Bool) (st : St) (sample : PSample) : Safe (sampleStep legacy st sample) := by
  unfold sampleStep
  refine safe_ite (safe_bind (safe_flush _ _) (fun _ _ => ?_)) (safe_pure _)
  exact safe_bind (safe_buildMetric _ _ _ _ _) (fun _ _ => safe_pure _)

theorem safe_stepLine (legacy : Bool) (pyInt : Str → Option Int) (pyFloat : Str → Option Nat) (st : St) (rawLine : Str) :
    Safe (stepLine legacy pyInt pyFloat st rawLine) := by
  rw [stepLine_eq]
  refine safe_ite (safe_metaStep _ _ _) (safe_ite (safe_pure _) ?_)
  exact safe_bind (safe_parseSample _ _ _ _) (fun _ _ => safe_sampleStep _ _ _)

theorem safe_runLines (legacy : Bool) (pyInt : Str → Option Int) (pyFloat : Str → Option Nat) :
    ∀ (ls : List Str) (st : St) (acc : List PFamily), Safe (runLines legacy pyInt pyFloat ls st acc) := by
  intro ls
  induction ls with
  | nil => intro st acc; exact safe_pure _
  | cons l ls ih =>
    intro st acc
    rw [runLines]
    exact safe_bind (safe_stepLine _ _ _ _ _) (fun x _ => ih _ _)

/-- **`list(text_string_to_metric_families(text))` ends in families or ValueError** — every input, every `int()`/`float()` -/
theorem safe_textParse (legacy : Bool) (pyInt : Str → Option Int) (pyFloat : Str → Option Nat) (text : Str) :
    Safe (textParse legacy pyInt pyFloat text) := by
  unfold textParse
  exact safe_bind (safe_runLines _ _ _ _ _ _) (fun x _ => safe_bind (safe_flush _ _) (fun _ _ => safe_pure _))

end PromVerif.Lemmas.TextTotal
