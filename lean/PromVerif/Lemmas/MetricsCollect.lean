/-
The samples of a replayed metric are the samples the reference reads off the history.
-/
import PromVerif.Lemmas.MetricsHist
import PromVerif.Lemmas.MetricsRun

namespace PromVerif.Lemmas.Metrics
open PromVerif.Py PromVerif.Model.Metrics PromVerif.Generated.Metrics
open PromVerif.Spec.Metrics

variable {V : Type} [Val V]

/-- what the reference assumes of a declaration: histogram bounds sorted by `<=` (checked by `_prepare_buckets`),
enum states pairwise distinct -/
def GoodDecl (d : Decl V) : Prop :=
  match d.kind with
  | .histogram bs => (bs.map (·.1)).Pairwise (fun x y => Val.le x y = true)
  | .enum states => states.Nodup
  | _ => True

theorem series_eq (hrf : resetStoresFloat = true) {B : Nat} (hx : CountExact V B) (htr : LeTrans V) (d : Decl V) (hg : GoodDecl d)
    (acts : List (Action V)) (hok : ∀ a ∈ acts, okAct d a) (hlen : acts.length ≤ B) :
    childSamples d (childOf d acts) = seriesSamples d acts := by
  have hobs := observations_length_le acts
  cases hk : d.kind with
  | counter => simp only [childSamples, seriesSamples, hk, counter_value hrf d hk acts hok]
  | gauge => simp only [childSamples, seriesSamples, hk, gauge_value d hk acts]
  | summary =>
    obtain ⟨h1, h2⟩ := summary_cells d hk acts
    simp only [childSamples, seriesSamples, hk, h1, h2]
    rw [addOnes_exact hx _ (by omega)]
  | info => simp only [childSamples, seriesSamples, hk, info_value d hk acts hok]
  | enum states =>
    have hnd : states.Nodup := by simpa [GoodDecl, hk] using hg
    simp only [childSamples, seriesSamples, hk]
    exact enumSamples_eq d.name _ _ states hnd (enum_state d states hk acts hok)
  | histogram bs =>
    have hp : (bs.map (·.1)).Pairwise (fun x y => Val.le x y = true) := by simpa [GoodDecl, hk] using hg
    simp only [childSamples, seriesSamples, hk, (histogram_cells d bs hk acts).1,
      cumulate_childOf hx htr d bs hk hp acts hlen, sumExposed_eq]
    congr 1
    congr 1
    · rw [List.zip_eq_zipWith, List.zipWith_map_right, List.map_zipWith, List.zipWith_self]
    · rw [List.getLast?_map]
      cases bs.getLast? <;> rfl

/-- every recorded history has at most `n` calls -/
def HistLen (n : Nat) (h : Hist V) : Prop := h.single.length ≤ n ∧ ∀ kh ∈ h.table, kh.2.length ≤ n

theorem metric_eq (hrf : resetStoresFloat = true) {B : Nat} (hx : CountExact V B) (htr : LeTrans V) (d : Decl V) (hg : GoodDecl d) (h : Hist V)
    (hok : AllOk d h) (hlen : HistLen B h) :
    Model.Metrics.metricSamples (metricOf d h) = Spec.Metrics.metricSamples d h := by
  unfold Model.Metrics.metricSamples Spec.Metrics.metricSamples
  cases hl : d.labelnames.isEmpty with
  | true =>
    simp only [metricOf, hl, Bool.not_true, Bool.false_eq_true, if_false, if_true]
    rw [series_eq hrf hx htr d hg h.single (hok.1 hl) hlen.1]
  | false =>
    simp only [metricOf, hl, Bool.not_false, if_true]
    rw [List.flatMap_map, List.flatMap_def, List.flatMap_def]
    congr 2
    exact List.map_congr_left (fun kh hm => by rw [series_eq hrf hx htr d hg kh.2 (hok.2 kh hm) (hlen.2 kh hm)])

theorem collect_eq (hrf : resetStoresFloat = true) {B : Nat} (hx : CountExact V B) (htr : LeTrans V) :
    ∀ (ds : List (Decl V)) (hs : List (Hist V)), (∀ d ∈ ds, GoodDecl d) → Forall2 AllOk ds hs →
      (∀ h ∈ hs, HistLen B h) →
      Model.Metrics.collect (List.zipWith metricOf ds hs) = collectHist ds hs := by
  intro ds hs hg hall hl
  induction hall with
  | nil => rfl
  | cons h1 _ ih =>
    rw [List.forall_mem_cons] at hg hl
    exact List.cons_eq_cons.mpr ⟨metric_eq hrf hx htr _ hg.1 _ h1 hl.1, ih hg.2 hl.2⟩


theorem histLen_mono {n m : Nat} (hnm : n ≤ m) (h : Hist V) (hl : HistLen n h) : HistLen m h :=
  ⟨Nat.le_trans hl.1 hnm, fun kh hm => Nat.le_trans (hl.2 kh hm) hnm⟩

theorem recordOn_len (n : Nat) (ln : List Str) (h : Hist V) (o : Op V) (hl : HistLen n h) :
    HistLen (n + 1) (recordOn ln h o) := by
  cases o with
  | call i addr act =>
    simp only [recordOn]
    split
    · exact ⟨by simp; exact hl.1, fun kh hm => Nat.le_succ_of_le (hl.2 kh hm)⟩
    · exact ⟨Nat.le_succ_of_le hl.1, forall_appendAt (Q := fun l => l.length ≤ n) (R := fun l => l.length ≤ n + 1) _ act
        (fun _ => Nat.le_succ_of_le) (fun l h => by rw [List.length_append]; exact Nat.succ_le_succ h)
        (Nat.le_add_left 1 n) h.table hl.2⟩
  | remove i vs =>
    exact ⟨Nat.le_succ_of_le hl.1, fun kh hm => Nat.le_succ_of_le (hl.2 kh (List.mem_filter.mp hm).1)⟩
  | clear i => exact ⟨Nat.le_succ_of_le hl.1, fun kh hm => by simp [recordOn] at hm⟩

theorem forall_modifyNth {α : Type} {P Q : α → Prop} (f : α → α) (hold : ∀ x, P x → Q x) (hf : ∀ x, P x → Q (f x))
    (i : Nat) (l : List α) (hall : ∀ x ∈ l, P x) : ∀ x ∈ modifyNth f i l, Q x := by
  induction l generalizing i with
  | nil => intro x hx; rw [modifyNth] at hx; cases hx
  | cons a l ih =>
    rw [List.forall_mem_cons] at hall
    cases i with
    | zero => exact List.forall_mem_cons.mpr ⟨hf a hall.1, fun x hx => hold x (hall.2 x hx)⟩
    | succ i => exact List.forall_mem_cons.mpr ⟨hold a hall.1, ih i hall.2⟩

omit [Val V] in
/-- An invariant of the single histories that `recordOn` maintains — possibly weakening with the number of calls, like
a length bound — holds of every history `history` builds. -/
theorem history_invariant (P : Nat → Hist V → Prop) (h0 : P 0 Hist.empty) (mono : ∀ n h, P n h → P (n + 1) h)
    (hstep : ∀ n ln h o, P n h → P (n + 1) (recordOn ln h o)) (ds : List (Decl V)) (ops : List (Op V)) :
    ∀ h ∈ history ds ops, P ops.length h := by
  have key : ∀ (ops : List (Op V)) (n : Nat) (hs : List (Hist V)), (∀ h ∈ hs, P n h) →
      ∀ h ∈ ops.foldl (record ds) hs, P (n + ops.length) h := by
    intro ops
    induction ops with
    | nil => intro n hs hl; exact hl
    | cons o ops ih =>
      intro n hs hl
      rw [List.foldl_cons, List.length_cons, Nat.add_comm ops.length 1, ← Nat.add_assoc]
      apply ih
      unfold record
      split
      · exact fun h hm => mono n h (hl h hm)
      · exact forall_modifyNth _ (mono n) (fun y hy => hstep n _ y o hy) _ _ hl
  have := key ops 0 (ds.map (fun _ => Hist.empty)) (List.forall_mem_map.mpr (fun _ _ => h0))
  rwa [Nat.zero_add] at this

theorem history_len (ds : List (Decl V)) (ops : List (Op V)) : ∀ h ∈ history ds ops, HistLen ops.length h :=
  history_invariant HistLen ⟨Nat.le_refl _, nofun⟩ (fun n h => histLen_mono (Nat.le_succ n) h)
    (fun n ln h o => recordOn_len n ln h o) ds ops

theorem accepted_length : ∀ (ops : List (Op V)) (r : Reg V), (accepted r ops).length ≤ ops.length
  | [], _ => Nat.le_refl 0
  | op :: ops, r => by
    have := accepted_length ops (step r op).1
    simp only [accepted, List.length_append, List.length_cons]
    cases acceptedOp r op <;> simp <;> omega

end PromVerif.Lemmas.Metrics
