/-
Lemmas for C16, signature part: what `def name(<signature>)` declares, what `<shortsignature>` forwards, and
that binding the forwarded arguments gives back the environment the wrapper bound.
-/
import PromVerif.Model.Wrappers
import PromVerif.Spec.Wrappers

namespace PromVerif.Lemmas.WrappersSig
open PromVerif.Py PromVerif.Model.Wrappers PromVerif.Spec.Wrappers PromVerif.Generated.Wrappers

theorem parse_plain (ns : List Name) (rest : List SigItem) :
    parseItems (ns.map .plain ++ rest) false
      = { parseItems rest false with pos := ns ++ (parseItems rest false).pos } := by
  induction ns with
  | nil => rfl
  | cons n ns ih => simp [parseItems, ih]

theorem parse_kwNone (ks : List Name) (rest : List SigItem) :
    parseItems (ks.map .kwNone ++ rest) true
      = { parseItems rest true with kwonly := ks ++ (parseItems rest true).kwonly } := by
  induction ks with
  | nil => rfl
  | cons n ns ih => simp [parseItems, ih]

theorem parse_signatureItems (s : ArgSpec) :
    parseItems (signatureItems s) false = ⟨s.posonly ++ s.pos, s.varargs, s.kwonly, s.varkw⟩ := by
  unfold signatureItems fullArgs
  rw [List.append_assoc, List.append_assoc, parse_plain]
  cases s.varkw <;> cases s.varargs <;> cases s.kwonly <;>
    simp [-List.append_nil, parseItems, parse_kwNone]

/-- the wrapper declares the same names in the same order; positional-only parameters have become
positional-or-keyword; defaults, kw-defaults, annotations, doc are the original's objects -/
theorem wrapperSpec_eq (s : ArgSpec) (wid : Nat) :
    wrapperSpec s wid = { s with name := makerName s, posonly := [], pos := s.posonly ++ s.pos,
                                 wrapped := some s.fid, fid := wid } := by
  simp [wrapperSpec, parse_signatureItems]

theorem decorate_ok {s w : ArgSpec} {wid : Nat} (h : decorate s wid = .ok w) : w = wrapperSpec s wid := by
  unfold decorate at h
  split at h
  · cases h
  · exact (Except.ok.inj h).symm

theorem evalShort_plain (env : Env) (ns : List Name) (rest : List ShortItem) :
    evalShort env (ns.map .plain ++ rest)
      = ⟨ns.map (look env.args) ++ (evalShort env rest).pos, (evalShort env rest).kw⟩ := by
  induction ns with
  | nil => rfl
  | cons n ns ih => simp [evalShort, ih]

theorem evalShort_kwEq (env : Env) (ks : List Name) (rest : List ShortItem) :
    evalShort env (ks.map .kwEq ++ rest)
      = ⟨(evalShort env rest).pos, ks.map (fun k => (k, look env.args k)) ++ (evalShort env rest).kw⟩ := by
  induction ks with
  | nil => rfl
  | cons n ns ih => simp [evalShort, ih]

theorem forward_eq (s : ArgSpec) (env : Env) :
    forward s env = ⟨(s.posonly ++ s.pos).map (look env.args) ++ (if s.varargs.isSome then env.varargs else []),
                     s.kwonly.map (fun k => (k, look env.args k)) ++ (if s.varkw.isSome then env.kw else [])⟩ := by
  unfold forward shortItems fullArgs
  rw [List.append_assoc, List.append_assoc, evalShort_plain]
  cases s.varargs <;> cases s.varkw <;> simp [-List.append_nil, evalShort, evalShort_kwEq]

theorem lookup_some_key {kw : Kw} {n : Name} {v : Val} (h : lookup kw n = some v) : n ∈ kw.map (·.1) := by
  induction kw with
  | nil => simp [lookup] at h
  | cons kv r ih =>
    obtain ⟨k, w⟩ := kv
    by_cases e : k = n
    · simp [e]
    · simp only [lookup, e, if_false] at h
      simp [ih h]

theorem lookup_none_of_not_key {kw : Kw} {n : Name} (h : ∀ kv ∈ kw, kv.1 ≠ n) : lookup kw n = none := by
  cases hl : lookup kw n with
  | none => rfl
  | some v =>
    obtain ⟨kv, hkv, e⟩ := List.mem_map.mp (lookup_some_key hl)
    exact absurd e (h kv hkv)

theorem lookup_mem_nodup {a : Kw} (b : Kw) (hn : (a.map (·.1)).Nodup) :
    ∀ kv ∈ a, lookup (a ++ b) kv.1 = some kv.2 := by
  induction a with
  | nil => intro kv h; cases h
  | cons x r ih =>
    obtain ⟨k, v⟩ := x
    simp only [List.map_cons, List.nodup_cons] at hn
    refine List.forall_mem_cons.mpr ⟨by simp [lookup], fun kv hm => ?_⟩
    have hne : k ≠ kv.1 := fun e => hn.1 (e ▸ List.mem_map_of_mem hm)
    simp only [List.cons_append, lookup, hne, if_false]
    exact ih hn.2 kv hm

theorem params_eq (s : ArgSpec) :
    params s = ((flags s).zip (defaultsFor (s.posonly.length + s.pos.length) s.defaults)).map
      fun x => ⟨x.1.1, x.1.2, x.2⟩ := by
  rw [params, List.zip_eq_zipWith, List.map_zipWith]

theorem params_names (s : ArgSpec) : (params s).map (·.name) = s.posonly ++ s.pos := by
  have hl : (flags s).length ≤ (defaultsFor (s.posonly.length + s.pos.length) s.defaults).length := by
    simp [flags, defaultsFor]
    omega
  rw [params_eq, List.map_map]
  show ((flags s).zip _).map (Prod.fst ∘ Prod.fst) = _
  rw [← List.map_map, List.map_fst_zip hl]
  simp [flags, Function.comp_def]

theorem params_length (s : ArgSpec) : (params s).length = (s.posonly ++ s.pos).length := by
  rw [← params_names, List.length_map]

theorem params_kwable {s : ArgSpec} {p : Param} (hp : p ∈ params s) :
    (p.kwable = true → p.name ∈ s.pos) ∧ (p.kwable = false → p.name ∈ s.posonly) := by
  rw [params_eq, List.mem_map] at hp
  obtain ⟨⟨nk, d⟩, hmem, rfl⟩ := hp
  have hnk := (List.of_mem_zip hmem).1
  simp only [flags, List.mem_append, List.mem_map] at hnk
  rcases hnk with ⟨n, hn, rfl⟩ | ⟨n, hn, rfl⟩ <;> simp [hn]

def setKwable (p : Param) : Param := { p with kwable := true }

theorem params_wrapper (s : ArgSpec) (wid : Nat) : params (wrapperSpec s wid) = (params s).map setKwable := by
  have hf : flags (wrapperSpec s wid) = (flags s).map fun nk => (nk.1, true) := by
    simp [wrapperSpec_eq, flags, Function.comp_def]
  have hn : (wrapperSpec s wid).posonly.length + (wrapperSpec s wid).pos.length = s.posonly.length + s.pos.length := by
    simp [wrapperSpec_eq]
  unfold params
  rw [hf, hn, List.zipWith_map_left, List.map_zipWith]
  rfl

theorem bindPos_setKwable (kw : Kw) (ps : List Param) (vs : List Val)
    (h : ∀ p ∈ ps, p.kwable = false → lookup kw p.name = none) :
    bindPos kw (ps.map setKwable) vs = bindPos kw ps vs := by
  induction ps generalizing vs with
  | nil => rfl
  | cons p ps ih =>
    obtain ⟨hp, hps⟩ := List.forall_mem_cons.mp h
    have ih := fun vs => ih vs hps
    cases hk : p.kwable
    · have hp := hp hk
      cases vs <;> simp [bindPos, setKwable, hasKey, ih, hk, hp]
    · cases vs <;> simp [bindPos, setKwable, ih, hk]

theorem bindPos_spec (kw : Kw) (ps : List Param) (vs : List Val) :
    match bindPos kw ps vs with
    | .ok a => a.map (·.1) = ps.map (·.name)
    | .error e => e = .typeError := by
  fun_induction bindPos kw ps vs <;> simp_all

theorem bindKwonly_spec (kw kd : Kw) (ks : List Name) :
    match bindKwonly kw kd ks with
    | .ok b => b.map (·.1) = ks
    | .error e => e = .typeError := by
  fun_induction bindKwonly kw kd ks <;> simp_all

theorem bindPos_positional (kw : Kw) (extra : List Val) (ps : List Param) (a : Kw)
    (h : a.map (·.1) = ps.map (·.name)) (hk : ∀ p ∈ ps, p.kwable = true → hasKey kw p.name = false) :
    bindPos kw ps (a.map (·.2) ++ extra) = .ok a := by
  induction ps generalizing a with
  | nil => simp at h; subst h; simp [bindPos]
  | cons p ps ih =>
    obtain _ | ⟨⟨k, v⟩, a⟩ := a
    · simp at h
    · simp only [List.map_cons, List.cons.injEq] at h
      obtain ⟨hp, hps⟩ := List.forall_mem_cons.mp hk
      have := ih a h.2 hps
      cases hkw : p.kwable <;> simp [bindPos, this, h.1, hp, hkw]

theorem bindKwonly_self (kw kd : Kw) : ∀ (b : Kw), (∀ kv ∈ b, lookup kw kv.1 = some kv.2) →
    bindKwonly kw kd (b.map (·.1)) = .ok b
  | [], _ => by simp [bindKwonly]
  | (k, v) :: b, h => by
    obtain ⟨hk, hb⟩ := List.forall_mem_cons.mp h
    have ih := bindKwonly_self kw kd b hb
    simp only at hk
    simp [bindKwonly, hk, ih]

/-- shape of an environment produced by binding against `s` -/
structure EnvShape (s : ArgSpec) (env : Env) : Prop where
  split : ∃ a b, env.args = a ++ b ∧ a.map (·.1) = s.posonly ++ s.pos ∧ b.map (·.1) = s.kwonly
  novarargs : s.varargs = none → env.varargs = []
  novarkw : s.varkw = none → env.kw = []
  kwfree : ∀ kv ∈ env.kw, kv.1 ∉ s.pos ∧ kv.1 ∉ s.kwonly

theorem bind_spec (s : ArgSpec) (ca : CallArgs) :
    match bind s ca with
    | .ok env => EnvShape s env
    | .error e => e = .typeError := by
  have hp := bindPos_spec ca.kw (params s) ca.pos
  have hk := bindKwonly_spec ca.kw s.kwdefaults s.kwonly
  fun_cases Model.Wrappers.bind s ca
  case case1 => rfl
  case case2 => rfl
  case case3 e he => rwa [he] at hp
  case case4 e he => rwa [he] at hk
  case case5 extra h1 h2 a ha b hb =>
    rw [ha] at hp
    rw [hb] at hk
    refine ⟨⟨a, b, rfl, by rw [hp, params_names], hk⟩, fun hv => ?_, fun hv => ?_, fun kv hkv => ?_⟩
    · simpa [hv] using h1
    · simpa [hv] using h2
    · simp only [leftover, List.mem_filter] at hkv
      simpa using hkv.2

theorem bind_ok_shape {s : ArgSpec} {ca : CallArgs} {env : Env} (h : bind s ca = .ok env) : EnvShape s env := by
  have := bind_spec s ca
  rwa [h] at this

theorem shape_of_wrapper {s : ArgSpec} {wid : Nat} {env : Env} (h : EnvShape (wrapperSpec s wid) env) :
    EnvShape s env := by
  rw [wrapperSpec_eq] at h
  obtain ⟨⟨a, b, h1, h2, h3⟩, h4, h5, h6⟩ := h
  refine ⟨⟨a, b, h1, by simpa using h2, h3⟩, h4, h5, ?_⟩
  intro kv hkv
  have := h6 kv hkv
  simp only [List.mem_append, not_or] at this
  exact ⟨this.1.2, this.2⟩

theorem star_of_shape {α : Type} (o : Option Name) (l : List α) (h : o = none → l = []) :
    (if o.isSome then l else []) = l ∧ (o.isNone && !l.isEmpty) = false := by
  cases o <;> simp [h]

section
variable {s : ArgSpec} {a b kw : Kw} {va : List Val} (wf : WF s)
  (ha : a.map (·.1) = s.posonly ++ s.pos) (hb : b.map (·.1) = s.kwonly)
  (hva : s.varargs = none → va = []) (hvk : s.varkw = none → kw = [])

include wf ha hb hva hvk

/-- the names are distinct, so looking one up in `a ++ b` finds its own entry -/
theorem forward_of_shape : forward s ⟨a ++ b, va, kw⟩ = ⟨a.map (·.2) ++ va, b ++ kw⟩ := by
  have hnd : ((a ++ b).map (·.1)).Nodup := by rw [List.map_append, ha, hb]; exact wf
  have hlook : ∀ kv ∈ a ++ b, look (a ++ b) kv.1 = kv.2 := by
    intro kv hkv
    have := lookup_mem_nodup [] hnd kv hkv
    rw [List.append_nil] at this
    simp [look, this]
  have hpos : (s.posonly ++ s.pos).map (look (a ++ b)) = a.map (·.2) := by
    rw [← ha, List.map_map]
    exact List.map_congr_left fun kv hkv => hlook kv (List.mem_append_left _ hkv)
  have hkwo : s.kwonly.map (fun k => (k, look (a ++ b) k)) = b := by
    rw [← hb, List.map_map]
    exact (List.map_congr_left fun kv hkv => by simp [hlook kv (List.mem_append_right _ hkv)]).trans (List.map_id b)
  rw [forward_eq, hpos, hkwo, (star_of_shape s.varargs va hva).1, (star_of_shape s.varkw kw hvk).1]

theorem bind_forwarded (hfree : ∀ kv ∈ kw, kv.1 ∉ s.pos ∧ kv.1 ∉ s.kwonly) :
    bind s ⟨a.map (·.2) ++ va, b ++ kw⟩ = .ok ⟨a ++ b, va, kw⟩ := by
  unfold WF at wf
  have hndb : (b.map (·.1)).Nodup := by rw [hb]; exact (List.nodup_append.mp wf).2.1
  have hkey : ∀ kv ∈ b, kv.1 ∈ s.kwonly := fun kv hkv => hb ▸ List.mem_map_of_mem hkv
  have hextra : (a.map (·.2) ++ va).drop (params s).length = va := by
    rw [params_length, ← ha]; simp
  have hleft : leftover s (b ++ kw) = kw := by
    rw [leftover, List.filter_append, List.filter_eq_nil_iff.mpr fun kv hkv => by simp [hkey kv hkv],
      List.filter_eq_self.mpr fun kv hkv => by simp [hfree kv hkv]]
    rfl
  have hnokw : ∀ p ∈ params s, p.kwable = true → hasKey (b ++ kw) p.name = false := by
    intro p hp hk
    have hin : p.name ∈ s.pos := (params_kwable hp).1 hk
    have : lookup (b ++ kw) p.name = none :=
      lookup_none_of_not_key (List.forall_mem_append.mpr
        ⟨fun kv hm e => (List.nodup_append.mp wf).2.2 kv.1 (by simp [e, hin]) kv.1 (hkey kv hm) rfl,
         fun kv hm e => (hfree kv hm).1 (e ▸ hin)⟩)
    simp [hasKey, this]
  have hbp : bindPos (b ++ kw) (params s) (a.map (·.2) ++ va) = .ok a :=
    bindPos_positional (b ++ kw) va (params s) a (by rw [ha, params_names]) hnokw
  have hbk : bindKwonly (b ++ kw) s.kwdefaults s.kwonly = .ok b := by
    rw [← hb]
    exact bindKwonly_self _ _ b (lookup_mem_nodup kw hndb)
  unfold Model.Wrappers.bind
  simp [hextra, hleft, hbp, hbk, (star_of_shape s.varargs va hva).2, (star_of_shape s.varkw kw hvk).2]

end

theorem bind_forward_shape {s : ArgSpec} {env : Env} (wf : WF s) (h : EnvShape s env) :
    bind s (forward s env) = .ok env := by
  obtain ⟨⟨a, b, hargs, ha, hb⟩, hva, hvk, hfree⟩ := h
  obtain ⟨args, va, kw⟩ := env
  simp only at hargs hva hvk hfree
  subst hargs
  rw [forward_of_shape wf ha hb hva hvk]
  exact bind_forwarded wf ha hb hva hvk hfree

/-- the library's `wrapped(func, /, *args, **kwargs)` takes its first parameter positional-only (flag read from
context_managers.py), so no forwarded keyword — not even one called `func` — can collide with it -/
theorem callerClash_false (fa : CallArgs) : callerClash fa = false := by
  simp [callerClash, callerFuncPosOnly]

/-- the wrapper's own binding differs from the original's only through keywords naming positional-only
parameters -/
theorem bind_wrapper_eq (s : ArgSpec) (wid : Nat) (ca : CallArgs) (h : NoPosOnlyKwClash s ca) :
    bind (wrapperSpec s wid) ca = bind s ca := by
  have hbp : bindPos ca.kw (params (wrapperSpec s wid)) ca.pos = bindPos ca.kw (params s) ca.pos := by
    rw [params_wrapper]
    apply bindPos_setKwable
    intro p hp hk
    have hin : p.name ∈ s.posonly := (params_kwable hp).2 hk
    apply lookup_none_of_not_key
    intro kv hkv e
    exact h kv hkv (e ▸ hin)
  have hlen : (params (wrapperSpec s wid)).length = (params s).length := by
    rw [params_wrapper, List.length_map]
  have hleft : leftover (wrapperSpec s wid) ca.kw = leftover s ca.kw := by
    rw [wrapperSpec_eq]
    exact List.filter_congr fun kv hkv => by simp [h kv hkv]
  unfold Model.Wrappers.bind
  simp only [hbp, hlen, hleft]
  rw [wrapperSpec_eq]

end PromVerif.Lemmas.WrappersSig
