/-
`_accumulate_metrics` on one metric: the `samples` dict after the sample loop, per branch, as a finite map (`AL.get?` of
every key, and keys without duplicates) — the counter/summary branch, the gauge chain, and the histogram branch: phase 1
(merge per label set and bound, `_sum` as a plain sample) and phase 2 (sort, cumulate, `_count`) equal the spec's
`bucketSeries` laid over the plain sums.
-/
import PromVerif.Lemmas.MultiprocessDict
import PromVerif.Spec.Multiprocess

namespace PromVerif.Model.Multiprocess
open PromVerif.Py PromVerif.Generated.Multiprocess
open PromVerif.Spec.Multiprocess (aggSum aggPick aggMostRecent normTs distinct groups boundsOf merged sortBounds insertBound
  cumulate mergedSorted countOf groupSeries)
set_option autoImplicit false

variable {V B : Type}

/-! The spec spells its constants as string literals, the model takes them from `Generated`; they agree
(`String.toList_ofList` reads the characters off a literal). -/

theorem gaugeType_eq : gaugeType = "gauge".toList := String.toList_ofList.symm
theorem histogramType_eq : histogramType = "histogram".toList := String.toList_ofList.symm
theorem pidLabel_eq : pidLabel = "pid".toList := String.toList_ofList.symm
theorem leLabel_eq : leLabel = "le".toList := String.toList_ofList.symm
theorem livePrefix_eq : livePrefix = "live".toList := String.toList_ofList.symm

theorem suffix_eq : bucketSuffix = "_bucket".toList ∧ countSuffix = "_count".toList :=
  ⟨String.toList_ofList.symm, String.toList_ofList.symm⟩

/-! ### `+=` into a defaultdict(float) -/

/-- a fold over `Option` whose every step answers `some` runs in the value type once it has begun -/
theorem foldl_some {α : Type} (F : Option V → α → V) (xs : List α) (a : V) :
    xs.foldl (fun o x => some (F o x)) (some a) = some (xs.foldl (fun a x => F (some a) x) a) := by
  induction xs generalizing a with
  | nil => rfl
  | cons x r ih => exact ih _

theorem foldl_plus_none {α : Type} (vo : VOps V) (g : α → V) (xs : List α) :
    xs.foldl (fun (o : Option V) x => some (vo.add (o.getD vo.zero) (g x))) none
      = match xs.map g with | [] => none | vs => some (aggSum vo vs) := by
  cases xs with
  | nil => rfl
  | cons v r =>
    refine (foldl_some _ r _).trans ?_
    show _ = some ((r.map g).foldl vo.add (vo.add vo.zero (g v)))
    rw [List.foldl_map]
    rfl

/-- key under which the counter/summary branch (and the `else` of the histogram scan) files a sample -/
def plainKeyOf (s : RSample V) : SKey := (s.name, s.labels)

theorem plainStep_get? (vo : VOps V) (acc : Acc V B) (n : Str) (ls : Labels) (v : V) (k : SKey) :
    AL.get? (plainStep vo acc n ls v).samples k
      = if (n, ls) = k then some (vo.add ((AL.get? acc.samples k).getD vo.zero) v) else AL.get? acc.samples k :=
  AL.get?_update acc.samples (n, ls) k (fun o => vo.add (o.getD vo.zero) v)

/-- `samples[key s] += s.value` over the samples (`key`: the sample's own name and labels for counters and summaries,
    `without_pid_key` for `sum` gauges) -/
theorem plus_fold_get? (vo : VOps V) (key : RSample V → SKey) (samples : List (RSample V)) (k : SKey) :
    AL.get? (samples.foldl (fun (acc : Acc V B) s => plainStep vo acc (key s).1 (key s).2 s.value) Acc.empty).samples k
      = match (samples.filter (fun s => key s = k)).map (·.value) with
        | [] => none
        | vs => some (aggSum vo vs) := by
  have h := foldl_proj (fun (acc : Acc V B) s => plainStep vo acc (key s).1 (key s).2 s.value) key
    (fun acc k => AL.get? acc.samples k) (fun o s => some (vo.add (o.getD vo.zero) s.value))
    (fun s x k => plainStep_get? vo s _ _ _ k) samples Acc.empty k
  rw [h]
  simp only [Acc.empty, AL.get?_nil]
  exact foldl_plus_none vo (fun (s : RSample V) => s.value) _

/-- counter / summary branch -/
theorem plain_fold_get? (vo : VOps V) (samples : List (RSample V)) (k : SKey) :
    AL.get? (samples.foldl (fun (acc : Acc V B) s => plainStep vo acc s.name s.labels s.value) Acc.empty).samples k
      = match (samples.filter (fun s => plainKeyOf s = k)).map (·.value) with
        | [] => none
        | vs => some (aggSum vo vs) :=
  plus_fold_get? vo plainKeyOf samples k

theorem plain_fold_nodup (vo : VOps V) (samples : List (RSample V)) :
    (AL.keys (samples.foldl (fun (acc : Acc V B) s => plainStep vo acc s.name s.labels s.value) Acc.empty).samples).Nodup :=
  foldl_inv (fun (acc : Acc V B) s => plainStep vo acc s.name s.labels s.value)
    (fun acc => (AL.keys acc.samples).Nodup) (fun s _ h => AL.nodup_set s.samples _ _ h) samples Acc.empty
    List.nodup_nil

/-- `without_pid_key` -/
def wkeyOf (s : RSample V) : SKey := (s.name, s.labels.filter (fun l => l.1 ≠ pidLabel))

/-- `float(timestamp or 0)` on a gauge sample (which always carries a float) -/
def tsOf (vo : VOps V) (s : RSample V) : V :=
  match s.ts with
  | some t => if tsOrZero then (if vo.truthy t then t else vo.zero) else t
  | none => vo.zero

/-- the gauge step without the error plumbing -/
def gaugeStepP (vo : VOps V) (rule : Option GaugeRule) (acc : Acc V B) (s : RSample V) : Acc V B :=
  match rule with
  | some (.setdefaultCmp op) =>
    match AL.get? acc.samples (wkeyOf s) with
    | some c => if cmpWith vo.lt vo.le op s.value c then { acc with samples := AL.set acc.samples (wkeyOf s) s.value } else acc
    | none => { acc with samples := AL.set acc.samples (wkeyOf s) s.value }
  | some .plusEq =>
    { acc with samples := AL.set acc.samples (wkeyOf s) (vo.add (AL.getD acc.samples (wkeyOf s) vo.zero) s.value) }
  | some (.tsCmp op) =>
    let cur := AL.getD acc.tstamps (wkeyOf s) vo.zero
    if cmpWith vo.lt vo.le op cur (tsOf vo s) then
      { acc with samples := AL.set acc.samples (wkeyOf s) s.value,
                 tstamps := AL.set (AL.set acc.tstamps (wkeyOf s) cur) (wkeyOf s) (tsOf vo s) }
    else { acc with tstamps := AL.set acc.tstamps (wkeyOf s) cur }
  | none => { acc with samples := AL.set acc.samples (s.name, s.labels) s.value }

theorem set_set_same {κ β : Type} [DecidableEq κ] (d : List (κ × β)) (k : κ) (v w : β) :
    AL.set (AL.set d k v) k w = AL.set d k w := by
  induction d with
  | nil => simp [AL.set]
  | cons x r ih =>
    obtain ⟨k', v'⟩ := x
    by_cases h : k' = k
    · simp [AL.set, h]
    · simp [AL.set, h, ih]

theorem gaugeStep_eq (vo : VOps V) (rule : Option GaugeRule) (acc : Acc V B) (s : RSample V)
    (hts : s.ts.isSome = true) : gaugeStep vo rule acc s = .ok (gaugeStepP vo rule acc s) := by
  obtain ⟨t, ht⟩ := Option.isSome_iff_exists.mp hts
  unfold gaugeStep gaugeStepP wkeyOf
  cases rule with
  | none => rfl
  | some r =>
    cases r with
    | plusEq => rfl
    | setdefaultCmp op =>
      simp only
      cases hg : AL.get? acc.samples (s.name, List.filter (fun l => decide (l.fst ≠ pidLabel)) s.labels) with
      | some c => simp only; split <;> rfl
      | none =>
        simp only
        split
        · rw [set_set_same]
        · rfl
    | tsCmp op =>
      have e : tsValue vo s.ts = .ok (tsOf vo s) := by
        simp only [tsValue, tsOf, ht]
      simp only [e, bind, Except.bind, pure, Except.pure]
      rw [apply_ite Except.ok]

theorem accumulate_gauge_ok (vo : VOps V) (bo : BOps B) [DecidableEq B] (m : Metric V) (mode : Str)
    (htyp : m.typ = gaugeType) (hmode : m.mode = some mode) (hts : ∀ s ∈ m.samples, s.ts.isSome = true) :
    accumulateSamples vo bo m = .ok (m.samples.foldl (gaugeStepP (B := B) vo (ruleOf mode)) Acc.empty).samples := by
  unfold accumulateSamples
  rw [if_pos htyp]
  cases hs : m.samples with
  | nil => rfl
  | cons s r =>
    simp only [hmode]
    have := foldlM_ok (gaugeStep (B := B) vo (ruleOf mode)) (gaugeStepP vo (ruleOf mode)) (s :: r) Acc.empty
      (fun s' x hx => gaugeStep_eq vo _ s' x (hts x (hs ▸ hx)))
    rw [this]; rfl

theorem gaugeStepP_nodup (vo : VOps V) (rule : Option GaugeRule) (acc : Acc V B) (s : RSample V)
    (h : (AL.keys acc.samples).Nodup) : (AL.keys (gaugeStepP vo rule acc s).samples).Nodup := by
  unfold gaugeStepP
  cases rule with
  | none => exact AL.nodup_set _ _ _ h
  | some r =>
    cases r with
    | plusEq => exact AL.nodup_set _ _ _ h
    | setdefaultCmp op =>
      simp only
      split
      · split
        · exact AL.nodup_set _ _ _ h
        · exact h
      · exact AL.nodup_set _ _ _ h
    | tsCmp op =>
      simp only
      split
      · exact AL.nodup_set _ _ _ h
      · exact h

theorem gauge_fold_nodup (vo : VOps V) (rule : Option GaugeRule) (samples : List (RSample V)) :
    (AL.keys (samples.foldl (gaugeStepP (B := B) vo rule) Acc.empty).samples).Nodup :=
  foldl_inv (gaugeStepP (B := B) vo rule)
    (fun acc => (AL.keys acc.samples).Nodup) (fun s x h => gaugeStepP_nodup vo rule s x h) samples Acc.empty
    List.nodup_nil

theorem foldl_pick_none {α : Type} (better : V → V → Bool) (g : α → V) (xs : List α) :
    xs.foldl (fun (o : Option V) x => some (match o with
      | some c => if better (g x) c then g x else c
      | none => g x)) none = aggPick better (xs.map g) := by
  cases xs with
  | nil => rfl
  | cons v r =>
    refine (foldl_some _ r _).trans ?_
    rw [List.map_cons, aggPick, List.foldl_map]

theorem gauge_cmp_get? (vo : VOps V) (op : Cmp) (samples : List (RSample V)) (k : SKey) :
    AL.get? (samples.foldl (gaugeStepP (B := B) vo (some (.setdefaultCmp op))) Acc.empty).samples k
      = aggPick (fun x c => cmpWith vo.lt vo.le op x c) ((samples.filter (fun s => wkeyOf s = k)).map (·.value)) := by
  have h := foldl_proj (gaugeStepP (B := B) vo (some (.setdefaultCmp op))) wkeyOf
    (fun acc k => AL.get? acc.samples k)
    (fun o s => some (match o with
      | some c => if cmpWith vo.lt vo.le op s.value c then s.value else c
      | none => s.value))
    (by
      intro acc x k
      unfold gaugeStepP
      simp only
      by_cases hk : wkeyOf x = k
      · subst hk
        simp only [if_true]
        cases hg : AL.get? acc.samples (wkeyOf x) with
        | some c => simp only; split <;> simp [AL.get?_set_self, hg]
        | none => simp [AL.get?_set_self]
      · simp only [hk, if_false]
        split
        · split
          · exact AL.get?_set_ne _ _ _ _ hk
          · rfl
        · exact AL.get?_set_ne _ _ _ _ hk)
    samples Acc.empty k
  rw [h]
  simp only [Acc.empty, AL.get?_nil]
  exact foldl_pick_none (fun x c => cmpWith vo.lt vo.le op x c) (fun (s : RSample V) => s.value) _

theorem gauge_sum_get? (vo : VOps V) (samples : List (RSample V)) (k : SKey) :
    AL.get? (samples.foldl (gaugeStepP (B := B) vo (some .plusEq)) Acc.empty).samples k
      = match (samples.filter (fun s => wkeyOf s = k)).map (·.value) with
        | [] => none
        | vs => some (aggSum vo vs) :=
  plus_fold_get? vo wkeyOf samples k

theorem foldl_last {α β : Type} (g : α → β) (xs : List α) (o : Option β) :
    xs.foldl (fun (_ : Option β) x => some (g x)) o = (xs.map g).getLast?.or o := by
  induction xs generalizing o with
  | nil => rfl
  | cons v r ih =>
    rw [List.foldl_cons, ih, List.map_cons, List.getLast?_cons]
    cases (r.map g).getLast? <;> rfl

theorem gauge_all_get? (vo : VOps V) (samples : List (RSample V)) (k : SKey) :
    AL.get? (samples.foldl (gaugeStepP (B := B) vo none) Acc.empty).samples k
      = ((samples.filter (fun s => plainKeyOf s = k)).map (·.value)).getLast? := by
  have h := foldl_proj (gaugeStepP (B := B) vo none) plainKeyOf
    (fun acc k => AL.get? acc.samples k) (fun _ s => some s.value)
    (by
      intro acc x k
      unfold gaugeStepP plainKeyOf
      simp only [AL.get?_set])
    samples Acc.empty k
  rw [h, foldl_last (fun (s : RSample V) => s.value)]
  exact Option.or_none

theorem gauge_recent_get? (vo : VOps V) (op : Cmp) (samples : List (RSample V)) (k : SKey) :
    AL.get? (samples.foldl (gaugeStepP (B := B) vo (some (.tsCmp op))) Acc.empty).samples k
      = ((samples.filter (fun s => wkeyOf s = k)).foldl
          (fun (st : Option V × V) s =>
            if cmpWith vo.lt vo.le op st.2 (tsOf vo s) then (some s.value, tsOf vo s) else st) (none, vo.zero)).1 := by
  have h := foldl_proj (gaugeStepP (B := B) vo (some (.tsCmp op))) wkeyOf
    (fun acc k => (AL.get? acc.samples k, AL.getD acc.tstamps k vo.zero))
    (fun (st : Option V × V) s =>
      if cmpWith vo.lt vo.le op st.2 (tsOf vo s) then (some s.value, tsOf vo s) else st)
    (by
      intro acc x k
      unfold gaugeStepP
      simp only
      by_cases hk : wkeyOf x = k
      · subst hk
        simp only [if_true]
        split
        · simp [AL.get?_set_self, AL.getD_eq]
        · simp [AL.get?_set_self, AL.getD_eq]
      · simp only [hk, if_false]
        split
        · simp [AL.get?_set_ne _ _ _ _ hk, AL.getD_eq]
        · simp [AL.get?_set_ne _ _ _ _ hk, AL.getD_eq])
    samples Acc.empty k
  have h' := congrArg Prod.fst h
  simp only [Acc.empty, AL.get?_nil, AL.getD_eq, Option.getD_none] at h'
  exact h'

/-! ### `d[k] += v` on a defaultdict(float), generically -/

def addInto {κ : Type} [DecidableEq κ] (vo : VOps V) (d : List (κ × V)) (k : κ) (v : V) : List (κ × V) :=
  AL.set d k (vo.add (AL.getD d k vo.zero) v)

def addAll {κ : Type} [DecidableEq κ] (vo : VOps V) (d : List (κ × V)) (ps : List (κ × V)) : List (κ × V) :=
  ps.foldl (fun d p => addInto vo d p.1 p.2) d

theorem addAll_get? {κ : Type} [DecidableEq κ] (vo : VOps V) (ps : List (κ × V)) (k : κ) :
    AL.get? (addAll vo [] ps) k = match (ps.filter (fun p => p.1 = k)).map (·.2) with
      | [] => none
      | vs => some (aggSum vo vs) := by
  have h := foldl_proj (fun (d : List (κ × V)) p => addInto vo d p.1 p.2) (fun p => p.1)
    (fun d k => AL.get? d k) (fun o p => some (vo.add (o.getD vo.zero) p.2))
    (by
      intro d x k
      exact AL.get?_update d x.1 k (fun o => vo.add (o.getD vo.zero) x.2))
    ps [] k
  unfold addAll
  rw [h]
  exact foldl_plus_none vo (fun (p : κ × V) => p.2) _

theorem addAll_nodup {κ : Type} [DecidableEq κ] (vo : VOps V) (ps d : List (κ × V)) (h : (AL.keys d).Nodup) :
    (AL.keys (addAll vo d ps)).Nodup := by
  unfold addAll
  exact foldl_inv (fun (d : List (κ × V)) (p : κ × V) => addInto vo d p.1 p.2) (fun d => (AL.keys d).Nodup)
    (fun s x h => AL.nodup_set _ _ _ h) ps d h

theorem addAll_keys {κ : Type} [DecidableEq κ] (vo : VOps V) (ps : List (κ × V)) :
    AL.keys (addAll vo [] ps) = distinct (ps.map (·.1)) := by
  unfold addAll addInto distinct
  exact keys_foldl_set (fun (p : κ × V) => p.1) (fun d p => vo.add (AL.getD d p.1 vo.zero) p.2) ps []

theorem AL.eq_map_keys {κ β : Type} (d : List (κ × β)) (f : κ → β) (h : ∀ kv ∈ d, f kv.1 = kv.2) :
    d = (d.map (·.1)).map (fun k => (k, f k)) := by
  rw [List.map_map]
  exact (List.map_id d).symm.trans (List.map_congr_left (fun kv hkv => by rw [Function.comp, h kv hkv]; rfl))

theorem mem_distinct {α : Type} [DecidableEq α] (l : List α) (a : α) : a ∈ distinct l ↔ a ∈ l := by
  unfold distinct
  suffices ∀ acc, a ∈ l.foldl (fun acc a => if a ∈ acc then acc else acc ++ [a]) acc ↔ a ∈ acc ∨ a ∈ l by
    simpa using this []
  induction l with
  | nil => intro acc; simp
  | cons x r ih =>
    intro acc
    simp only [List.foldl_cons]
    rw [ih]
    by_cases hx : x ∈ acc
    · by_cases e : a = x
      · subst e; simp [hx]
      · simp [hx, e]
    · simp [hx, or_assoc]

theorem nodup_distinct {α : Type} [DecidableEq α] (l : List α) : (distinct l).Nodup := by
  refine foldl_inv _ List.Nodup (fun acc a h => ?_) l [] List.nodup_nil
  split
  · exact h
  · next ha => exact nodup_concat h ha

theorem addAll_eq (vo : VOps V) [DecidableEq B] (ps : List (B × V)) :
    addAll vo [] ps = (distinct (ps.map (·.1))).map
      (fun b => (b, aggSum vo ((ps.filter (fun p => p.1 = b)).map (·.2)))) := by
  have hk := addAll_keys vo ps
  have hnd := addAll_nodup vo ps [] List.nodup_nil
  have := AL.eq_map_keys (addAll vo [] ps) (fun b => aggSum vo ((ps.filter (fun p => p.1 = b)).map (·.2)))
    (by
      intro kv hkv
      have hg := AL.get?_of_mem _ hnd kv.1 kv.2 hkv
      rw [addAll_get?] at hg
      cases hv : (ps.filter (fun p => p.1 = kv.1)).map (·.2) with
      | nil => rw [hv] at hg; cases hg
      | cons v r => rw [hv] at hg; simp only [Option.some.injEq] at hg; exact hg)
  rw [this]
  congr 1

/-- `(labels without le, bound, value)` of a bucket item -/
def HItem.triple : HItem V B → Option (Labels × B × V)
  | .bucket L b v => some (L, b, v)
  | .plain _ _ _ => none

def HItem.pair : HItem V B → Option (SKey × V)
  | .bucket _ _ _ => none
  | .plain n ls v => some ((n, ls), v)

def bucketAll [DecidableEq B] (vo : VOps V) (bk : List (Labels × List (B × V))) (ts : List (Labels × B × V)) :
    List (Labels × List (B × V)) :=
  ts.foldl (fun bk t => bucketAdd vo bk t.1 t.2.1 t.2.2) bk

theorem histFold_split [DecidableEq B] (vo : VOps V) (items : List (HItem V B)) (acc : Acc V B) :
    items.foldl (histStep vo) acc
      = ⟨addAll vo acc.samples (items.filterMap HItem.pair), acc.tstamps,
          bucketAll vo acc.buckets (items.filterMap HItem.triple)⟩ := by
  induction items generalizing acc with
  | nil => rfl
  | cons x r ih =>
    simp only [List.foldl_cons]
    rw [ih]
    cases x with
    | bucket L b v => simp [histStep, HItem.pair, HItem.triple, bucketAll, List.filterMap_cons]
    | plain n ls v =>
      simp [histStep, HItem.pair, HItem.triple, addAll, addInto, plainStep, List.filterMap_cons]

theorem bucketAll_keys [DecidableEq B] (vo : VOps V) (ts : List (Labels × B × V)) :
    AL.keys (bucketAll vo [] ts) = groups ts := by
  unfold bucketAll bucketAdd groups distinct
  exact keys_foldl_set (fun (t : Labels × B × V) => t.1)
    (fun bk t => AL.set (AL.getD bk t.1 []) t.2.1 (vo.add (AL.getD (AL.getD bk t.1 []) t.2.1 vo.zero) t.2.2)) ts []

theorem bucketAll_nodup [DecidableEq B] (vo : VOps V) (ts : List (Labels × B × V)) :
    (AL.keys (bucketAll vo [] ts)).Nodup := by
  rw [bucketAll_keys]; exact nodup_distinct _

theorem bucketAll_inner [DecidableEq B] (vo : VOps V) (ts : List (Labels × B × V)) (L : Labels) :
    AL.getD (bucketAll vo [] ts) L [] = addAll vo [] ((ts.filter (fun t => t.1 = L)).map (·.2)) := by
  have h := foldl_proj (fun (bk : List (Labels × List (B × V))) t => bucketAdd vo bk t.1 t.2.1 t.2.2) (fun t => t.1)
    (fun bk L => AL.getD bk L []) (fun inner t => addInto vo inner t.2.1 t.2.2)
    (by
      intro bk x L
      unfold bucketAdd addInto
      simp only [AL.getD_eq, AL.get?_set]
      split
      · next h => subst h; rfl
      · rfl)
    ts [] L
  unfold bucketAll
  rw [h]
  unfold addAll
  simp only [AL.getD_eq, AL.get?_nil, Option.getD_none]
  rw [List.foldl_map]

theorem merged_eq [DecidableEq B] (vo : VOps V) (ts : List (Labels × B × V)) (L : Labels) (b : B) :
    aggSum vo ((((ts.filter (fun t => t.1 = L)).map (·.2)).filter (fun p => p.1 = b)).map (·.2))
      = merged vo ts L b := by
  rw [List.filter_map, List.filter_filter, List.map_map]
  unfold merged
  congr 3
  funext t
  simp [and_comm]

theorem bucketAll_eq [DecidableEq B] (vo : VOps V) (ts : List (Labels × B × V)) :
    bucketAll vo [] ts = (groups ts).map (fun L => (L, (boundsOf ts L).map (fun b => (b, merged vo ts L b)))) := by
  have hnd := bucketAll_nodup vo ts
  have := AL.eq_map_keys (bucketAll vo [] ts) (fun L => (boundsOf ts L).map (fun b => (b, merged vo ts L b)))
    (by
      intro kv hkv
      have hg := AL.get?_of_mem _ hnd kv.1 kv.2 hkv
      have hi := bucketAll_inner vo ts kv.1
      rw [AL.getD_eq, hg, Option.getD_some, addAll_eq] at hi
      rw [hi]
      unfold boundsOf
      simp only [List.map_map]
      apply List.map_congr_left
      intro b _
      rw [← merged_eq])
  rw [this]
  have hk := bucketAll_keys vo ts
  unfold AL.keys at hk
  rw [hk]

theorem insertSorted_map {β : Type} (lt : B → B → Bool) (f : B → β) (x : B) (l : List B) :
    insertSorted lt (x, f x) (l.map (fun b => (b, f b))) = (insertBound lt x l).map (fun b => (b, f b)) := by
  induction l with
  | nil => rfl
  | cons y r ih =>
    simp only [List.map_cons, insertSorted, insertBound]
    split
    · simp [ih]
    · rfl

theorem sortItems_map {β : Type} (lt : B → B → Bool) (f : B → β) (l : List B) :
    sortItems lt (l.map (fun b => (b, f b))) = (sortBounds lt l).map (fun b => (b, f b)) := by
  unfold sortItems sortBounds
  induction l with
  | nil => rfl
  | cons x r ih =>
    simp only [List.map_cons, List.foldr_cons]
    rw [ih, insertSorted_map]

theorem emit_loop (vo : VOps V) (keyf : B → SKey) (l : List (B × V)) (a : V) (s : List (SKey × V)) :
    l.foldl (fun (st : V × List (SKey × V)) bv =>
        let acc := vo.add st.1 bv.2
        (acc, AL.set st.2 (keyf bv.1) acc)) (a, s)
      = ((l.map (·.2)).foldl vo.add a, AL.setAll s ((cumulate vo a l).map (fun bv => (keyf bv.1, bv.2)))) := by
  induction l generalizing a s with
  | nil => rfl
  | cons x r ih =>
    obtain ⟨b, v⟩ := x
    simp only [List.foldl_cons, List.map_cons, cumulate]
    rw [ih]
    rfl

theorem emitBuckets_eq [DecidableEq B] (vo : VOps V) (bo : BOps B) (mn : Str) (samples : List (SKey × V))
    (ts : List (Labels × B × V)) (L : Labels) :
    emitBuckets vo bo mn samples (L, (boundsOf ts L).map (fun b => (b, merged vo ts L b)))
      = AL.setAll samples (groupSeries vo bo mn ts L) := by
  unfold emitBuckets groupSeries
  simp only [suffix_eq.1, suffix_eq.2, leLabel_eq]
  rw [sortItems_map]
  have := emit_loop vo (fun b => (mn ++ "_bucket".toList, L ++ [("le".toList, bo.fmt b)]))
    ((sortBounds bo.lt (boundsOf ts L)).map (fun b => (b, merged vo ts L b))) vo.zero samples
  rw [this]
  rw [AL.setAll_append]
  simp only [AL.setAll, List.foldl_cons, List.foldl_nil]
  rfl

theorem emitAll_eq [DecidableEq B] (vo : VOps V) (bo : BOps B) (mn : Str) (ts : List (Labels × B × V))
    (gs : List Labels) (samples : List (SKey × V)) :
    (gs.map (fun L => (L, (boundsOf ts L).map (fun b => (b, merged vo ts L b))))).foldl (emitBuckets vo bo mn) samples
      = AL.setAll samples (gs.flatMap (groupSeries vo bo mn ts)) := by
  induction gs generalizing samples with
  | nil => rfl
  | cons L r ih =>
    simp only [List.map_cons, List.foldl_cons, List.flatMap_cons]
    rw [emitBuckets_eq, ih, AL.setAll_append]

theorem hist_items_eq [DecidableEq B] (vo : VOps V) (bo : BOps B) (mn : Str) (items : List (HItem V B)) :
    (items.foldl (histStep vo) (Acc.empty (V := V) (B := B))).buckets.foldl (emitBuckets vo bo mn)
        (items.foldl (histStep vo) (Acc.empty (V := V) (B := B))).samples
      = AL.setAll (addAll vo [] (items.filterMap HItem.pair))
          ((groups (items.filterMap HItem.triple)).flatMap
            (groupSeries vo bo mn (items.filterMap HItem.triple))) := by
  rw [histFold_split]
  simp only [Acc.empty]
  rw [bucketAll_eq, emitAll_eq]

end PromVerif.Model.Multiprocess
