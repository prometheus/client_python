/-
Declarative content of the spec's executable aggregates (`Spec/Multiprocess.lean`):
min/max are extremal elements, most-recent has a maximal non-zero set-time, sums do not depend on listing order in a
commutative monoid, `cumulate` is the running total whose last entry is the grand total, and a bound above all others
(`+Inf`) is sorted last.  Each order fact is used as a hypothesis exactly where it is needed; they hold for IEEE `<`
(irreflexive and transitive, NaN included) and for `Int`.
-/
import PromVerif.Spec.Multiprocess

namespace PromVerif.Spec.Multiprocess
open PromVerif.Py PromVerif.Model.Multiprocess
set_option autoImplicit false

variable {V B : Type}

section Pick
variable (better : V → V → Bool)

/-- invariant of the running choice begun at `c0`, `S` being the elements met so far: the current element is one of them,
    none of them is strictly better, and it is `c0` or strictly better than `c0` -/
def PickInv (c0 : V) (S : V → Prop) (c : V) : Prop :=
  S c ∧ (∀ v, S v → better v c = false) ∧ (c = c0 ∨ better c c0 = true)

theorem PickInv.congr {better : V → V → Bool} {c0 : V} {S S' : V → Prop} {c : V} (hS : ∀ v, S v ↔ S' v)
    (h : PickInv better c0 S c) : PickInv better c0 S' c :=
  ⟨(hS c).mp h.1, fun v hv => h.2.1 v ((hS v).mpr hv), h.2.2⟩

variable (hirr : ∀ a, better a a = false)
  (htr : ∀ a b c, better a b = true → better b c = true → better a c = true)
include hirr htr

/-- Transitivity is used when the current element is replaced, only. -/
theorem pick_fold_inv (r : List V) (c0 : V) (S : V → Prop) (c : V) (h : PickInv better c0 S c) :
    PickInv better c0 (fun v => S v ∨ v ∈ r) (r.foldl (fun c x => if better x c then x else c) c) := by
  induction r generalizing S c with
  | nil => exact h.congr (fun v => ⟨Or.inl, fun hv => hv.elim id (fun e => by cases e)⟩)
  | cons x r ih =>
    rw [List.foldl_cons]
    have key : PickInv better c0 (fun v => S v ∨ v = x) (if better x c then x else c) := by
      by_cases hx : better x c = true
      · rw [if_pos hx]
        refine ⟨Or.inr rfl, ?_, Or.inr (h.2.2.elim (fun e => e ▸ hx) (htr x c c0 hx))⟩
        rintro v (hv | hv)
        · cases hb : better v x with
          | false => rfl
          | true => have := htr v x c hb hx; rw [h.2.1 v hv] at this; cases this
        · rw [hv]; exact hirr x
      · rw [if_neg hx]
        refine ⟨Or.inl h.1, ?_, h.2.2⟩
        rintro v (hv | hv)
        · exact h.2.1 v hv
        · rw [hv]; exact Bool.eq_false_iff.mpr hx
    exact (ih _ _ key).congr (fun v => by rw [List.mem_cons, or_assoc])

theorem aggPick_extremal (vs : List V) (r : V) (h : aggPick better vs = some r) : r ∈ vs ∧ ∀ v ∈ vs, better v r = false := by
  cases vs with
  | nil => cases h
  | cons v rest =>
    have := pick_fold_inv better hirr htr rest v (· = v) v ⟨rfl, fun w hw => hw ▸ hirr v, Or.inl rfl⟩
    rw [Option.some.inj h] at this
    exact ⟨this.1.elim (fun e => e ▸ List.mem_cons_self) (List.mem_cons_of_mem _),
      fun w hw => this.2.1 w (List.mem_cons.mp hw)⟩

omit hirr htr in
theorem aggPick_none (vs : List V) : aggPick better vs = none ↔ vs = [] := by
  cases vs <;> simp [aggPick]

/-- under a strict total order on the occurring values the choice is unique -/
theorem aggPick_perm_total (vs vs' : List V) (hp : vs.Perm vs')
    (htot : ∀ a ∈ vs, ∀ b ∈ vs, a ≠ b → better a b = true ∨ better b a = true) :
    aggPick better vs = aggPick better vs' := by
  cases h : aggPick better vs with
  | none =>
    rw [(aggPick_none better vs).mp h] at hp
    rw [← hp.nil_eq]
    rfl
  | some r =>
    cases h' : aggPick better vs' with
    | none =>
      rw [(aggPick_none better vs').mp h'] at hp
      rw [hp.eq_nil] at h
      cases h
    | some r' =>
      have e1 := aggPick_extremal better hirr htr vs r h
      have e2 := aggPick_extremal better hirr htr vs' r' h'
      have hr' : r' ∈ vs := hp.mem_iff.mpr e2.1
      by_cases hne : r = r'
      · rw [hne]
      · rcases htot r e1.1 r' hr' hne with hb | hb
        · have := e2.2 r (hp.mem_iff.mp e1.1); rw [hb] at this; cases this
        · have := e1.2 r' hr'; rw [hb] at this; cases this

end Pick

section Lt
variable (vo : VOps V) (hirr : ∀ a, vo.lt a a = false)
  (htr : ∀ a b c, vo.lt a b = true → vo.lt b c = true → vo.lt a c = true)
include hirr htr

theorem aggMin_minimal (vs : List V) (r : V) (h : aggMin vo vs = some r) : IsMinimal vo.lt vs r :=
  aggPick_extremal vo.lt hirr htr vs r h

theorem aggMax_maximal (vs : List V) (r : V) (h : aggMax vo vs = some r) : IsMaximal vo.lt vs r :=
  aggPick_extremal (fun x c => vo.lt c x) hirr (fun a b c h1 h2 => htr c b a h2 h1) vs r h

theorem aggMostRecent_spec (xs : List (V × V)) :
    (∀ r, aggMostRecent vo xs = some r → IsMostRecent vo xs r) ∧
    (aggMostRecent vo xs = none → ∀ y ∈ xs, vo.lt vo.zero (normTs vo y.2) = false) := by
  -- the scan is the running choice of a latest set-time among the entries, begun at a virtual entry that carries no
  -- value and was set at time zero
  have inv := pick_fold_inv (fun (x c : Option V × V) => vo.lt c.2 x.2) (fun a => hirr a.2)
    (fun a b c h1 h2 => htr c.2 b.2 a.2 h2 h1) (xs.map (fun x => (some x.1, normTs vo x.2))) (none, vo.zero)
    (· = (none, vo.zero)) (none, vo.zero) ⟨rfl, fun v hv => hv ▸ hirr _, Or.inl rfl⟩
  rw [List.foldl_map] at inv
  unfold aggMostRecent
  revert inv
  generalize List.foldl _ (none, vo.zero) xs = st
  rintro ⟨hin, hbest, hstart⟩
  have hall : ∀ y ∈ xs, vo.lt st.2 (normTs vo y.2) = false := fun y hy =>
    hbest _ (Or.inr (List.mem_map.mpr ⟨y, hy, rfl⟩))
  constructor
  · intro r hr
    rcases hin with h0 | h1
    · rw [h0] at hr; cases hr
    · obtain ⟨x, hx, rfl⟩ := List.mem_map.mp h1
      refine ⟨x, hx, Option.some.inj hr, hstart.elim (fun e => by cases e) id, hall⟩
  · intro hn y hy
    rcases hin with h0 | h1
    · subst h0; exact hall y hy
    · obtain ⟨x, _, rfl⟩ := List.mem_map.mp h1
      cases hn

end Lt

theorem aggSum_perm (vo : VOps V) (hcomm : ∀ a b, vo.add a b = vo.add b a)
    (hassoc : ∀ a b c, vo.add (vo.add a b) c = vo.add a (vo.add b c))
    (l₁ l₂ : List V) (h : l₁.Perm l₂) : aggSum vo l₁ = aggSum vo l₂ := by
  unfold aggSum
  apply List.Perm.foldl_eq' h
  intro x _ y _ z
  rw [hassoc, hassoc, hcomm x y]

theorem cumulate_fst (vo : VOps V) (a : V) (l : List (B × V)) : (cumulate vo a l).map (·.1) = l.map (·.1) := by
  induction l generalizing a with
  | nil => rfl
  | cons x r ih => obtain ⟨b, v⟩ := x; simp [cumulate, ih]

theorem cumulate_getElem? (vo : VOps V) (a : V) (l : List (B × V)) (i : Nat) :
    (cumulate vo a l)[i]? = (l[i]?).map (fun bv => (bv.1, ((l.take (i + 1)).map (·.2)).foldl vo.add a)) := by
  induction l generalizing a i with
  | nil => rfl
  | cons x r ih =>
    obtain ⟨b, v⟩ := x
    cases i with
    | zero => simp [cumulate]
    | succ j =>
      simp only [cumulate, List.getElem?_cons_succ, List.take_succ_cons, List.map_cons, List.foldl_cons]
      exact ih (vo.add a v) j

theorem cumulate_last (vo : VOps V) (a : V) (l : List (B × V)) :
    (cumulate vo a l).getLast? = l.getLast?.map (fun x => (x.1, (l.map (·.2)).foldl vo.add a)) := by
  induction l generalizing a with
  | nil => rfl
  | cons y r ih =>
    obtain ⟨b, v⟩ := y
    rw [cumulate, List.getLast?_cons, ih, List.getLast?_cons]
    cases h : r.getLast? with
    | none => rw [List.getLast?_eq_none_iff.mp h]; rfl
    | some z => rfl

theorem insertBound_perm (lt : B → B → Bool) (x : B) (l : List B) : (insertBound lt x l).Perm (x :: l) := by
  induction l with
  | nil => exact List.Perm.refl _
  | cons y r ih =>
    simp only [insertBound]
    split
    · exact ((List.Perm.cons y ih).trans (List.Perm.swap x y r))
    · exact List.Perm.refl _

theorem sortBounds_perm (lt : B → B → Bool) (l : List B) : (sortBounds lt l).Perm l := by
  unfold sortBounds
  induction l with
  | nil => exact List.Perm.refl _
  | cons x r ih =>
    simp only [List.foldr_cons]
    exact (insertBound_perm lt x _).trans (List.Perm.cons x ih)

theorem mem_sortBounds (lt : B → B → Bool) (y : B) (l : List B) : y ∈ sortBounds lt l ↔ y ∈ l :=
  (sortBounds_perm lt l).mem_iff

theorem insertBound_last (lt : B → B → Bool) (x top : B) (l : List B) (hl : l.getLast? = some top)
    (h : lt top x = false) : (insertBound lt x l).getLast? = some top := by
  induction l with
  | nil => cases hl
  | cons z r ih =>
    simp only [insertBound]
    cases r with
    | nil =>
      simp only [List.getLast?_singleton, Option.some.injEq] at hl
      subst hl
      simp [h]
    | cons w r' =>
      rw [List.getLast?_cons_cons] at hl
      split
      · have := ih hl
        cases hins : insertBound lt x (w :: r') with
        | nil => rw [hins] at this; cases this
        | cons a b => rw [List.getLast?_cons_cons, ← hins]; exact this
      · rw [List.getLast?_cons_cons, List.getLast?_cons_cons]; exact hl

theorem insertBound_top (lt : B → B → Bool) (top : B) (l : List B) (h : ∀ y ∈ l, lt y top = true) :
    insertBound lt top l = l ++ [top] := by
  induction l with
  | nil => rfl
  | cons z r ih =>
    simp only [insertBound, h z List.mem_cons_self, if_true, List.cons_append]
    rw [ih (fun y hy => h y (List.mem_cons_of_mem _ hy))]

/-- a bound above all others (`+Inf`) is sorted last, so `_count`, the grand total, is the value of the `+Inf` bucket -/
theorem sortBounds_last (lt : B → B → Bool) (top : B) (l : List B) (hmem : top ∈ l) (hnd : l.Nodup)
    (hbelow : ∀ y ∈ l, y ≠ top → lt y top = true) (habove : ∀ y ∈ l, lt top y = false) :
    (sortBounds lt l).getLast? = some top := by
  unfold sortBounds
  induction l with
  | nil => cases hmem
  | cons x r ih =>
    simp only [List.foldr_cons]
    rw [List.nodup_cons] at hnd
    by_cases hx : x = top
    · subst hx
      have : ∀ y ∈ List.foldr (insertBound lt) [] r, lt y x = true := by
        intro y hy
        have hy' : y ∈ r := (mem_sortBounds lt y r).mp hy
        exact hbelow y (List.mem_cons_of_mem _ hy') (fun e => hnd.1 (e ▸ hy'))
      rw [insertBound_top lt x _ this]
      simp
    · have hr : top ∈ r := by
        rcases List.mem_cons.mp hmem with e | e
        · exact absurd e.symm hx
        · exact e
      have := ih hr hnd.2 (fun y hy => hbelow y (List.mem_cons_of_mem _ hy))
        (fun y hy => habove y (List.mem_cons_of_mem _ hy))
      exact insertBound_last lt x top _ this (habove x List.mem_cons_self)

end PromVerif.Spec.Multiprocess
