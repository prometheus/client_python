/-
The temporary name `write_to_textfile` builds (C18).  The lemmas here are about fixed part lists (`canonParts`,
`cachedParts`) and about any list of the form `path :: lit s :: …`; that the GENERATED list is one of them is decided in
`Props/C18.lean`, so a source change to the name shows up there, at the theorem that states what the name guarantees.
-/
import PromVerif.Model.Textfile
import PromVerif.Lemmas.Str

namespace PromVerif.Model.Textfile
open PromVerif.Generated.Textfile

theorem natDigits_eq (n : Nat) : natDigits n = Nat.toDigits 10 n := by
  simp [natDigits, Nat.toList_repr]

theorem natDigits_inj {a b : Nat} (h : natDigits a = natDigits b) : a = b := by
  rw [natDigits_eq, natDigits_eq] at h
  have ha := @Nat.ofDigitChars_ten_toDigits a
  have hb := @Nat.ofDigitChars_ten_toDigits b
  rw [h] at ha
  omega

theorem dot_not_mem_natDigits (n : Nat) : '.' ∉ natDigits n := by
  intro h
  rw [natDigits_eq] at h
  have := Nat.isDigit_of_mem_toDigits (b := 10) (by decide) (by decide) h
  exact absurd this (by decide)

theorem split_unique {c : Char} (a a' b b' : List Char) (h : c ∉ a) (h' : c ∉ a') (e : a ++ c :: b = a' ++ c :: b') :
    a = a' ∧ b = b' := by
  have s := Py.splitFirst_append_of_not_mem (b := b) h
  rw [e, Py.splitFirst_append_of_not_mem h'] at s
  cases s
  exact ⟨rfl, rfl⟩

/-- the shape the property's anchor names: `path.<pid>.<thread id>` with the LIVE pid -/
def canonParts : List TmpPart := [.path, .lit ['.'], .pid, .lit ['.'], .threadIdent]

/-- the variant with the pid cached in a module-level constant at import -/
def cachedParts : List TmpPart := [.path, .lit ['.'], .cachedPid, .lit ['.'], .threadIdent]

theorem tmpName_canon (path : Path) (pid ip tid : Nat) :
    tmpName canonParts path pid ip tid = path ++ '.' :: (natDigits pid ++ '.' :: natDigits tid) := by
  simp [tmpName, canonParts]

theorem tmpName_cached (path : Path) (pid ip tid : Nat) :
    tmpName cachedParts path pid ip tid = path ++ '.' :: (natDigits ip ++ '.' :: natDigits tid) := by
  simp [tmpName, cachedParts]

theorem tmpName_head (s : List Char) (rest : List TmpPart) (path : Path) (pid ip tid : Nat) :
    tmpName (.path :: .lit s :: rest) path pid ip tid = path ++ (s ++ tmpName rest path pid ip tid) :=
  rfl

end PromVerif.Model.Textfile
