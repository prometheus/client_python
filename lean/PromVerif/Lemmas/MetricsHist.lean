/-
The value cells of a replayed child are what the reference reads off the history.  Each cell is a simulation (`List.foldl_rel`) between
the fold that replays the calls and the fold (or filter) of the reference; one step of the replay is `upd_eq` with the
checks of the class evaluated.

Histogram buckets: the code stores NON-cumulative counts (the first bound that takes the observation is incremented)
and accumulates at collect time; for bounds sorted by a transitive `<=` the accumulated value of the bucket `le = b` is
the number of observations `o <= b`.  Counting by float increments is exact only while the counts stay below a bound
`B` (2^53 for doubles): `CountExact`.
-/
import PromVerif.Lemmas.MetricsAbs

namespace PromVerif.Lemmas.Metrics
open PromVerif.Py PromVerif.Model.Metrics PromVerif.Generated.Metrics
open PromVerif.Spec.Metrics

variable {V : Type} [Val V]

theorem sumOf_snoc (xs : List V) (x : V) : sumOf (xs ++ [x]) = Val.add (sumOf xs) x := by
  simp [sumOf, List.foldl_append]

/-- the guard of `Counter.inc`, as extracted: `amount < 0` -/
theorem counterRejects_eq (a : V) : counterRejects a = Val.lt a Val.zero := by
  simp [counterRejects, evalCmpConst, counterIncGuard, evalCmp, constV]

/- One step of a replay is `upd_eq`; with the class known (`hk`) these compute what it raises and what it does. -/
attribute [local simp] raises guarded isMethod skipsObservableCheck argRejected infoRejected effect

/-- `_hrf`: `Counter.reset` stores the float zero.  With the int `0` the cell is a Python int after a reset and int
amounts are then summed exactly — the statement below (a left-to-right sum in `V`) would be false of the code. -/
theorem counter_value (_hrf : resetStoresFloat = true) (d : Decl V) (hk : d.kind = .counter) (acts : List (Action V))
    (hok : ∀ a ∈ acts, okAct d a) :
    (childOf d acts).value = counterTotal acts := by
  unfold childOf counterTotal amountsSinceReset
  refine List.foldl_rel (r := fun (c : Child V) (acc : List V) => c.value = sumOf acc) rfl ?_
  intro a ha c acc hR
  have hnone := (okAct_iff d a).mp (hok a ha)
  rw [upd_eq, hnone]
  cases a <;> simp [hk] at hnone <;> simp [sumOf_snoc, hR]
  -- left: `reset`, which stores the zero the empty sum is
  rfl


theorem gauge_value (d : Decl V) (hk : d.kind = .gauge) (acts : List (Action V)) :
    (childOf d acts).value = gaugeValue acts := by
  unfold childOf gaugeValue
  refine List.foldl_rel (r := fun (c : Child V) (v : V) => c.value = v) rfl ?_
  intro a _ c v hR
  cases a <;> simp [upd_eq, hk, gaugeOp, hR]


theorem observations_eq_foldl (acts : List (Action V)) :
    observations acts = acts.foldl (fun acc a => match a with
      | .observe x => acc ++ [x]
      | _ => acc) [] := by
  suffices h : ∀ (acc : List V), acc ++ observations acts = acts.foldl (fun acc a => match a with
      | .observe x => acc ++ [x]
      | _ => acc) acc from h []
  induction acts with
  | nil => exact List.append_nil
  | cons a acts ih =>
    intro acc
    cases a with
    | observe x => rw [List.foldl_cons, ← ih]; simp [observations]
    | _ => exact ih acc

omit [Val V] in
theorem observations_length_le (acts : List (Action V)) : (observations acts).length ≤ acts.length :=
  List.length_filterMap_le _ _

/-- `n` increments by one -/
def addOnes (c : V) : Nat → V
  | 0 => c
  | n + 1 => Val.add (addOnes c n) Val.one

theorem summary_cells (d : Decl V) (hk : d.kind = .summary) (acts : List (Action V)) :
    (childOf d acts).count = addOnes Val.zero (observations acts).length ∧
      (childOf d acts).sum = sumOf (observations acts) := by
  rw [observations_eq_foldl]
  unfold childOf
  refine List.foldl_rel
    (r := fun (c : Child V) (obs : List V) => c.count = addOnes Val.zero obs.length ∧ c.sum = sumOf obs) ⟨rfl, rfl⟩ ?_
  intro a _ c obs hR
  cases a <;> simp [upd_eq, hk, hR, sumOf_snoc, addOnes]

/-- the non-cumulative cells after the observations `obs` -/
def cellsOf (bs : List V) (obs : List V) : List V :=
  obs.foldl (fun cs o => observeBuckets o bs cs) (bs.map (fun _ => Val.zero))

theorem histogram_cells (d : Decl V) (bs : List (V × Str)) (hk : d.kind = .histogram bs) (acts : List (Action V)) :
    (childOf d acts).sum = sumOf (observations acts) ∧
      (childOf d acts).buckets = cellsOf (bs.map (·.1)) (observations acts) := by
  rw [observations_eq_foldl]
  unfold childOf
  refine List.foldl_rel
    (r := fun (c : Child V) (obs : List V) => c.sum = sumOf obs ∧ c.buckets = cellsOf (bs.map (·.1)) obs)
    ⟨rfl, by simp [metricInit, hk, Kind.bounds, cellsOf]⟩ ?_
  intro a _ c obs hR
  cases a <;> simp [upd_eq, hk, hR, sumOf_snoc, Kind.bounds, cellsOf]


theorem info_value (d : Decl V) (hk : d.kind = .info) (acts : List (Action V)) (hok : ∀ a ∈ acts, okAct d a) :
    (childOf d acts).info = lastInfo acts := by
  unfold childOf lastInfo
  refine List.foldl_rel (r := fun (c : Child V) (cur : List (Str × Str)) => c.info = cur) rfl ?_
  intro a ha c cur hR
  have hnone := (okAct_iff d a).mp (hok a ha)
  rw [upd_eq, hnone]
  cases a <;> simp [hk] at hnone <;> simp [hR]


theorem enum_state (d : Decl V) (states : List Str) (hk : d.kind = .enum states) (acts : List (Action V))
    (hok : ∀ a ∈ acts, okAct d a) :
    states[(childOf d acts).state]? = currentState states acts := by
  unfold childOf currentState
  refine List.foldl_rel (r := fun (c : Child V) (cur : Option Str) => states[c.state]? = cur) ?_ ?_
  · simp [metricInit, List.head?_eq_getElem?]
  · intro a ha c cur hR
    have hnone := (okAct_iff d a).mp (hok a ha)
    rw [upd_eq, hnone]
    cases a <;> simp [hk] at hnone <;> simp [hk, hR]
    next s =>
    -- the state was found at some index, which is where it stands
    cases hi : indexOf s states with
    | none => simp [hi] at hnone
    | some i => simpa using indexOf_getElem? s states i hi

/-- `enumerate(states)`, literally -/
theorem enumSamples_eq_zipIdx (name : Str) (cur : Nat) : ∀ (ss : List Str) (i : Nat),
    (enumSamples name cur i ss : List (Sample V))
      = (ss.zipIdx i).map (fun sj => ⟨[], [(name, sj.1)], if sj.2 = cur then Val.one else Val.zero⟩)
  | [], _ => rfl
  | _ :: ss, i => congrArg (_ :: ·) (enumSamples_eq_zipIdx name cur ss (i + 1))

/-- `enumerate(states)` against the reference's "exactly the current state at 1": among pairwise distinct states the
index is the current one exactly when the state is -/
theorem enumSamples_eq (name : Str) (cur : Nat) (t : Option Str) (ss : List Str) (hnd : ss.Nodup) (ht : ss[cur]? = t) :
    (enumSamples name cur 0 ss : List (Sample V))
      = ss.map (fun s => ⟨[], [(name, s)], if some s = t then Val.one else Val.zero⟩) := by
  rw [enumSamples_eq_zipIdx]
  conv => rhs; rw [← List.zipIdx_map_fst 0 ss, List.map_map]
  apply List.map_congr_left
  intro sj hm
  have hj : ss[sj.2]? = some sj.1 := List.mem_zipIdx_iff_getElem?.mp hm
  have hlt : sj.2 < ss.length := (List.getElem?_eq_some_iff.mp hj).1
  have : sj.2 = cur ↔ some sj.1 = t := by
    rw [← hj, ← ht]
    exact (List.getElem?_inj hlt hnd).symm
  simp only [Function.comp, this]


/-- counting in `V` is exact up to `B` -/
structure CountExact (V : Type) [Val V] (B : Nat) : Prop where
  zero_eq : (Val.ofNat 0 : V) = Val.zero
  one_eq : (Val.ofNat 1 : V) = Val.one
  add_eq : ∀ n m : Nat, n + m ≤ B → Val.add (Val.ofNat n : V) (Val.ofNat m) = Val.ofNat (n + m)

/-- `<=` on values is transitive (an IEEE fact, NaN included) -/
def LeTrans (V : Type) [Val V] : Prop :=
  ∀ a b c : V, Val.le a b = true → Val.le b c = true → Val.le a c = true

/-- the bucket test of `Histogram.observe`, as extracted: `amount <= bound` -/
theorem bucketTakes_eq (a b : V) : bucketTakes a b = Val.le a b := by
  simp [bucketTakes, histObserveTest, evalCmp]

/-- the `_sum` test of `Histogram._child_samples`, as extracted: `self._upper_bounds[0] >= 0` -/
theorem sumExposed_eq (bounds : List V) : sumExposed bounds = sumShown bounds := by
  cases bounds <;> simp [sumExposed, sumShown, histSumIndex, histSumTest, evalCmpConst, evalCmp, constV]

theorem addOnes_exact {B : Nat} (hx : CountExact V B) : ∀ n : Nat, n ≤ B → addOnes (Val.zero : V) n = Val.ofNat n
  | 0, _ => hx.zero_eq.symm
  | n + 1, h => by
    simp only [addOnes]
    rw [addOnes_exact hx n (by omega), ← hx.one_eq, hx.add_eq n 1 h]

theorem addOnes_shift (c : V) : ∀ n : Nat, addOnes (Val.add c Val.one) n = Val.add (addOnes c n) Val.one
  | 0 => rfl
  | n + 1 => by simp only [addOnes]; rw [addOnes_shift c n]

theorem observeBuckets_length (o : V) : ∀ (bs cs : List V), (observeBuckets o bs cs).length = cs.length
  | [], cs => by cases cs <;> rfl
  | _ :: _, [] => rfl
  | b :: bs, c :: cs => by
    simp only [observeBuckets]
    split
    · rfl
    · simp [observeBuckets_length o bs cs]

theorem cellsOf_length (bs obs : List V) : (cellsOf bs obs).length = bs.length := by
  suffices h : ∀ cs : List V, (obs.foldl (fun cs o => observeBuckets o bs cs) cs).length = cs.length by
    rw [cellsOf, h, List.length_map]
  induction obs with
  | nil => exact fun _ => rfl
  | cons o os ih => exact fun cs => (ih _).trans (observeBuckets_length o bs cs)

theorem foldl_observe_cons (b : V) (bs : List V) (obs : List V) (c : V) (cs : List V) :
    obs.foldl (fun cs o => observeBuckets o (b :: bs) cs) (c :: cs)
      = addOnes c (obs.countP (fun o => Val.le o b))
          :: (obs.filter (fun o => !Val.le o b)).foldl (fun cs o => observeBuckets o bs cs) cs := by
  induction obs generalizing c cs with
  | nil => rfl
  | cons o os ih =>
    rw [List.foldl_cons, observeBuckets, bucketTakes_eq]
    cases ho : Val.le o b with
    | true =>
      rw [if_pos rfl, ih, addOnes_shift]
      simp [ho, addOnes]
    | false =>
      rw [if_neg Bool.false_ne_true, ih]
      simp [ho]

theorem countP_split (p q : V → Bool) (himp : ∀ o, p o = true → q o = true) (obs : List V) :
    obs.countP p + (obs.filter (fun o => !p o)).countP q = obs.countP q := by
  induction obs with
  | nil => rfl
  | cons o os ih =>
    cases hp : p o with
    | true => simp [hp, himp o hp]; omega
    | false => cases hq : q o <;> simp [hp, hq] <;> omega

theorem countP_add_filter_not (p : V → Bool) (obs : List V) :
    obs.countP p + (obs.filter (fun o => !p o)).length = obs.length := by
  simpa using countP_split p (fun _ => true) (fun _ _ => rfl) obs

theorem cumulate_cells {B : Nat} (hx : CountExact V B) (htr : LeTrans V) (bs : List V) (obs : List V) (a : Nat)
    (hp : bs.Pairwise (fun x y => Val.le x y = true)) (hB : a + obs.length ≤ B) :
    cumulate (Val.ofNat a : V) (cellsOf bs obs) = bs.map (fun b => Val.ofNat (a + obs.countP (fun o => Val.le o b))) := by
  induction bs generalizing obs a with
  | nil => rw [List.eq_nil_of_length_eq_zero (cellsOf_length [] obs)]; rfl
  | cons b bs ih =>
    have hp' := List.pairwise_cons.mp hp
    have hlen := countP_add_filter_not (fun o => Val.le o b) obs
    -- the first cell counts the observations the first bound takes; the others see the rest
    have hcell : cellsOf (b :: bs) obs
        = addOnes Val.zero (obs.countP (fun o => Val.le o b)) :: cellsOf bs (obs.filter (fun o => !Val.le o b)) :=
      foldl_observe_cons b bs obs _ _
    rw [hcell, cumulate, List.map_cons, addOnes_exact hx _ (by omega), hx.add_eq _ _ (by omega),
      ih _ _ hp'.2 (by omega)]
    congr 1
    apply List.map_congr_left
    intro b' hb'
    -- `b <= b'`: an observation under `b` is under `b'`, so the two counts add up
    have := countP_split (fun o => Val.le o b) (fun o => Val.le o b')
      (fun o ho => htr o b b' ho (hp'.1 b' hb')) obs
    rw [Nat.add_assoc, this]

theorem cumulate_childOf {B : Nat} (hx : CountExact V B) (htr : LeTrans V) (d : Decl V) (bs : List (V × Str))
    (hk : d.kind = .histogram bs) (hp : (bs.map (·.1)).Pairwise (fun x y => Val.le x y = true))
    (acts : List (Action V)) (hlen : acts.length ≤ B) :
    cumulate Val.zero (childOf d acts).buckets
      = bs.map (fun b => Val.ofNat (bucketCount (observations acts) b.1)) := by
  have hobs := observations_length_le acts
  have hc := cumulate_cells hx htr (bs.map (·.1)) (observations acts) 0 hp (by omega)
  rw [(histogram_cells d bs hk acts).2]
  simpa [hx.zero_eq, List.map_map, Function.comp_def, bucketCount] using hc

theorem cumulate_length (acc : V) (cs : List V) : (cumulate acc cs).length = cs.length := by
  induction cs generalizing acc with
  | nil => rfl
  | cons c cs ih => rw [cumulate, List.length_cons, ih, List.length_cons]

theorem reachable_buckets_length (d : Decl V) (bs : List (V × Str)) (hk : d.kind = .histogram bs)
    (acts : List (Action V)) : (childOf d acts).buckets.length = bs.length := by
  rw [(histogram_cells d bs hk acts).2, cellsOf_length, List.length_map]

end PromVerif.Lemmas.Metrics
