/-
C12, the collector on ONE process's files.

Non-histogram families: every series has exactly one contribution, so
  * a counter / summary cell is returned as `0.0 + value` (the `samples[k] += value` of a `defaultdict(float)`),
  * a gauge in mode min / max is returned unchanged (`setdefault`), in mode sum as `0.0 + value`, in mode all / liveall
    unchanged under the key with the `pid` label, in a mostrecent mode unchanged if its set-time is positive and NOT AT
    ALL otherwise.

Histogram families: the bucket contributions come in blocks, one per child (label set `L x`), each listing the SAME
bounds `Bs` in declaration order with that child's NON-cumulative counts `bv x`.  Then, per child: the bounds the
collector sorts are `Bs` itself (`sortBounds_sorted`: already increasing), each merged count is `0.0 + count` (one
contribution), and the reported buckets are the running sums — the cumulation the in-process `_child_samples` does —
with `_count` the total.
-/
import PromVerif.Lemmas.BackendsFiles

namespace PromVerif.Lemmas.Backends
open PromVerif.Py PromVerif.Generated.Multiprocess
open PromVerif.Model.Multiprocess
open PromVerif.Spec.Multiprocess
set_option autoImplicit false
set_option linter.unusedSectionVars false

section single
variable {V : Type}

/-- filtering the blocks of a list by the key of one member leaves that member's block, when the keys are pairwise
different -/
theorem filter_flatMap_key {α β κ : Type} [DecidableEq κ] (key : α → κ) (kb : β → κ) (g : α → List β)
    (hg : ∀ a, ∀ y ∈ g a, kb y = key a) (l : List α) (hnd : (l.map key).Nodup) (x : α) (hx : x ∈ l) :
    (l.flatMap g).filter (fun y => decide (kb y = key x)) = g x := by
  rw [List.filter_flatMap, flatMap_key_single key (key x) (g x) _ l hnd, if_pos (List.mem_map_of_mem hx)]
  intro a ha
  by_cases e : key a = key x
  · rw [if_pos e, inj_of_nodup_map key l hnd a ha x hx e]
    exact filter_eq_self_of _ _ (fun y hy => decide_eq_true (hg x y hy))
  · rw [if_neg e]
    exact filter_eq_nil_of _ _ (fun y hy => decide_eq_false (by rw [hg a y hy]; exact e))

theorem filter_key_of_nodup (kf : Contrib V → SKey) (cs : List (Contrib V)) (hnd : (cs.map kf).Nodup) (c : Contrib V)
    (hc : c ∈ cs) : cs.filter (fun x => decide (kf x = kf c)) = [c] := by
  have h := filter_flatMap_key kf kf (fun x => [x]) (fun a y hy => by rw [List.mem_singleton.mp hy]) cs hnd c hc
  rwa [List.flatMap_singleton'] at h

theorem filter_key_cases (kf : Contrib V → SKey) (cs : List (Contrib V)) (hnd : (cs.map kf).Nodup) (k : SKey) :
    (∃ c, cs.filter (fun x => decide (kf x = k)) = [c]) ∨ cs.filter (fun x => decide (kf x = k)) = [] := by
  by_cases h : ∃ c ∈ cs, kf c = k
  · obtain ⟨c, hc, rfl⟩ := h
    exact Or.inl ⟨c, filter_key_of_nodup kf cs hnd c hc⟩
  · exact Or.inr (filter_eq_nil_of _ _ (fun c hc => decide_eq_false (fun e => h ⟨c, hc, e⟩)))

theorem exists_key_iff (kf : Contrib V → SKey) (cs : List (Contrib V)) (k : SKey) (P : Contrib V → Prop) :
    (∃ c ∈ cs, kf c = k ∧ P c) ↔ ∃ c ∈ cs.filter (fun x => decide (kf x = k)), P c := by
  simp only [List.mem_filter, decide_eq_true_eq, and_assoc]

theorem sumValue_single (vo : VOps V) (cs : List (Contrib V)) (hnd : (cs.map plainKey).Nodup) (k : SKey) (v : V) :
    sumValue vo cs k = some v ↔ ∃ c ∈ cs, plainKey c = k ∧ v = vo.add vo.zero c.value := by
  unfold sumValue valuesFor
  rw [exists_key_iff]
  rcases filter_key_cases plainKey cs hnd k with ⟨c, hf⟩ | hf <;> rw [hf]
  · simp only [aggSum, List.map_cons, List.map_nil, List.foldl_cons, List.foldl_nil, Option.some.injEq, List.mem_singleton,
      exists_eq_left]
    exact eq_comm
  · simp

theorem pick_single (better : V → V → Bool) (cs : List (Contrib V)) (hnd : (cs.map plainKey).Nodup) (k : SKey) (v : V) :
    aggPick better (valuesFor plainKey cs k) = some v ↔ ∃ c ∈ cs, plainKey c = k ∧ v = c.value := by
  unfold valuesFor
  rw [exists_key_iff]
  rcases filter_key_cases plainKey cs hnd k with ⟨c, hf⟩ | hf <;> rw [hf]
  · simp only [aggPick, List.map_cons, List.map_nil, List.foldl_nil, Option.some.injEq, List.mem_singleton, exists_eq_left]
    exact eq_comm
  · simp [aggPick]

theorem all_single (vo : VOps V) (cs : List (Contrib V)) (hnd : (cs.map pidKey).Nodup) (k : SKey) (v : V) :
    gaugeValue vo .gaugeAll cs k = some v ↔ ∃ c ∈ cs, pidKey c = k ∧ v = c.value := by
  simp only [gaugeValue, aggLast, valuesFor]
  rw [exists_key_iff]
  rcases filter_key_cases pidKey cs hnd k with ⟨c, hf⟩ | hf <;> rw [hf]
  · simp only [List.map_cons, List.map_nil, List.getLast?_singleton, Option.some.injEq, List.mem_singleton, exists_eq_left]
    exact eq_comm
  · simp

theorem mostRecent_single (vo : VOps V) (cs : List (Contrib V)) (hnd : (cs.map plainKey).Nodup) (k : SKey) (v : V) :
    gaugeValue vo .gaugeMostRecent cs k = some v ↔
      ∃ c ∈ cs, plainKey c = k ∧ v = c.value ∧ vo.lt vo.zero (normTs vo c.ts) = true := by
  simp only [gaugeValue]
  rw [exists_key_iff]
  rcases filter_key_cases plainKey cs hnd k with ⟨c, hf⟩ | hf <;> rw [hf]
  · by_cases hl : vo.lt vo.zero (normTs vo c.ts) = true <;> simp [aggMostRecent, hl]
    exact eq_comm
  · simp [aggMostRecent]

end single

variable {V B X : Type} [DecidableEq B]

theorem distinct_of_nodup {α : Type} [DecidableEq α] (l : List α) (h : l.Nodup) : distinct l = l := by
  unfold distinct
  suffices ∀ acc : List α, (∀ a ∈ l, a ∉ acc) →
      l.foldl (fun acc a => if a ∈ acc then acc else acc ++ [a]) acc = acc ++ l by
    simpa using this [] (by simp)
  induction l with
  | nil => intro acc _; simp
  | cons x xs ih =>
    intro acc hdis
    have hx := List.nodup_cons.mp h
    simp only [List.foldl_cons]
    rw [if_neg (hdis x List.mem_cons_self), ih hx.2]
    · simp
    · intro a ha hm
      rcases List.mem_append.mp hm with hm | hm
      · exact hdis a (List.mem_cons_of_mem _ ha) hm
      · simp only [List.mem_singleton] at hm; subst hm; exact hx.1 ha

theorem sortBounds_sorted (lt : B → B → Bool) : ∀ (l : List B), l.Pairwise (fun a b => lt b a = false) → sortBounds lt l = l
  | [], _ => rfl
  | x :: xs, h => by
    have hx := List.pairwise_cons.mp h
    unfold sortBounds
    rw [List.foldr_cons]
    have ih := sortBounds_sorted lt xs hx.2
    unfold sortBounds at ih
    rw [ih]
    cases xs with
    | nil => rfl
    | cons y ys =>
      unfold insertBound
      rw [if_neg (by rw [hx.1 y List.mem_cons_self]; simp)]

/-- the bucket contributions of child `x` -/
def bblock (Bs : List B) (L : X → Labels) (bv : X → List V) (x : X) : List (Labels × B × V) :=
  (Bs.zip (bv x)).map (fun p => (L x, p.1, p.2))

structure HistIn (bo : BOps B) (Bs : List B) (ch : List X) (L : X → Labels) (bv : X → List V) : Prop where
  hL : (ch.map L).Nodup
  hB : Bs.Nodup
  hS : Bs.Pairwise (fun a b => bo.lt b a = false)
  hlen : ∀ x ∈ ch, (bv x).length = Bs.length
  hne : Bs ≠ []

variable (vo : VOps V) (bo : BOps B) (Bs : List B) (ch : List X) (L : X → Labels) (bv : X → List V)

theorem bblock_fst (x : X) (y : Labels × B × V) (hy : y ∈ bblock Bs L bv x) : y.1 = L x := by
  unfold bblock at hy
  obtain ⟨p, _, rfl⟩ := List.mem_map.mp hy
  rfl

theorem filter_bblocks (hL : (ch.map L).Nodup) (x : X) (hx : x ∈ ch) :
    (ch.flatMap (bblock Bs L bv)).filter (fun y => decide (y.1 = L x)) = bblock Bs L bv x :=
  filter_flatMap_key L (·.1) (bblock Bs L bv) (bblock_fst Bs L bv) ch hL x hx

theorem boundsOf_block (h : HistIn bo Bs ch L bv) (x : X) (hx : x ∈ ch) :
    boundsOf (ch.flatMap (bblock Bs L bv)) (L x) = Bs := by
  unfold boundsOf
  rw [filter_bblocks Bs ch L bv h.hL x hx]
  unfold bblock
  rw [List.map_map]
  have : ((fun x : Labels × B × V => x.2.1) ∘ fun p : B × V => (L x, p.1, p.2)) = (·.1) := rfl
  rw [this, map_fst_zip_of_length Bs (bv x) (h.hlen x hx)]
  exact distinct_of_nodup Bs h.hB

theorem merged_block : ∀ (Bs0 : List B) (vs : List V), Bs0.Nodup → vs.length = Bs0.length →
    ∀ (Lx : Labels), Bs0.map (fun b => (b, aggSum vo ((((Bs0.zip vs).map (fun p => (Lx, p.1, p.2))).filter
        (fun y : Labels × B × V => decide (y.2.1 = b))).map (·.2.2))))
      = (Bs0.zip vs).map (fun p => (p.1, vo.add vo.zero p.2))
  | [], _, _, _, _ => by simp
  | _ :: _, [], _, h, _ => by simp at h
  | b :: bs, v :: vs, hnd, hlen, Lx => by
    have hnd' := List.nodup_cons.mp hnd
    simp only [List.zip_cons_cons, List.map_cons]
    congr 1
    · rw [List.filter_cons_of_pos (by simp)]
      rw [filter_eq_nil_of _ _ (fun y hy => by
        obtain ⟨p, hp, rfl⟩ := List.mem_map.mp hy
        simp only [decide_eq_false_iff_not]
        intro e
        exact hnd'.1 (e ▸ (List.of_mem_zip hp).1))]
      simp [aggSum]
    · have ih := merged_block bs vs hnd'.2 (by simpa using hlen) Lx
      rw [← ih]
      apply List.map_congr_left
      intro b' hb'
      have hne : ¬ b = b' := fun e => hnd'.1 (e ▸ hb')
      rw [List.filter_cons_of_neg (by simpa using hne)]

theorem mergedSorted_block (h : HistIn bo Bs ch L bv) (x : X) (hx : x ∈ ch) :
    mergedSorted vo bo (ch.flatMap (bblock Bs L bv)) (L x) = (Bs.zip (bv x)).map (fun p => (p.1, vo.add vo.zero p.2)) := by
  unfold mergedSorted
  rw [boundsOf_block bo Bs ch L bv h x hx, sortBounds_sorted bo.lt Bs h.hS]
  rw [← merged_block vo Bs (bv x) h.hB (h.hlen x hx) (L x)]
  apply List.map_congr_left
  intro b _
  unfold merged
  congr 2
  have : (fun y : Labels × B × V => decide (y.1 = L x ∧ y.2.1 = b))
      = (fun y => decide (y.2.1 = b) && decide (y.1 = L x)) := by
    funext y
    by_cases h1 : y.1 = L x <;> by_cases h2 : y.2.1 = b <;> simp [h1, h2]
  rw [this, ← List.filter_filter, filter_bblocks Bs ch L bv h.hL x hx]
  rfl

/-- the series the collector reports for child `x` (before conversion): cumulated buckets, then `_count` -/
def childSeries (mn : Str) (x : X) : List (SKey × V) :=
  (cumulate vo vo.zero ((Bs.zip (bv x)).map (fun p => (p.1, vo.add vo.zero p.2)))).map
      (fun bvv => ((mn ++ "_bucket".toList, L x ++ [("le".toList, bo.fmt bvv.1)]), bvv.2))
    ++ [((mn ++ "_count".toList, L x),
        aggSum vo (((Bs.zip (bv x)).map (fun p => (p.1, vo.add vo.zero p.2))).map (·.2)))]

theorem groupSeries_block (h : HistIn bo Bs ch L bv) (mn : Str) (x : X) (hx : x ∈ ch) :
    groupSeries vo bo mn (ch.flatMap (bblock Bs L bv)) (L x) = childSeries vo bo Bs L bv mn x := by
  unfold groupSeries countOf childSeries
  rw [mergedSorted_block vo bo Bs ch L bv h x hx]

theorem mem_groups_blocks (h : HistIn bo Bs ch L bv) (L' : Labels) :
    L' ∈ groups (ch.flatMap (bblock Bs L bv)) ↔ ∃ x ∈ ch, L' = L x := by
  unfold groups
  rw [mem_distinct]
  constructor
  · intro hm
    obtain ⟨y, hy, rfl⟩ := List.mem_map.mp hm
    obtain ⟨x, hx, hy'⟩ := List.mem_flatMap.mp hy
    exact ⟨x, hx, bblock_fst Bs L bv x y hy'⟩
  · rintro ⟨x, hx, rfl⟩
    -- the bblock of `x` is not empty
    cases hb : Bs with
    | nil => exact absurd hb h.hne
    | cons b bs =>
      have hl := h.hlen x hx
      cases hv : bv x with
      | nil => rw [hv, hb] at hl; simp at hl
      | cons v vs =>
        refine List.mem_map.mpr ⟨(L x, b, v), List.mem_flatMap.mpr ⟨x, hx, ?_⟩, rfl⟩
        unfold bblock
        rw [hv]
        simp

theorem mem_bucketSeries_blocks (h : HistIn bo Bs ch L bv) (mn : Str) (kv : SKey × V) :
    kv ∈ (groups (ch.flatMap (bblock Bs L bv))).flatMap (groupSeries vo bo mn (ch.flatMap (bblock Bs L bv))) ↔
      ∃ x ∈ ch, kv ∈ childSeries vo bo Bs L bv mn x := by
  rw [List.mem_flatMap]
  constructor
  · rintro ⟨L', hL', hkv⟩
    obtain ⟨x, hx, rfl⟩ := (mem_groups_blocks bo Bs ch L bv h L').mp hL'
    rw [groupSeries_block vo bo Bs ch L bv h mn x hx] at hkv
    exact ⟨x, hx, hkv⟩
  · rintro ⟨x, hx, hkv⟩
    refine ⟨L x, (mem_groups_blocks bo Bs ch L bv h _).mpr ⟨x, hx, rfl⟩, ?_⟩
    rw [groupSeries_block vo bo Bs ch L bv h mn x hx]
    exact hkv

end PromVerif.Lemmas.Backends
