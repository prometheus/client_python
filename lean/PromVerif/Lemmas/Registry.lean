/-
Lemmas about the registry operations: what each does to the two maps, and preservation of `Inv`.
-/
import PromVerif.Spec.Registry
import PromVerif.Lemmas.RegistryDict

namespace PromVerif.Model.Registry
open PromVerif.Py PromVerif.Spec.Registry

-- `Inv` alone would also name core's class of `⁻¹`, and every occurrence would be elaborated both ways
export PromVerif.Spec.Registry (Inv)

/-! ### the code has the reference shape

`Model/Registry.lean` consults the decision structure extracted from registry.py (`Generated/Registry.lean`).  Each lemma
below states that, with the flags as extracted, a model function IS its reference body; the flags enter by `decide`, so
on a tree whose `register` / `set_target_info` / … has another (recognised) shape the lemma — and with it every theorem of
C06/C07 about that function, all of which go through these lemmas — stops checking. -/

open PromVerif.Generated.Registry in
theorem registry_shape_ok :
    registerChecksAllBeforeStore = true ∧ setTargetInfoStoresAfterCheck = true ∧
    setTargetInfoClashNegatesPrevious = true ∧ setTargetInfoClashIsConjunction = true ∧
    setTargetInfoClearsOnlyWhenPreviouslySet = true ∧ unregisterTakesRecordedNames = true ∧
    unregisterDeletesEachName = true ∧ collectSnapshotsUnderLock = true ∧ collectTargetInfoFirst = true ∧
    getNamesAutoDescribeFallback = true ∧ restrictedResolvesUnderLock = true ∧ restrictedCollectorsIsSet = true ∧
    restrictedTargetInfoNeedsRequested = true ∧ restrictedTargetInfoNeedsConfigured = true ∧
    restrictedFiltersAndDropsEmpty = true := by decide

/-- `_get_names` chooses `describe`, else `collect` under auto-describe (T1 `getNamesAutoDescribeFallback`) -/
theorem getNames_eq (ad : Bool) (c : Collector) :
    getNames ad c = namesOfDescribed (described ad c) := by
  have hf : PromVerif.Generated.Registry.getNamesAutoDescribeFallback = true := by decide
  unfold getNames
  simp only [hf, Bool.and_true]

/-- `register` tests ALL names, raises before any store, then stores (T1 `registerChecksAllBeforeStore`) -/
theorem register_eq (s : State) (c : Collector) : register s c = registerAtomic s c := by
  have hf : PromVerif.Generated.Registry.registerChecksAllBeforeStore = true := by decide
  simp only [register, hf, if_true]

/-- `unregister` releases the names recorded for the collector (T1 `unregisterTakesRecordedNames`,
`unregisterDeletesEachName`) -/
theorem unregister_eq (s : State) (c : Collector) :
    unregister s c = unregisterOf (dGet c s.collectorToNames) s c := by
  have hf : PromVerif.Generated.Registry.unregisterTakesRecordedNames = true := by decide
  have _hd : PromVerif.Generated.Registry.unregisterDeletesEachName = true := by decide
  simp only [unregister, releasedNames, hf, if_true]

/-- `set_target_info`: clash test `not previous and claimed`, raise BEFORE `_target_info` is assigned, pop only when
target info was configured (T1 `setTargetInfoStoresAfterCheck`, `…ClashNegatesPrevious`, `…ClashIsConjunction`,
`…ClearsOnlyWhenPreviouslySet`) -/
theorem setTargetInfo_eq (s : State) (labels : Option Labels) :
    setTargetInfo s labels =
      if truthy labels then
        if !truthy s.targetInfo && dHas tiName s.namesToCollectors then (s, some .valueError)
        else ({ s with namesToCollectors := dSet tiName .empty s.namesToCollectors, targetInfo := labels }, none)
      else if truthy s.targetInfo then
        ({ s with namesToCollectors := dDel tiName s.namesToCollectors, targetInfo := labels }, none)
      else ({ s with targetInfo := labels }, none) := by
  have h1 : PromVerif.Generated.Registry.setTargetInfoStoresAfterCheck = true := by decide
  have h2 : PromVerif.Generated.Registry.setTargetInfoClashNegatesPrevious = true := by decide
  have h3 : PromVerif.Generated.Registry.setTargetInfoClashIsConjunction = true := by decide
  have h4 : PromVerif.Generated.Registry.setTargetInfoClearsOnlyWhenPreviouslySet = true := by decide
  simp only [setTargetInfo, setTargetInfoWith, tiClashTest, h1, h2, h3, h4, if_true, Bool.not_true, Bool.or_false]

/-- `collect`: target info first, then the collectors in dict order (T1 `collectTargetInfoFirst`) -/
theorem collect_eq (s : State) :
    collect s = { families := tiFamily s.targetInfo ++ s.collectorToNames.flatMap (fun e => e.1.families)
                  calls := s.collectorToNames.map (fun e => Owner.coll e.1) } := by
  have hf : PromVerif.Generated.Registry.collectTargetInfoFirst = true := by decide
  have _hl : PromVerif.Generated.Registry.collectSnapshotsUnderLock = true := by decide
  simp only [collect, hf, if_true]

/-- `RestrictedRegistry.collect` gathers the resolved collectors in a SET (T1 `restrictedCollectorsIsSet`) -/
theorem collAdd_eq (o : Owner) (acc : List Owner) : collAdd o acc = setAdd o acc := by
  have hf : PromVerif.Generated.Registry.restrictedCollectorsIsSet = true := by decide
  simp only [collAdd, hf, if_true]

/-- `RestrictedRegistry.collect`: target info only when requested AND configured (T1
`restrictedTargetInfoNeedsRequested`, `…NeedsConfigured`), names resolved under the lock, every family through
`_restricted_metric`, empty results dropped -/
theorem restrictedCollect_eq (names : List Name) (s : State) :
    restrictedCollect names s =
      { families := (if decide (tiName ∈ names) && truthy s.targetInfo then tiFamily s.targetInfo else []) ++
          (selectCollectors s.namesToCollectors names []).flatMap (fun o => o.families.filterMap (restrictedMetric names))
        calls := selectCollectors s.namesToCollectors names [] } := by
  have h1 : PromVerif.Generated.Registry.restrictedTargetInfoNeedsRequested = true := by decide
  have h2 : PromVerif.Generated.Registry.restrictedTargetInfoNeedsConfigured = true := by decide
  have _h3 : PromVerif.Generated.Registry.restrictedResolvesUnderLock = true := by decide
  have _h4 : PromVerif.Generated.Registry.restrictedFiltersAndDropsEmpty = true := by decide
  simp only [restrictedCollect, h1, h2, Bool.not_true, Bool.or_false]

/-- the table in the source is the table of the statement (both are closed, one evaluation per type) -/
theorem suffixesOf_eq (t : MType) : suffixesOf t = suffixes t := by
  cases t <;> decide +kernel

theorem mem_appendNew (a n : Name) (r : List Name) : a ∈ appendNew r n ↔ a ∈ r ∨ a = n :=
  mem_appendIfNew a n r

theorem nodup_appendNew {r : List Name} (h : r.Nodup) (n : Name) : (appendNew r n).Nodup :=
  nodup_appendIfNew n h

theorem mem_addAll (a : Name) (ns : List Name) : ∀ r : List Name, a ∈ addAll r ns ↔ a ∈ r ∨ a ∈ ns := by
  induction ns with
  | nil => intro r; exact ⟨Or.inl, fun h => h.elim id (fun h => nomatch h)⟩
  | cons n ns ih =>
    intro r
    show a ∈ addAll (appendNew r n) ns ↔ _
    rw [ih, mem_appendNew, List.mem_cons, or_assoc]

theorem nodup_addAll (ns : List Name) : ∀ {r : List Name}, r.Nodup → (addAll r ns).Nodup := by
  induction ns with
  | nil => intro r h; exact h
  | cons n ns ih => intro r h; exact ih (nodup_appendNew h n)

theorem familyNames_eq (m : Name × MType) : familyNames m = familyClaims m.1 m.2 := by
  rw [familyNames, suffixesOf_eq, List.map_cons, List.append_nil]
  rfl

theorem mem_familyClaims (n : Name) {t : MType} {suf : List Char} (h : suf = [] ∨ suf ∈ suffixes t) :
    n ++ suf ∈ familyClaims n t := by
  rcases h with rfl | h
  · rw [List.append_nil]; exact List.mem_cons_self
  · exact List.mem_cons_of_mem _ (List.mem_map.2 ⟨suf, h, rfl⟩)

/-- the loop of `_get_names` over the described families is ONE pass of `appendNew` over all their names -/
theorem namesOfDescribed_some (ms : List (Name × MType)) :
    namesOfDescribed (some ms) = addAll [] (ms.flatMap familyNames) :=
  List.foldl_flatMap.symm

theorem mem_getNames_iff (ad : Bool) (c : Collector) (n : Name) : n ∈ getNames ad c ↔ n ∈ claims ad c := by
  rw [getNames_eq, claims]
  cases described ad c with
  | none => exact Iff.rfl
  | some ms =>
    rw [namesOfDescribed_some, mem_addAll]
    simp only [List.not_mem_nil, false_or, List.mem_flatMap, familyNames_eq]

theorem getNames_nodup (ad : Bool) (c : Collector) : (getNames ad c).Nodup := by
  rw [getNames_eq]
  cases described ad c with
  | none => exact List.nodup_nil
  | some ms => rw [namesOfDescribed_some]; exact nodup_addAll _ List.nodup_nil

theorem setAll_cons (o : Owner) (n : Name) (ns : List Name) (d : List (Name × Owner)) :
    setAll o (n :: ns) d = setAll o ns (dSet n o d) := rfl

theorem mem_setAll (o : Owner) (names : List Name) (d : List (Name × Owner)) (a : Name) (b : Owner) :
    (a, b) ∈ setAll o names d ↔ (a ∈ names ∧ b = o) ∨ (a ∉ names ∧ (a, b) ∈ d) := by
  induction names generalizing d with
  | nil => exact ⟨fun h => Or.inr ⟨List.not_mem_nil, h⟩, fun h => h.elim (fun h => nomatch h.1) And.right⟩
  | cons n ns ih =>
    rw [setAll_cons, ih, mem_dSet, List.mem_cons]
    by_cases hm : a ∈ ns
    · simp [hm]
    · simp [hm]

theorem nodup_setAll (o : Owner) (names : List Name) {d : List (Name × Owner)}
    (hn : (d.map Prod.fst).Nodup) : ((setAll o names d).map Prod.fst).Nodup := by
  induction names generalizing d with
  | nil => exact hn
  | cons n ns ih => exact ih (nodup_dSet n o hn)

theorem mem_keys_setAll (o : Owner) (names : List Name) (d : List (Name × Owner)) (a : Name) :
    a ∈ (setAll o names d).map Prod.fst ↔ a ∈ names ∨ a ∈ d.map Prod.fst := by
  induction names generalizing d with
  | nil => exact ⟨Or.inr, fun h => h.elim (fun h => nomatch h) id⟩
  | cons n ns ih => rw [setAll_cons, ih, mem_keys_dSet, List.mem_cons, or_assoc, or_left_comm]

/-- the test `if duplicates:` -/
def clashes (s : State) (c : Collector) : Bool :=
  (getNames s.autoDescribe c).any (fun n => dHas n s.namesToCollectors)

theorem register_raise {s : State} {c : Collector} (h : clashes s c = true) :
    register s c = (s, some .valueError) := by
  rw [register_eq, registerAtomic]
  exact if_pos h

theorem register_ok {s : State} {c : Collector} (h : clashes s c = false) :
    register s c = ({ s with namesToCollectors := setAll (.coll c) (getNames s.autoDescribe c) s.namesToCollectors
                             collectorToNames := dSet c (getNames s.autoDescribe c) s.collectorToNames }, none) := by
  rw [register_eq, registerAtomic]
  exact if_neg (Bool.not_eq_true _ ▸ h)

theorem clashes_false_iff (s : State) (c : Collector) :
    clashes s c = false ↔ ∀ n ∈ getNames s.autoDescribe c, n ∉ s.namesToCollectors.map Prod.fst := by
  simp only [clashes, List.any_eq_false, Bool.not_eq_true, dHas_false_iff]

end PromVerif.Model.Registry

namespace PromVerif.Spec.Registry
open PromVerif.Model.Registry

variable {s : State}

theorem Inv.coll_mem (hi : Inv s) {c : Collector} {ns : List Name} {n : Name}
    (hm : (c, ns) ∈ s.collectorToNames) (hn : n ∈ ns) : (n, Owner.coll c) ∈ s.namesToCollectors :=
  (hi.graph n _).2 (Or.inl ⟨c, ns, rfl, hm, hn⟩)

/-- configured target info reserves `target_info` for the `_EmptyCollector` -/
theorem Inv.empty_mem (hi : Inv s) (ht : truthy s.targetInfo = true) : (tiName, Owner.empty) ∈ s.namesToCollectors :=
  (hi.graph _ _).2 (Or.inr ⟨rfl, rfl, ht⟩)

theorem Inv.owner_unique (hi : Inv s) {n : Name} {o₁ o₂ : Owner} (h₁ : (n, o₁) ∈ s.namesToCollectors)
    (h₂ : (n, o₂) ∈ s.namesToCollectors) : o₁ = o₂ :=
  val_unique hi.n2cNodup h₁ h₂

theorem Inv.mem_stored_iff (hi : Inv s) {c : Collector} {ns : List Name} (hm : (c, ns) ∈ s.collectorToNames) (n : Name) :
    n ∈ ns ↔ n ∈ claims s.autoDescribe c := by
  rw [hi.stored c ns hm]
  exact mem_getNames_iff _ _ _

end PromVerif.Spec.Registry

namespace PromVerif.Model.Registry
open PromVerif.Py PromVerif.Spec.Registry

theorem inv_register_ok {s : State} (hi : Inv s) (c : Collector) (h : clashes s c = false) :
    Inv (register s c).1 := by
  rw [register_ok h]
  refine ⟨nodup_dSet _ _ hi.c2nNodup, nodup_setAll _ _ hi.n2cNodup, ?_, ?_⟩
  · intro c' ns hm
    rcases (mem_dSet c' c ns _ _).1 hm with ⟨h1, h2⟩ | ⟨_, h2⟩
    · rw [h1, h2]
    · exact hi.stored c' ns h2
  · intro n o
    -- no key of the name map is one of the new names, so the insertion loop only adds entries
    have hfresh : (n, o) ∈ s.namesToCollectors → n ∉ getNames s.autoDescribe c := fun hmem hn =>
      (clashes_false_iff s c).1 h _ hn (List.mem_map.2 ⟨_, hmem, rfl⟩)
    show (n, o) ∈ setAll _ _ _ ↔ _
    rw [mem_setAll, and_iff_right_of_imp hfresh, hi.graph n o]
    constructor
    · rintro (⟨h1, h2⟩ | ⟨c', ns, ho, hm, hn⟩ | h3)
      · exact Or.inl ⟨c, _, h2, (mem_dSet _ _ _ _ _).2 (Or.inl ⟨rfl, rfl⟩), h1⟩
      · -- a collector registered before keeps its names (also when it is the registering one: same `_get_names`)
        refine Or.inl ⟨c', ns, ho, (mem_dSet _ _ _ _ _).2 ?_, hn⟩
        by_cases hc : c' = c
        · exact Or.inl ⟨hc, hc ▸ hi.stored c' ns hm⟩
        · exact Or.inr ⟨hc, hm⟩
      · exact Or.inr h3
    · rintro (⟨c', ns, ho, hm, hn⟩ | h3)
      · rcases (mem_dSet c' c ns _ _).1 hm with ⟨h1, h2⟩ | ⟨_, h2⟩
        · exact Or.inl ⟨h2 ▸ hn, h1 ▸ ho⟩
        · exact Or.inr (Or.inl ⟨c', ns, ho, h2, hn⟩)
      · exact Or.inr (Or.inr h3)

theorem delNames_all {names : List Name} (hn : names.Nodup) :
    ∀ {d : List (Name × Owner)}, (∀ n ∈ names, n ∈ d.map Prod.fst) →
      delNames d names = (d.filter (fun p => decide (p.1 ∉ names)), true) := by
  induction names with
  | nil =>
    intro d _
    rw [delNames, List.filter_eq_self.2 (fun _ _ => decide_eq_true List.not_mem_nil)]
  | cons n ns ih =>
    intro d hall
    have hnd := List.nodup_cons.1 hn
    rw [delNames, if_pos ((dHas_iff n d).2 (hall n List.mem_cons_self)), ih hnd.2]
    · rw [dDel, List.filter_filter]
      congr 2
      funext p
      simp only [List.mem_cons, not_or, Bool.decide_and, Bool.and_comm]
    · intro m hm
      rw [mem_keys_dDel]
      exact ⟨fun e => hnd.1 (e ▸ hm), hall m (List.mem_cons_of_mem _ hm)⟩

theorem unregister_unknown {s : State} {c : Collector} (h : c ∉ s.collectorToNames.map Prod.fst) :
    unregister s c = (s, some .keyError) := by
  rw [unregister_eq, (dGet_none_iff c _).2 h]
  rfl

theorem unregister_ok {s : State} (hi : Inv s) {c : Collector} {names : List Name}
    (hm : (c, names) ∈ s.collectorToNames) :
    unregister s c = ({ s with namesToCollectors := s.namesToCollectors.filter (fun p => decide (p.1 ∉ names))
                               collectorToNames := dDel c s.collectorToNames }, none) := by
  rw [unregister_eq, dGet_of_mem hi.c2nNodup hm, unregisterOf,
    delNames_all (hi.stored c names hm ▸ getNames_nodup _ _) (fun n hn => List.mem_map.2 ⟨_, hi.coll_mem hm hn, rfl⟩)]

theorem inv_unregister_ok {s : State} (hi : Inv s) {c : Collector} {names : List Name}
    (hm : (c, names) ∈ s.collectorToNames) : Inv (unregister s c).1 := by
  rw [unregister_ok hi hm]
  refine ⟨nodup_dDel _ hi.c2nNodup, hi.n2cNodup.sublist (List.filter_sublist.map Prod.fst), ?_, ?_⟩
  · intro c' ns h
    exact hi.stored c' ns ((mem_dDel _ _ _ _).1 h).2
  · intro n o
    -- the name map holds the names of `names` under `c` only
    have hown : n ∈ names → (n, o) ∈ s.namesToCollectors → o = Owner.coll c := fun hn hmem =>
      hi.owner_unique hmem (hi.coll_mem hm hn)
    show (n, o) ∈ List.filter _ _ ↔ _
    rw [List.mem_filter, decide_eq_true_eq]
    constructor
    · rintro ⟨hmem, hnot⟩
      rcases (hi.graph n o).1 hmem with ⟨c', ns, ho, hm', hn⟩ | h3
      · refine Or.inl ⟨c', ns, ho, (mem_dDel _ _ _ _).2 ⟨fun e => hnot ?_, hm'⟩, hn⟩
        -- were `c'` the collector removed, `ns` would be its recorded `names`
        rw [e] at hm'
        exact val_unique hi.c2nNodup hm' hm ▸ hn
      · exact Or.inr h3
    · rintro (⟨c', ns, ho, hm', hn⟩ | h3)
      · have ⟨hne, hm''⟩ := (mem_dDel _ _ _ _).1 hm'
        have hmem : (n, o) ∈ s.namesToCollectors := ho ▸ hi.coll_mem hm'' hn
        exact ⟨hmem, fun hnn => hne (Owner.coll.inj (ho ▸ hown hnn hmem))⟩
      · have hmem : (n, o) ∈ s.namesToCollectors := (hi.graph n o).2 (Or.inr h3)
        exact ⟨hmem, fun hnn => nomatch h3.1 ▸ hown hnn hmem⟩

/-- the test `if not self._target_info and 'target_info' in self._names_to_collectors`, reached under `if labels:` -/
def tiClashes (s : State) (labels : Option Labels) : Bool :=
  truthy labels && (!truthy s.targetInfo && dHas tiName s.namesToCollectors)

theorem setTargetInfo_raise {s : State} {labels : Option Labels} (h : tiClashes s labels = true) :
    setTargetInfo s labels = (s, some .valueError) := by
  rw [tiClashes, Bool.and_eq_true] at h
  rw [setTargetInfo_eq, if_pos h.1, if_pos h.2]

theorem setTargetInfo_ok {s : State} {labels : Option Labels} (h : tiClashes s labels = false) :
    (setTargetInfo s labels).2 = none := by
  rw [setTargetInfo_eq]
  cases hl : truthy labels
  · cases truthy s.targetInfo <;> rfl
  · rw [tiClashes, hl, Bool.true_and] at h
    rw [h]
    rfl

theorem inv_setTargetInfo {s : State} (hi : Inv s) (labels : Option Labels) :
    Inv (setTargetInfo s labels).1 := by
  -- once no registered collector holds `target_info`, the entries under other names are exactly the collectors' entries
  have hrest : (∀ c ns, (c, ns) ∈ s.collectorToNames → tiName ∉ ns) → ∀ n o, n ≠ tiName ∧ (n, o) ∈ s.namesToCollectors ↔
      ∃ c ns, o = Owner.coll c ∧ (c, ns) ∈ s.collectorToNames ∧ n ∈ ns := by
    intro hfree n o
    rw [hi.graph n o]
    constructor
    · rintro ⟨h1, h3 | ⟨_, h4, _⟩⟩
      · exact h3
      · exact absurd h4 h1
    · rintro ⟨c, ns, ho, hm, hn⟩
      exact ⟨fun e => hfree c ns hm (e ▸ hn), Or.inl ⟨c, ns, ho, hm, hn⟩⟩
  -- while target info is configured `target_info` belongs to the `_EmptyCollector`
  have hfree : truthy s.targetInfo = true → ∀ c ns, (c, ns) ∈ s.collectorToNames → tiName ∉ ns := fun ht c ns hm hn =>
    nomatch hi.owner_unique (hi.coll_mem hm hn) (hi.empty_mem ht)
  rw [setTargetInfo_eq]
  by_cases hl : truthy labels = true
  · rw [if_pos hl]
    by_cases hc : (!truthy s.targetInfo && dHas tiName s.namesToCollectors) = true
    · rw [if_pos hc]; exact hi
    · rw [if_neg hc]
      refine ⟨hi.c2nNodup, nodup_dSet _ _ hi.n2cNodup, hi.stored, fun n o => ?_⟩
      show (n, o) ∈ dSet _ _ _ ↔ _ ∨ (_ ∧ _ ∧ truthy labels = true)
      have hfree' : ∀ c ns, (c, ns) ∈ s.collectorToNames → tiName ∉ ns := by
        intro c ns hm hn
        by_cases ht : truthy s.targetInfo = true
        · exact hfree ht c ns hm hn
        · -- not configured, and the call did not raise: `target_info` is no key at all
          rw [Bool.eq_false_iff.2 ht, dHas_of_mem (hi.coll_mem hm hn)] at hc
          exact hc rfl
      rw [mem_dSet, hl, hrest hfree']
      exact ⟨fun h => h.elim (fun ⟨h1, h2⟩ => Or.inr ⟨h2, h1, rfl⟩) Or.inl,
        fun h => h.elim Or.inr (fun ⟨h2, h1, _⟩ => Or.inl ⟨h1, h2⟩)⟩
  · rw [if_neg hl]
    have hl' : truthy labels = false := Bool.eq_false_iff.2 hl
    by_cases ht : truthy s.targetInfo = true
    · rw [if_pos ht]
      refine ⟨hi.c2nNodup, nodup_dDel _ hi.n2cNodup, hi.stored, fun n o => ?_⟩
      show (n, o) ∈ dDel _ _ ↔ _ ∨ (_ ∧ _ ∧ truthy labels = true)
      rw [mem_dDel, hl', hrest (hfree ht)]
      exact (or_iff_left fun h => nomatch h.2.2).symm
    · rw [if_neg ht]
      refine ⟨hi.c2nNodup, hi.n2cNodup, hi.stored, fun n o => ?_⟩
      show (n, o) ∈ s.namesToCollectors ↔ _ ∨ (_ ∧ _ ∧ truthy labels = true)
      rw [hi.graph n o, hl', Bool.eq_false_iff.2 ht]

theorem inv_base (ad : Bool) : Inv ⟨[], [], ad, some []⟩ := by
  refine ⟨List.nodup_nil, List.nodup_nil, fun _ _ h => (nomatch h), fun n o => ?_⟩
  simp [truthy]

end PromVerif.Model.Registry
