/-
`_read_metrics` on well-formed file names: the file name written by values.py (`'{}_{}.db'`) is split back into type,
mode and pid, and the `metrics` dict groups all contributions of a family in listing order.
Then one family end to end: the record `_read_metrics` builds from the family's contributions, pushed through the branch
of `_accumulate_metrics` its type selects, equals the spec's value function (`Spec.Multiprocess.value`) as a finite map.
-/
import PromVerif.Model.Values
import PromVerif.Lemmas.MultiprocessHist
import PromVerif.Lemmas.Str

namespace PromVerif.Model.Multiprocess
open PromVerif.Py PromVerif.Generated.Multiprocess
open PromVerif.Spec.Multiprocess
set_option autoImplicit false

variable {V B : Type}

theorem splitChar_no_sep (sep : Char) (a : Str) (h : sep ∉ a) : splitChar sep a = [a] := by
  induction a with
  | nil => rfl
  | cons c r ih =>
    have hc : c ≠ sep := fun e => h (e ▸ List.mem_cons_self)
    have hr : sep ∉ r := fun e => h (List.mem_cons_of_mem _ e)
    simp [splitChar, hc, ih hr]

theorem splitChar_append (sep : Char) (a rest : Str) (h : sep ∉ a) :
    splitChar sep (a ++ sep :: rest) = a :: splitChar sep rest := by
  induction a with
  | nil => simp [splitChar]
  | cons c r ih =>
    have hc : c ≠ sep := fun e => h (e ▸ List.mem_cons_self)
    have hr : sep ∉ r := fun e => h (List.mem_cons_of_mem _ e)
    simp [splitChar, hc, ih hr]

/-- the base name values.py gives the file of `(typ, mode, pid)` -/
def baseName (typ mode pid : Str) : Str :=
  Values.fileName (if typ = gaugeType then typ ++ gaugePrefixSep ++ mode else typ) pid

theorem baseName_gauge (mode pid : Str) :
    baseName gaugeType mode pid = gaugeType ++ '_' :: (mode ++ '_' :: (pid ++ ['.', 'd', 'b'])) := by
  simp [baseName, Values.fileName, fileNameParts, gaugePrefixSep]

theorem baseName_other (typ mode pid : Str) (h : typ ≠ gaugeType) :
    baseName typ mode pid = typ ++ '_' :: (pid ++ ['.', 'd', 'b']) := by
  simp [baseName, Values.fileName, fileNameParts, h]

theorem split_gauge (mode pid : Str) (hm : '_' ∉ mode) (hp : '_' ∉ pid) :
    splitChar splitSep (baseName gaugeType mode pid) = [gaugeType, mode, pid ++ ['.', 'd', 'b']] := by
  rw [baseName_gauge]
  have hg : '_' ∉ gaugeType := by decide
  have hpd := pid_db_no_sep pid hp
  show splitChar '_' _ = _
  rw [splitChar_append _ _ _ hg, splitChar_append _ _ _ hm, splitChar_no_sep _ _ hpd]

theorem split_other (typ mode pid : Str) (h : typ ≠ gaugeType) (ht : '_' ∉ typ) (hp : '_' ∉ pid) :
    splitChar splitSep (baseName typ mode pid) = [typ, pid ++ ['.', 'd', 'b']] := by
  rw [baseName_other _ _ _ h]
  have hpd := pid_db_no_sep pid hp
  show splitChar '_' _ = _
  rw [splitChar_append _ _ _ ht, splitChar_no_sep _ _ hpd]

theorem dropLastN_ext (pid : Str) : dropLastN extLen (pid ++ ['.', 'd', 'b']) = pid := by
  simp [dropLastN, extLen]

/-- the sample `_read_metrics` stores for a contribution -/
def toRSample (c : Contrib V) : RSample V :=
  if c.typ = gaugeType then ⟨c.key.name, c.key.labels ++ [(pidLabel, c.pid)], c.value, some c.ts⟩
  else ⟨c.key.name, c.key.labels, c.value, none⟩

/-- the record of a family after one more contribution (`o`: the record so far, if any) -/
def famRec (o : Option (Metric V)) (c : Contrib V) : Metric V :=
  let m : Metric V := o.getD ⟨c.key.metric, c.key.help, c.typ, none, []⟩
  { m with mode := if c.typ = gaugeType then some c.mode else m.mode, samples := m.samples ++ [toRSample c] }

/-- one entry of a well-formed file, without the error plumbing -/
def readStep (ms : List (Str × Metric V)) (c : Contrib V) : List (Str × Metric V) :=
  AL.set ms c.key.metric (famRec (AL.get? ms c.key.metric) c)

/-- file identities the writer can produce: a known type other than `untyped`, no `_` inside type, mode or pid -/
structure WFFile (f : SFile V) : Prop where
  typ_known : metricTypes.contains f.typ = true
  typ_sep : '_' ∉ f.typ
  mode_sep : '_' ∉ f.mode
  pid_sep : '_' ∉ f.pid

def toFile (f : SFile V) : MpFile V := ⟨baseName f.typ f.mode f.pid, f.entries⟩

theorem known_not_untyped (t : Str) (h : metricTypes.contains t = true) : t ≠ "untyped".toList := by
  intro e
  rw [e, show "untyped".toList = ['u', 'n', 't', 'y', 'p', 'e', 'd'] from String.toList_ofList] at h
  revert h
  decide

theorem newMetric_ok (name doc typ : Str) (h : metricTypes.contains typ = true) :
    newMetric (V := V) name doc typ = .ok ⟨name, doc, typ, none, []⟩ := by
  unfold newMetric
  simp only [if_neg (known_not_untyped typ h), h, if_true]

theorem readEntry_gauge (parts : List Str) (mode pid : Str) (h1 : parts[1]? = some mode)
    (h2 : parts[2]? = some (pid ++ ['.', 'd', 'b'])) (ms : List (Str × Metric V)) (e : Key × V × V) :
    readEntry parts gaugeType ms e = .ok (readStep ms ⟨gaugeType, mode, pid, e.1, e.2.1, e.2.2⟩) := by
  have hnew := newMetric_ok (V := V) e.1.metric e.1.help gaugeType (by decide)
  unfold readEntry readStep famRec toRSample
  simp only [hnew, h1, h2, bind, Except.bind, pure, Except.pure, if_true, dropLastN_ext]
  cases AL.get? ms e.1.metric <;> rfl

theorem readEntry_other (parts : List Str) (typ mode pid : Str) (hg : typ ≠ gaugeType)
    (hk : metricTypes.contains typ = true) (ms : List (Str × Metric V)) (e : Key × V × V) :
    readEntry parts typ ms e = .ok (readStep ms ⟨typ, mode, pid, e.1, e.2.1, e.2.2⟩) := by
  have hnew := newMetric_ok (V := V) e.1.metric e.1.help typ hk
  unfold readEntry readStep famRec toRSample
  simp only [hnew, bind, Except.bind, pure, Except.pure, if_neg hg]
  cases AL.get? ms e.1.metric <;> rfl

theorem readEntry_ok (f : SFile V) (hf : WFFile f) (ms : List (Str × Metric V)) (e : Key × V × V) :
    readEntry (splitChar splitSep (baseName f.typ f.mode f.pid))
        ((splitChar splitSep (baseName f.typ f.mode f.pid)).headD []) ms e
      = .ok (readStep ms ⟨f.typ, f.mode, f.pid, e.1, e.2.1, e.2.2⟩) := by
  obtain ⟨typ, mode, pid, entries⟩ := f
  by_cases hg : typ = gaugeType
  · subst hg
    show readEntry (splitChar splitSep (baseName gaugeType mode pid))
      ((splitChar splitSep (baseName gaugeType mode pid)).headD []) ms e = _
    rw [split_gauge mode pid hf.mode_sep hf.pid_sep]
    exact readEntry_gauge _ mode pid rfl rfl ms e
  · show readEntry (splitChar splitSep (baseName typ mode pid))
      ((splitChar splitSep (baseName typ mode pid)).headD []) ms e = _
    rw [split_other typ mode pid hg hf.typ_sep hf.pid_sep]
    exact readEntry_other _ typ mode pid hg hf.typ_known ms e

theorem readFile_ok (f : SFile V) (hf : WFFile f) (ms : List (Str × Metric V)) :
    readFile ms (toFile f) = .ok ((contribsOf f).foldl readStep ms) := by
  unfold readFile toFile contribsOf
  simp only
  rw [foldlM_ok _ (fun ms (e : Key × V × V) => readStep ms ⟨f.typ, f.mode, f.pid, e.1, e.2.1, e.2.2⟩) f.entries ms
    (fun s' x _ => readEntry_ok f hf s' x)]
  rw [List.foldl_map]

theorem readMetrics_ok (fs : List (SFile V)) (hf : ∀ f ∈ fs, WFFile f) :
    readMetrics (fs.map toFile) = .ok ((allContribs fs).foldl readStep []) := by
  unfold readMetrics allContribs
  rw [List.foldlM_map, List.foldl_flatMap]
  exact foldlM_ok _ _ fs [] (fun ms f h => readFile_ok f (hf f h) ms)

/-- folding the contributions of one family into its `Metric` -/
def famStep (o : Option (Metric V)) (c : Contrib V) : Option (Metric V) := some (famRec o c)

theorem readStep_get? (ms : List (Str × Metric V)) (c : Contrib V) (mn : Str) :
    AL.get? (readStep ms c) mn = if c.key.metric = mn then famStep (AL.get? ms mn) c else AL.get? ms mn :=
  AL.get?_update ms c.key.metric mn (fun o => famRec o c)

theorem read_get? (cs : List (Contrib V)) (mn : Str) :
    AL.get? (cs.foldl readStep []) mn = (cs.filter (fun c => c.key.metric = mn)).foldl famStep none := by
  have := foldl_proj readStep (fun (c : Contrib V) => c.key.metric) (fun ms mn => AL.get? ms mn) famStep
    (fun s x k => readStep_get? s x k) cs [] mn
  simpa using this

theorem read_keys (cs : List (Contrib V)) :
    AL.keys (cs.foldl readStep []) = Spec.Multiprocess.distinct (cs.map (·.key.metric)) := by
  unfold Spec.Multiprocess.distinct readStep
  exact keys_foldl_set (fun (c : Contrib V) => c.key.metric) _ cs []

theorem famStep_foldl (typ md : Str) (cs : List (Contrib V)) (hty : ∀ c ∈ cs, c.typ = typ)
    (hmo : typ = gaugeType → ∀ c ∈ cs, c.mode = md) (m : Metric V) (hm : typ = gaugeType → m.mode = some md) :
    cs.foldl famStep (some m) = some ⟨m.name, m.doc, m.typ, m.mode, m.samples ++ cs.map toRSample⟩ := by
  induction cs generalizing m with
  | nil => simp
  | cons c r ih =>
    have hc := hty c List.mem_cons_self
    have hmode : (if c.typ = gaugeType then some c.mode else m.mode) = m.mode := by
      split
      · next hg => rw [hmo (hc ▸ hg) c List.mem_cons_self, hm (hc ▸ hg)]
      · rfl
    simp only [List.foldl_cons, famStep, famRec, Option.getD_some, hmode]
    rw [ih (fun c' hc' => hty c' (List.mem_cons_of_mem _ hc')) (fun hg c' hc' => hmo hg c' (List.mem_cons_of_mem _ hc'))
      ⟨m.name, m.doc, m.typ, m.mode, m.samples ++ [toRSample c]⟩ hm]
    simp

theorem famStep_fold (c : Contrib V) (cs : List (Contrib V))
    (hty : ∀ c' ∈ cs, c'.typ = c.typ) (hmo : c.typ = gaugeType → ∀ c' ∈ cs, c'.mode = c.mode) :
    (c :: cs).foldl famStep none
      = some ⟨c.key.metric, c.key.help, c.typ, if c.typ = gaugeType then some c.mode else none,
              (c :: cs).map toRSample⟩ := by
  simp only [List.foldl_cons, famStep, famRec, Option.getD_none, List.nil_append]
  rw [famStep_foldl c.typ c.mode cs hty hmo _ (fun hg => if_pos hg)]
  rfl

theorem foldl_congr_mem {α β : Type} (f g : β → α → β) (l : List α) (b : β)
    (h : ∀ b x, x ∈ l → f b x = g b x) : l.foldl f b = l.foldl g b := by
  induction l generalizing b with
  | nil => rfl
  | cons x r ih =>
    simp only [List.foldl_cons]
    rw [h b x List.mem_cons_self]
    exact ih _ (fun b' y hy => h b' y (List.mem_cons_of_mem _ hy))

theorem toRSample_value (c : Contrib V) : (toRSample c).value = c.value := by
  unfold toRSample; split <;> rfl

theorem values_bridge (key : RSample V → SKey) (ckey : Contrib V → SKey) (cs : List (Contrib V)) (k : SKey)
    (h : ∀ c ∈ cs, key (toRSample c) = ckey c) :
    ((cs.map toRSample).filter (fun s => key s = k)).map (·.value) = valuesFor ckey cs k := by
  rw [List.filter_map, List.map_map, List.filter_congr (fun c hc => by rw [Function.comp, h c hc])]
  exact List.map_congr_left (fun c _ => toRSample_value c)

theorem toRSample_ts_gauge (c : Contrib V) (h : c.typ = gaugeType) : (toRSample c).ts = some c.ts := by
  unfold toRSample; simp [h]

theorem plainKeyOf_gauge (c : Contrib V) (h : c.typ = gaugeType) : plainKeyOf (toRSample c) = pidKey c := by
  unfold toRSample plainKeyOf pidKey; simp [h]; rfl

theorem plainKeyOf_other (c : Contrib V) (h : c.typ ≠ gaugeType) : plainKeyOf (toRSample c) = plainKey c := by
  unfold toRSample plainKeyOf plainKey; simp [h]

theorem wkeyOf_gauge (c : Contrib V) (h : c.typ = gaugeType) (hp : ∀ l ∈ c.key.labels, l.1 ≠ pidLabel) :
    wkeyOf (toRSample c) = plainKey c := by
  unfold toRSample wkeyOf plainKey
  simp only [h, if_true, List.filter_append]
  have h1 : c.key.labels.filter (fun l => decide (l.1 ≠ pidLabel)) = c.key.labels :=
    List.filter_eq_self.mpr (fun l hl => by simp [hp l hl])
  rw [h1]
  simp

theorem tsOf_gauge (vo : VOps V) (c : Contrib V) (h : c.typ = gaugeType) : tsOf vo (toRSample c) = normTs vo c.ts := by
  unfold tsOf
  rw [toRSample_ts_gauge c h]
  simp [tsOrZero, normTs]

/-- the branch `_accumulate_metrics` takes for each of the ten modes, against what the property says the mode means -/
theorem rule_kind (mode : Str) (h : mode ∈ gaugeModes) :
    (ruleOf mode = some (.setdefaultCmp .lt) ∧ kindOf gaugeType mode = .gaugeMin) ∨
    (ruleOf mode = some (.setdefaultCmp .gt) ∧ kindOf gaugeType mode = .gaugeMax) ∨
    (ruleOf mode = some .plusEq ∧ kindOf gaugeType mode = .gaugeSum) ∨
    (ruleOf mode = some (.tsCmp .lt) ∧ kindOf gaugeType mode = .gaugeMostRecent) ∨
    (ruleOf mode = none ∧ kindOf gaugeType mode = .gaugeAll) := by
  revert mode
  decide +kernel

theorem family_gauge (vo : VOps V) (bo : BOps B) [DecidableEq B] (mn doc : Str) (mode : Str) (cs : List (Contrib V))
    (hmode : mode ∈ gaugeModes) (hty : ∀ c ∈ cs, c.typ = gaugeType)
    (hpid : ∀ c ∈ cs, ∀ l ∈ c.key.labels, l.1 ≠ pidLabel) :
    ∃ ss, accumulateSamples vo bo ⟨mn, doc, gaugeType, some mode, cs.map toRSample⟩ = .ok ss ∧
      (AL.keys ss).Nodup ∧ ∀ k, AL.get? ss k = gaugeValue vo (kindOf gaugeType mode) cs k := by
  have hts : ∀ s ∈ cs.map toRSample, s.ts.isSome = true := by
    intro s hs
    obtain ⟨c, hc, rfl⟩ := List.mem_map.mp hs
    rw [toRSample_ts_gauge c (hty c hc)]; rfl
  have hok := accumulate_gauge_ok vo bo ⟨mn, doc, gaugeType, some mode, cs.map toRSample⟩ mode rfl rfl hts
  refine ⟨_, hok, gauge_fold_nodup vo _ _, ?_⟩
  intro k
  simp only
  have hw : ∀ c ∈ cs, wkeyOf (toRSample c) = plainKey c := fun c hc => wkeyOf_gauge c (hty c hc) (hpid c hc)
  rcases rule_kind mode hmode with ⟨hr, hk⟩ | ⟨hr, hk⟩ | ⟨hr, hk⟩ | ⟨hr, hk⟩ | ⟨hr, hk⟩ <;> rw [hr, hk]
  · rw [gauge_cmp_get?, values_bridge wkeyOf plainKey cs k hw]
    rfl
  · rw [gauge_cmp_get?, values_bridge wkeyOf plainKey cs k hw]
    rfl
  · rw [gauge_sum_get?, values_bridge wkeyOf plainKey cs k hw]
    rfl
  · rw [gauge_recent_get?, List.filter_map, List.foldl_map,
      List.filter_congr (fun c hc => by rw [Function.comp, hw c hc])]
    simp only [gaugeValue, aggMostRecent, List.foldl_map, cmpWith]
    congr 1
    apply foldl_congr_mem
    intro st c hc
    have hc' : c ∈ cs := (List.mem_filter.mp hc).1
    rw [tsOf_gauge vo c (hty c hc'), toRSample_value]
    rfl
  · have hp : ∀ c ∈ cs, plainKeyOf (toRSample c) = pidKey c := fun c hc => plainKeyOf_gauge c (hty c hc)
    rw [gauge_all_get?, values_bridge plainKeyOf pidKey cs k hp]
    rfl

theorem family_plain (vo : VOps V) (bo : BOps B) [DecidableEq B] (mn doc typ : Str) (mode : Option Str)
    (cs : List (Contrib V)) (hg : typ ≠ gaugeType) (hh : typ ≠ histogramType) (hty : ∀ c ∈ cs, c.typ ≠ gaugeType) :
    ∃ ss, accumulateSamples vo bo ⟨mn, doc, typ, mode, cs.map toRSample⟩ = .ok ss ∧
      (AL.keys ss).Nodup ∧ ∀ k, AL.get? ss k = sumValue vo cs k := by
  unfold accumulateSamples
  simp only [if_neg hg, if_neg hh]
  refine ⟨_, rfl, plain_fold_nodup vo _, ?_⟩
  intro k
  have hp : ∀ c ∈ cs, plainKeyOf (toRSample c) = plainKey c := fun c hc => plainKeyOf_other c (hty c hc)
  rw [plain_fold_get?, values_bridge plainKeyOf plainKey cs k hp]
  rfl

/-- the item a contribution is classified as (bounds that do not parse are excluded by hypothesis) -/
def itemOf (bo : BOps B) (c : Contrib V) : HItem V B :=
  match leText c with
  | some t =>
    match bo.parse t with
    | some b => .bucket (withoutLe c) b c.value
    | none => .plain c.key.name c.key.labels c.value
  | none => .plain c.key.name c.key.labels c.value

theorem classify_ok (bo : BOps B) (c : Contrib V) (hg : c.typ ≠ gaugeType)
    (hp : ∀ t, leText c = some t → (bo.parse t).isSome = true) :
    classifyHist bo (toRSample c) = .ok (itemOf bo c) := by
  unfold classifyHist itemOf toRSample leText withoutLe
  simp only [if_neg hg, leLabel_eq]
  cases hf : c.key.labels.find? (fun l => decide (l.1 = "le".toList)) with
  | none => rfl
  | some l =>
    have := hp l.2 (by unfold leText; rw [hf]; rfl)
    obtain ⟨b, hb⟩ := Option.isSome_iff_exists.mp this
    simp only [Option.map_some, hb]

theorem items_triples (bo : BOps B) (cs : List (Contrib V))
    (hp : ∀ c ∈ cs, ∀ t, leText c = some t → (bo.parse t).isSome = true) :
    (cs.map (itemOf bo)).filterMap HItem.triple = bucketContribs bo cs := by
  unfold bucketContribs
  induction cs with
  | nil => rfl
  | cons c r ih =>
    have ih' := ih (fun c' hc' => hp c' (List.mem_cons_of_mem _ hc'))
    simp only [List.map_cons, List.filterMap_cons]
    rw [ih']
    unfold itemOf
    cases hl : leText c with
    | none => simp [HItem.triple]
    | some t =>
      obtain ⟨b, hb⟩ := Option.isSome_iff_exists.mp (hp c List.mem_cons_self t hl)
      simp [hb, HItem.triple]

theorem items_pairs (bo : BOps B) (cs : List (Contrib V))
    (hp : ∀ c ∈ cs, ∀ t, leText c = some t → (bo.parse t).isSome = true) :
    (cs.map (itemOf bo)).filterMap HItem.pair = (plainContribs cs).map (fun c => (plainKey c, c.value)) := by
  unfold plainContribs
  induction cs with
  | nil => rfl
  | cons c r ih =>
    have ih' := ih (fun c' hc' => hp c' (List.mem_cons_of_mem _ hc'))
    simp only [List.map_cons, List.filterMap_cons, List.filter_cons]
    rw [ih']
    unfold itemOf
    cases hl : leText c with
    | none => simp [HItem.pair, plainKey]
    | some t =>
      obtain ⟨b, hb⟩ := Option.isSome_iff_exists.mp (hp c List.mem_cons_self t hl)
      simp [hb, HItem.pair]

theorem family_hist (vo : VOps V) (bo : BOps B) [DecidableEq B] (mn doc : Str) (mode : Option Str)
    (cs : List (Contrib V)) (hty : ∀ c ∈ cs, c.typ ≠ gaugeType)
    (hp : ∀ c ∈ cs, ∀ t, leText c = some t → (bo.parse t).isSome = true) :
    accumulateSamples vo bo ⟨mn, doc, histogramType, mode, cs.map toRSample⟩
      = .ok (AL.setAll (addAll vo [] ((plainContribs cs).map (fun c => (plainKey c, c.value))))
              (bucketSeries vo bo mn cs)) := by
  unfold accumulateSamples
  have hne : histogramType ≠ gaugeType := by decide
  simp only [if_neg hne, if_true]
  have hm : (cs.map toRSample).mapM (classifyHist bo) = .ok (cs.map (itemOf bo)) := by
    rw [List.mapM_map]
    exact mapM_ok _ (itemOf bo) cs (fun c hc => classify_ok bo c (hty c hc) (hp c hc))
  rw [hm]
  simp only [bind, Except.bind, pure, Except.pure]
  rw [hist_items_eq, items_triples bo cs hp, items_pairs bo cs hp]
  rfl

theorem addAll_sumValue (vo : VOps V) (cs : List (Contrib V)) (k : SKey) :
    AL.get? (addAll vo [] (cs.map (fun c => (plainKey c, c.value)))) k = sumValue vo cs k := by
  rw [addAll_get?, List.filter_map, List.map_map]
  rfl

theorem family_hist_get? (vo : VOps V) (bo : BOps B) [DecidableEq B] (mn doc : Str) (mode : Option Str)
    (cs : List (Contrib V)) (hty : ∀ c ∈ cs, c.typ ≠ gaugeType)
    (hp : ∀ c ∈ cs, ∀ t, leText c = some t → (bo.parse t).isSome = true)
    (hk : (AL.keys (bucketSeries vo bo mn cs)).Nodup) :
    ∃ ss, accumulateSamples vo bo ⟨mn, doc, histogramType, mode, cs.map toRSample⟩ = .ok ss ∧
      (AL.keys ss).Nodup ∧ ∀ k, AL.get? ss k = histValue vo bo mn cs k := by
  refine ⟨_, family_hist vo bo mn doc mode cs hty hp, ?_, ?_⟩
  · exact AL.nodup_setAll _ _ (addAll_nodup vo _ [] List.nodup_nil)
  · intro k
    rw [AL.get?_setAll _ _ hk, addAll_sumValue]
    rfl

end PromVerif.Model.Multiprocess
