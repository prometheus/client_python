/-
Lemmas/ConcFile — the file-backed store: the mmap FILE entry of a value mirrors the in-memory value.

The value attribute and its file entry are modelled as the two components of ONE cell (`value`, `file`) guarded by the
process-wide lock.  Updates:
   inc a   `self._value += a`                       : value := (value the thread LOADED) + a          file unchanged
   fileW   `self._file.write_value(key, <value>)`   : file  := the value in the thread's REGISTER      value unchanged
   other   a store that touches neither
so the write to the file carries what the thread holds after its `+=`, not what the cell holds when the write happens.

`sync g x pc d`: along `pc`, started dirty iff `d`, every `inc` on `x` is followed by a `fileW` on `x` before the guard `g` is
released (and before the program ends).  Invariant (`SyncInv`, on top of `DataInv`): file = value unless some thread that holds
the guard is between its `inc` and its `fileW`.
-/
import PromVerif.Lemmas.ConcInv

namespace PromVerif.Model.Conc
open PromVerif.Generated.Locks

inductive FU (M : Type)
  | inc (a : M)
  | fileW
  | other
deriving Repr

def apF {M : Type} (add : M → M → M) : FU M → M × M → M × M → M × M
  | .inc a, r, c => (add r.1 a, c.2)
  | .fileW, r, c => (c.1, r.1)
  | .other, _, c => c

def FU.blind {M : Type} : FU M → Bool
  | .other => true
  | _ => false

theorem apF_blind {M : Type} (add : M → M → M) :
    ∀ u : FU M, u.blind = true → ∀ a b c, apF add u a c = apF add u b c := by
  intro u hu a b c
  cases u <;> first | rfl | cases hu

section
variable {L X M : Type} [DecidableEq L] [DecidableEq X]

def sync (g : L) (x : X) : List (Micro L X (FU M)) → Bool → Bool
  | [], d => !d
  | .acquire l :: r, d => if l = g then !d && sync g x r false else sync g x r d
  | .release l :: r, d => if l = g then !d && sync g x r false else sync g x r d
  | .load _ :: r, d => sync g x r d
  | .store y u :: r, d =>
    if y = x then
      (match u with
       | .inc _ => sync g x r true
       | .fileW => sync g x r false
       | .other => sync g x r d)
    else sync g x r d
  | .iterBegin _ :: r, d => sync g x r d
  | .iterEnd _ :: r, d => sync g x r d
  | .call _ _ :: r, d => sync g x r d
  | .yield :: r, d => sync g x r d

theorem sync_append (g : L) (x : X) (p q : List (Micro L X (FU M))) (d : Bool) (h : sync g x p d = true) :
    sync g x (p ++ q) d = sync g x q false := by
  fun_induction sync g x p d <;> simp_all [sync]

theorem sync_flatten (g : L) (x : X) (ps : List (List (Micro L X (FU M))))
    (h : ∀ p ∈ ps, sync g x p false = true) : sync g x ps.flatten false = true := by
  induction ps with
  | nil => rfl
  | cons p rest ih =>
    obtain ⟨hp, hr⟩ := List.forall_mem_cons.mp h
    rw [List.flatten_cons, sync_append g x p _ false hp]
    exact ih hr

/-- thread `i` may be between its `inc` and its `fileW` -/
def DirtyAt (g : L) (x : X) (s : St L X (FU M) (M × M)) (i : Tid) (t : Thread L X (FU M) (M × M)) : Prop :=
  sync g x t.pc true = true ∧ s.owner g = some i

structure SyncInv (g : L) (x : X) (s : St L X (FU M) (M × M)) : Prop where
  thr : ∀ i t, s.threads[i]? = some t → sync g x t.pc false = true ∨ DirtyAt g x s i t
  cellOk : (s.cell x).2 = (s.cell x).1 ∨ ∃ i t, s.threads[i]? = some t ∧ DirtyAt g x s i t

variable {g : L} {x : X} {add : M → M → M} {s s' : St L X (FU M) (M × M)} {i : Tid} {t t' : Thread L X (FU M) (M × M)}

theorem syncInv_init (c0 : X → M × M) (hc0 : (c0 x).2 = (c0 x).1)
    (progs : List (List (Micro L X (FU M)))) (h : ∀ p ∈ progs, sync g x p false = true) :
    SyncInv g x (init c0 progs) := by
  constructor
  · intro i t ht
    obtain ⟨p, hp, rfl⟩ := init_thread ht
    exact Or.inl (h p hp)
  · exact Or.inl hc0

theorem syncInv_local (inv : SyncInv g x s) (ht : s.threads[i]? = some t)
    (hc : s'.cell x = s.cell x) (ho : s'.owner g = s.owner g) (hthr : s'.threads = s.threads.set i t')
    (hd : ∀ d, sync g x t.pc d = true → sync g x t'.pc d = true) : SyncInv g x s' := by
  have hset : s'.threads[i]? = some t' := by rw [hthr]; exact getElem?_set_self_of ht
  refine ⟨?_, ?_⟩
  · rw [hthr]
    refine forall_set ((inv.thr _ _ ht).imp (hd _) fun h => ⟨hd _ h.1, ho ▸ h.2⟩) fun j tj _ hj => ?_
    exact (inv.thr j tj hj).imp id fun h => ⟨h.1, ho ▸ h.2⟩
  · rw [hc]
    refine inv.cellOk.imp id fun ⟨j, tj, hj, hdj, oj⟩ => ?_
    by_cases hji : j = i
    · subst hji
      rw [ht] at hj; cases hj
      exact ⟨j, t', hset, hd _ hdj, ho ▸ oj⟩
    · exact ⟨j, tj, by rw [hthr, List.getElem?_set_ne (Ne.symm hji)]; exact hj, hdj, ho ▸ oj⟩

theorem syncInv_handover (inv : SyncInv g x s)
    (hnod : ∀ j tj, s.threads[j]? = some tj → ¬ DirtyAt g x s j tj)
    (hc : s'.cell x = s.cell x) (hthr : s'.threads = s.threads.set i t')
    (hi : sync g x t.pc false = true → sync g x t'.pc false = true) (ht : s.threads[i]? = some t) : SyncInv g x s' := by
  have hclean : ∀ (j : Tid) (tj : Thread L X (FU M) (M × M)), s.threads[j]? = some tj → sync g x tj.pc false = true :=
    fun j tj hj => (inv.thr j tj hj).resolve_right (hnod j tj hj)
  refine ⟨?_, Or.inl ?_⟩
  · rw [hthr]
    exact forall_set (Or.inl (hi (hclean i t ht))) fun j tj _ hj => Or.inl (hclean j tj hj)
  · rw [hc]
    exact inv.cellOk.resolve_right fun ⟨j, tj, hj, hd⟩ => hnod j tj hj hd

variable {v0 : M × M} {all : List (FU M)}

/-- a store to `x`: an `inc` leaves the storing thread, which holds the guard, between its `inc` and its `fileW`; a `fileW`
ends that, and what it writes to the file entry is the thread's register, which equals the cell's value -/
theorem syncInv_store {u : FU M} {r : List (Micro L X (FU M))}
    (dinv : DataInv g x FU.blind (apF add) v0 all s) (inv : SyncInv g x s) (ht : s.threads[i]? = some t)
    (hpc : t.pc = .store x u :: r) (he : Eff (apF add) s i t (.store x u) r s') : SyncInv g x s' := by
  have hsh := dinv.shape i t ht
  have hti := inv.thr i t ht
  rw [hpc] at hsh
  -- a store that is not blind happens in mode `loaded`: the thread owns the guard and its register equals the cell
  have hload : u.blind = false → s.owner g = some i ∧ t.reg x = s.cell x := fun hu => by
    cases hsh with
    | out d o => simp [disc, discP] at d
    | held d o => simp [disc, discP, hu] at d
    | loaded d o e => exact ⟨o, e⟩
  cases he
  cases u with
  | other =>
    refine syncInv_local inv ht (by simp [apF]) rfl rfl ?_
    intro d hd; simpa [hpc, sync] using hd
  | inc a =>
    have hr : sync g x r true = true := by
      rcases hti with h | ⟨h, _⟩ <;> simpa [hpc, sync] using h
    exact ⟨forall_set (Or.inr ⟨hr, (hload rfl).1⟩) fun j tj _ hj => inv.thr j tj hj,
      Or.inr ⟨i, _, getElem?_set_self_of ht, hr, (hload rfl).1⟩⟩
  | fileW =>
    have hr : sync g x r false = true := by
      rcases hti with h | ⟨h, _⟩ <;> simpa [hpc, sync] using h
    refine ⟨forall_set (Or.inl hr) fun j tj _ hj => inv.thr j tj hj, Or.inl ?_⟩
    simp only [upd_same, apF, (hload rfl).2]

theorem syncInv_step (dinv : DataInv g x FU.blind (apF add) v0 all s) (inv : SyncInv g x s)
    (h : step (apF add) s i = some s') : SyncInv g x s' := by
  obtain ⟨m, r, reg, held, ht, he⟩ := step_some h
  cases he with
  | acquire l r ho =>
    by_cases hlg : l = g
    · subst hlg
      -- nobody can be dirty: the guard is free
      refine syncInv_handover inv (fun j tj _ hd => ?_) rfl rfl (fun h => by simpa [sync] using h) ht
      simpa [ho] using hd.2
    · refine syncInv_local inv ht rfl (upd_ne _ _ (Ne.symm hlg)) rfl ?_
      intro d hd; simpa [sync, hlg] using hd
  | release l r ho =>
    by_cases hlg : l = g
    · subst hlg
      -- only the owner `i` could be dirty, and `release` is not allowed while dirty
      refine syncInv_handover inv (fun j tj hj hd => ?_) rfl rfl (fun h => by simpa [sync] using h) ht
      obtain rfl : i = j := Option.some.inj (ho.symm.trans hd.2)
      rw [ht] at hj; cases hj
      simpa [sync] using hd.1
    · refine syncInv_local inv ht rfl (upd_ne _ _ (Ne.symm hlg)) rfl ?_
      intro d hd; simpa [sync, hlg] using hd
  | store y u r =>
    by_cases hyx : y = x
    · subst hyx
      exact syncInv_store dinv inv ht rfl (.store y u r)
    · refine syncInv_local inv ht (upd_ne _ _ (Ne.symm hyx)) rfl rfl ?_
      intro d hd; simpa [sync, hyx] using hd
  | load y r | iterBegin y r | iterEnd y r | call b c r | yield r =>
    exact syncInv_local inv ht rfl rfl rfl fun _ hd => hd

theorem fileInv_run (c0 : X → M × M) (hc0 : (c0 x).2 = (c0 x).1)
    (progs : List (List (Micro L X (FU M))))
    (hd : ∀ p ∈ progs, disc g x FU.blind p .out = true) (hs : ∀ p ∈ progs, sync g x p false = true)
    (sched : List Tid) :
    DataInv g x FU.blind (apF add) (c0 x) (pending x (init c0 progs).threads) (run (apF add) (init c0 progs) sched) ∧
    SyncInv g x (run (apF add) (init c0 progs) sched) :=
  run_induction (fun s => DataInv g x FU.blind (apF add) (c0 x) (pending x (init c0 progs).threads) s ∧ SyncInv g x s)
    (fun _ _ _ inv hst => ⟨dataInv_step (apF_blind add) inv.1 hst, syncInv_step inv.1 inv.2 hst⟩) sched _
    ⟨dataInv_init c0 progs hd, syncInv_init c0 hc0 progs hs⟩

theorem syncInv_finished (inv : SyncInv g x s) (hf : finished s) :
    (s.cell x).2 = (s.cell x).1 := by
  rcases inv.cellOk with h | ⟨i, t, ht, hd, _⟩
  · exact h
  · rw [hf t (List.mem_of_getElem? ht)] at hd
    simp [sync] at hd

/-- the value component after a sequence of updates: only the increments count, in any order -/
def incsOf (l : List (FU M)) : List M :=
  l.filterMap fun
    | .inc a => some a
    | _ => none

theorem fold_value (add : M → M → M) (p : M × M) (l : List (FU M)) :
    (l.foldr (lin (apF add)) p).1 = (incsOf l).foldr (fun a v => add v a) p.1 := by
  induction l with
  | nil => rfl
  | cons u r ih =>
    rw [incsOf] at ih ⊢
    cases u <;> simp [lin, apF, ih]

theorem incsOf_flatten (ls : List (List (FU M))) : incsOf ls.flatten = (ls.map incsOf).flatten :=
  List.filterMap_flatten

theorem incsOf_perm {l₁ l₂ : List (FU M)} (h : l₁.Perm l₂) : (incsOf l₁).Perm (incsOf l₂) :=
  h.filterMap _

end
end PromVerif.Model.Conc
