import PromVerif.Spec.Decimal
import PromVerif.Lemmas.Str
namespace PromVerif.Spec
open PromVerif.Py

theorem Dec.eqv.symm {a b : Dec} (h : a.eqv b) : b.eqv a :=
  ⟨h.1.symm, h.2.imp fun _ hk => hk.symm⟩

theorem isDigit_ne {c d : Char} (h : isDigit c = true) (hd : isDigit d = false) : c ≠ d := by
  intro e; subst e; simp [h] at hd

theorem allDigits_cons (c : Char) (s : List Char) : allDigits (c :: s) = (isDigit c && allDigits s) := rfl

theorem allDigits_append (a b : List Char) : allDigits (a ++ b) = (allDigits a && allDigits b) := List.all_append

theorem not_mem_of_allDigits {s : List Char} {d : Char} (h : allDigits s = true) (hd : isDigit d = false) :
    d ∉ s := by
  intro hm
  have := (List.all_eq_true.mp h) d hm
  simp [this] at hd

theorem stripZeros_decomp (rest : List Char) :
    ∃ k, rest = stripZeros rest ++ List.replicate k '0' := by
  obtain ⟨j, hj, hall⟩ := rstripSet_prefix (· == '0') rest
  have hz : j = List.replicate j.length '0' := List.eq_replicate_iff.mpr ⟨rfl, by simpa using hall⟩
  exact ⟨j.length, hz ▸ hj⟩

theorem allDigits_stripZeros {rest : List Char} (h : allDigits rest = true) : allDigits (stripZeros rest) = true :=
  rstripSet_all _ _ rest h

theorem stripZeros_last (rest : List Char) : (stripZeros rest).getLast? ≠ some '0' := by
  intro h
  have := rstripSet_getLast (· == '0') rest '0' h
  simp at this

theorem parseNat?_of_digits {s : List Char} (hne : s ≠ []) (h : allDigits s = true) :
    parseNat? s = some (parseDigits s) := by
  simp [parseNat?, hne, h]

theorem denoteBody_of_splits {neg : Bool} {body mant I f : List Char} {ex F : Option (List Char)} {e : Int}
    (h1 : splitFirst 'e' body = (mant, ex)) (h2 : splitFirst '.' mant = (I, F))
    (hf : fracOf F = some f) (he : expOf ex = some e)
    (hI : allDigits I = true) (hne : I ≠ []) (hfd : allDigits f = true) :
    denoteBody neg body = some ⟨neg, parseDigits (I ++ f), e - f.length⟩ := by
  have hIf : parseNat? (I ++ f) = some (parseDigits (I ++ f)) :=
    parseNat?_of_digits (by simp [hne]) (by rw [allDigits_append, hI, hfd]; rfl)
  unfold denoteBody
  rw [h1, h2, hf]
  simp only [he, parseNat?_of_digits hne hI, hIf]

theorem exp2_digits (n : Nat) : allDigits (exp2 n) = true := by
  unfold exp2
  split
  · next h => simp [allDigits, isDigit_digitChar n h]; decide
  · exact allDigits_decDigits n

theorem exp2_ne_nil (n : Nat) : exp2 n ≠ [] := by
  unfold exp2
  split
  · simp
  · exact decDigits_ne_nil n

theorem exp2_value (n : Nat) : parseDigits (exp2 n) = n := by
  unfold exp2
  split
  · next h => simp [parseDigits, digitVal_digitChar n h]; decide
  · exact parseDigits_decDigits n

theorem exp2_length (n : Nat) : 2 ≤ (exp2 n).length := by
  unfold exp2
  split
  · simp
  · next h => exact decDigits_length_two n (by omega)

theorem exp2_shortest (n : Nat) : (exp2 n).length = 2 ∨ (exp2 n).head? ≠ some '0' := by
  unfold exp2
  split
  · left; simp
  · next h => right; exact decDigits_head_ne_zero n (by omega)

end PromVerif.Spec
