/-
Flushing a family (`build_metric`): what it records in `seen_names`, when it must fail, and the doomed headers the
metadata / unit / clash rules of C15 reduce to.
-/
import PromVerif.Lemmas.OMRun

namespace PromVerif.Lemmas.OM
open PromVerif.Py PromVerif.Model.ParseCore PromVerif.Model.OMParse PromVerif.Generated.OMParse
open PromVerif.Spec.OMRules

theorem isError_after_step (P : Params) (st : St) (l : Line) (ls : List Line)
    (h : ∀ st1, stepLine P st l = .ok st1 → isError (finishRun P st1 ls) = true) : isError (finishRun P st (l :: ls)) = true := by
  rw [finishRun_cons]
  cases hs : stepLine P st l with
  | error e => rfl
  | ok st1 => exact h st1 hs

theorem isError_after_run (P : Params) (st : St) (a b : List Line)
    (h : ∀ st1, run P st a = .ok st1 → isError (finishRun P st1 b) = true) : isError (finishRun P st (a ++ b)) = true := by
  rw [finishRun_append]
  cases hr : run P st a with
  | error e => rfl
  | ok st1 => exact h st1 hr

theorem nil_mem_familySuffixes (t : Str) : ([] : Str) ∈ familySuffixes t := by
  unfold familySuffixes
  rw [List.mem_eraseDups]
  simp

theorem mem_familySuffixes (t : Str) (suf : Str) (h : suf ∈ (lookupTable t typeSuffixes).getD []) : suf ∈ familySuffixes t := by
  unfold familySuffixes
  rw [List.mem_eraseDups]
  exact List.mem_append_left _ h

theorem flush_ok (P : Params) (g g' : Glob) (h : Hdr) (samples : List OSample) (n : Str) (hn : h.name = some n)
    (hf : flush P g h samples = .ok g') :
    g'.seenNames = g.seenNames ++ (familySuffixes (h.typ.getD tUnknown)).map (n ++ ·) := by
  unfold flush at hf
  rw [hn] at hf
  simp only [buildMetric] at hf
  cases hc : runChecks (buildChecks P g.seenNames n (h.typ.getD tUnknown) (h.unit.getD []) samples) with
  | error e => rw [hc] at hf; cases hf
  | ok u => rw [hc] at hf; cases hf; rfl

theorem flush_none (P : Params) (g : Glob) (h : Hdr) (samples : List OSample) (hn : h.name = none) :
    flush P g h samples = .ok g := by
  unfold flush; rw [hn]

theorem flush_mono (P : Params) (g g' : Glob) (h : Hdr) (samples : List OSample) (hf : flush P g h samples = .ok g')
    (x : Str) (hx : x ∈ g.seenNames) : x ∈ g'.seenNames := by
  cases hn : h.name with
  | none => rw [flush_none P g h samples hn] at hf; cases hf; exact hx
  | some n => rw [flush_ok P g g' h samples n hn hf]; exact List.mem_append_left _ hx

theorem flush_records (P : Params) (g g' : Glob) (h : Hdr) (samples : List OSample) (n : Str) (hn : h.name = some n)
    (hf : flush P g h samples = .ok g') (suf : Str) (hs : suf ∈ familySuffixes (h.typ.getD tUnknown)) :
    n ++ suf ∈ g'.seenNames := by
  rw [flush_ok P g g' h samples n hn hf]
  exact List.mem_append_right _ (List.mem_map_of_mem hs)

theorem flush_records_name (P : Params) (g g' : Glob) (h : Hdr) (samples : List OSample) (n : Str) (hn : h.name = some n)
    (hf : flush P g h samples = .ok g') : n ∈ g'.seenNames := by
  simpa using flush_records P g g' h samples n hn hf [] (nil_mem_familySuffixes _)

theorem flush_fails (P : Params) (g : Glob) (h : Hdr) (samples : List OSample) (n : Str) (hn : h.name = some n)
    (c : PyM Unit) (hc : c ∈ buildChecks P g.seenNames n (h.typ.getD tUnknown) (h.unit.getD []) samples)
    (he : isError c = true) : isError (flush P g h samples) = true := by
  unfold flush
  rw [hn]
  simp only [buildMetric]
  obtain ⟨e, he⟩ := error_of_isError (runChecks_isError_of_mem _ c hc he)
  rw [he]; rfl

theorem finish_fails (P : Params) (st : St) (h : isError (flush P st.glob st.hdr st.grp.samples) = true) :
    isError (finish P st) = true := by
  unfold finish
  obtain ⟨e, he⟩ := error_of_isError h
  rw [he]; rfl

theorem flush_clash (P : Params) (g : Glob) (h : Hdr) (samples : List OSample) (n suf : Str) (hn : h.name = some n)
    (hs : suf ∈ familySuffixes (h.typ.getD tUnknown)) (hseen : n ++ suf ∈ g.seenNames) :
    isError (flush P g h samples) = true := by
  refine flush_fails P g h samples n hn _ (List.mem_cons_self ..) ?_
  have : (((familySuffixes (h.typ.getD tUnknown)).map (n ++ ·)).any (g.seenNames.contains ·)) = true := by
    rw [List.any_eq_true]
    exact ⟨n ++ suf, List.mem_map_of_mem hs, contains_of_mem hseen⟩
  rw [this]; rfl

/-- is the header field a metadata keyword sets already set -/
def metaField (k : Str) (h : Hdr) : Bool :=
  if k == kwHelp then h.doc.isSome else if k == kwType then h.typ.isSome else if k == kwUnit then h.unit.isSome else false

theorem applyMeta_name (h h' : Hdr) (kind c rest : Str) (hm : applyMeta h kind c rest = .ok h') : h'.name = h.name := by
  rcases applyMeta_ok h h' kind c rest hm with ⟨_, _, rfl⟩ | ⟨_, _, rfl⟩ | ⟨_, _, rfl⟩ <;> rfl

theorem applyMeta_keeps_set (h h' : Hdr) (kind c rest : Str) (hm : applyMeta h kind c rest = .ok h') :
    (∀ d, h.doc = some d → h'.doc = some d) ∧ (∀ t, h.typ = some t → h'.typ = some t) ∧ (∀ u, h.unit = some u → h'.unit = some u) := by
  rcases applyMeta_ok h h' kind c rest hm with ⟨_, hd, rfl⟩ | ⟨_, ht, rfl⟩ | ⟨_, hu, rfl⟩
  · exact ⟨fun _ x => (by rw [hd] at x; cases x), fun _ x => x, fun _ x => x⟩
  · exact ⟨fun _ x => x, fun _ x => (by rw [ht] at x; cases x), fun _ x => x⟩
  · exact ⟨fun _ x => x, fun _ x => x, fun _ x => (by rw [hu] at x; cases x)⟩

theorem applyMeta_sets (h h' : Hdr) (k c rest : Str) (hm : applyMeta h k c rest = .ok h') :
    metaField k h = false ∧ metaField k h' = true := by
  obtain ⟨k1, k2, k3⟩ := kw_distinct
  rcases applyMeta_ok h h' k c rest hm with ⟨rfl, hd, rfl⟩ | ⟨rfl, ht, rfl⟩ | ⟨rfl, hu, rfl⟩
  · simp [metaField, hd]
  · simp [metaField, k1, ht]
  · simp [metaField, k2, k3, hu]

theorem applyMeta_field_mono (h h' : Hdr) (k kind c rest : Str) (hm : applyMeta h kind c rest = .ok h')
    (hk : metaField k h = true) : metaField k h' = true := by
  obtain ⟨d, t, u⟩ := applyMeta_keeps_set h h' kind c rest hm
  unfold metaField at hk ⊢
  by_cases c1 : (k == kwHelp) = true
  · rw [if_pos c1] at hk ⊢
    obtain ⟨x, hx⟩ := Option.isSome_iff_exists.mp hk
    rw [d x hx]; rfl
  · rw [if_neg c1] at hk ⊢
    by_cases c3 : (k == kwType) = true
    · rw [if_pos c3] at hk ⊢
      obtain ⟨x, hx⟩ := Option.isSome_iff_exists.mp hk
      rw [t x hx]; rfl
    · rw [if_neg c3] at hk ⊢
      by_cases c6 : (k == kwUnit) = true
      · rw [if_pos c6] at hk ⊢
        obtain ⟨x, hx⟩ := Option.isSome_iff_exists.mp hk
        rw [u x hx]; rfl
      · rw [if_neg c6] at hk; cases hk

theorem applyMeta_unit (h h' : Hdr) (c u : Str) (hm : applyMeta h kwUnit c u = .ok h') : h'.unit = some u := by
  rcases applyMeta_ok h h' kwUnit c u hm with ⟨hk, _⟩ | ⟨hk, _⟩ | ⟨_, _, rfl⟩
  · exact absurd hk (by decide)
  · exact absurd hk (by decide)
  · rfl

theorem applyMeta_typ (h h' : Hdr) (c t : Str) (hm : applyMeta h kwType c t = .ok h') : h'.typ = some t := by
  rcases applyMeta_ok h h' kwType c t hm with ⟨hk, _⟩ | ⟨_, _, rfl⟩ | ⟨hk, _⟩
  · exact absurd hk (by decide)
  · rfl
  · exact absurd hk (by decide)

theorem stepLine_meta_ok (P : Params) (st st' : St) (k n r : Str) (h : stepLine P st (.metadata k n r) = .ok st') :
    stepMeta P st k n r = .ok st' := by
  unfold stepLine at h
  split at h
  · cases h
  · exact h

theorem stepLine_meta_name (P : Params) (st st' : St) (k n r : Str) (h : stepLine P st (.metadata k n r) = .ok st') :
    st'.hdr.name = some n ∧
    (∀ x ∈ st.glob.seenNames, x ∈ st'.glob.seenNames) ∧
    ∃ h0, applyMeta h0 k n r = .ok st'.hdr := by
  rcases stepMeta_ok P st st' _ _ _ (stepLine_meta_ok P st st' k n r h) with ⟨_, g, hd, hf, ha, rfl⟩ | ⟨hn, hd, ha, rfl⟩
  · exact ⟨applyMeta_name _ _ _ _ _ ha, flush_mono P _ _ _ _ hf, _, ha⟩
  · exact ⟨(applyMeta_name _ _ _ _ _ ha).trans hn, fun x hx => hx, _, ha⟩

theorem doom_seen (P : Params) (n : Str) (ls : List Line) (st : St) (h1 : st.hdr.name = some n) (h2 : n ∈ st.glob.seenNames) :
    isError (finishRun P st ls) = true := by
  refine doom P (fun h g => h.name = some n ∧ n ∈ g.seenNames) ?_ ?_ ls st ⟨h1, h2⟩
  · intro h g ⟨hn, hs⟩ samples
    exact flush_clash P g h samples n [] hn (nil_mem_familySuffixes _) (by simpa using hs)
  · intro h g h' kind c rest ⟨hn, hs⟩ _ hm
    exact ⟨(applyMeta_name _ _ _ _ _ hm).trans hn, hs⟩

theorem doom_clash (P : Params) (n t suf : Str) (ls : List Line) (st : St) (h1 : st.hdr.name = some n) (ht : st.hdr.typ = some t)
    (hs : suf ∈ familySuffixes t) (h2 : n ++ suf ∈ st.glob.seenNames) : isError (finishRun P st ls) = true := by
  refine doom P (fun h g => h.name = some n ∧ h.typ = some t ∧ n ++ suf ∈ g.seenNames) ?_ ?_ ls st ⟨h1, ht, h2⟩
  · intro h g ⟨hn, hty, hseen⟩ samples
    exact flush_clash P g h samples n suf hn (by rw [hty]; exact hs) hseen
  · intro h g h' kind c rest ⟨hn, hty, hseen⟩ _ hm
    exact ⟨(applyMeta_name _ _ _ _ _ hm).trans hn, (applyMeta_keeps_set _ _ _ _ _ hm).2.1 t hty, hseen⟩

theorem doom_unit_suffix (P : Params) (n u : Str) (hu : u ≠ []) (hsuf : endsWith ('_' :: u) n = false)
    (ls : List Line) (st : St) (h1 : st.hdr.name = some n) (h2 : st.hdr.unit = some u) : isError (finishRun P st ls) = true := by
  refine doom P (fun h _ => h.name = some n ∧ h.unit = some u) ?_ ?_ ls st ⟨h1, h2⟩
  · intro h g ⟨hn, hun⟩ samples
    refine flush_fails P g h samples n hn (raiseIf (!(h.unit.getD []).isEmpty && !endsWith ('_' :: h.unit.getD []) n)) ?_ ?_
    · simp [buildChecks]
    · rw [hun]
      have : u.isEmpty = false := List.isEmpty_eq_false_iff.mpr hu
      simp [this, hsuf, raiseIf, isError]
  · intro h g h' kind c rest ⟨hn, hun⟩ _ hm
    exact ⟨(applyMeta_name _ _ _ _ _ hm).trans hn, (applyMeta_keeps_set _ _ _ _ _ hm).2.2 u hun⟩

theorem doom_unit_forbidden (P : Params) (n u t : Str) (hu : u ≠ []) (ht : unitForbidden.contains t = true)
    (ls : List Line) (st : St) (h1 : st.hdr.name = some n) (h2 : st.hdr.unit = some u) (h3 : st.hdr.typ = some t) :
    isError (finishRun P st ls) = true := by
  refine doom P (fun h _ => h.name = some n ∧ h.unit = some u ∧ h.typ = some t) ?_ ?_ ls st ⟨h1, h2, h3⟩
  · intro h g ⟨hn, hun, hty⟩ samples
    refine flush_fails P g h samples n hn (raiseIf (!(h.unit.getD []).isEmpty && unitForbidden.contains (h.typ.getD tUnknown))) ?_ ?_
    · simp [buildChecks]
    · rw [hun, hty]
      have : u.isEmpty = false := List.isEmpty_eq_false_iff.mpr hu
      show isError (raiseIf (!(u.isEmpty) && unitForbidden.contains t)) = true
      rw [this, ht]; rfl
  · intro h g h' kind c rest ⟨hn, hun, hty⟩ _ hm
    obtain ⟨_, kt, ku⟩ := applyMeta_keeps_set _ _ _ _ _ hm
    exact ⟨(applyMeta_name _ _ _ _ _ hm).trans hn, ku u hun, kt t hty⟩

/-- `n` is the current family (with the header property `A`), or the name `x` is already recorded -/
def Seen (A : Hdr → Prop) (n x : Str) (st : St) : Prop := (st.hdr.name = some n ∧ A st.hdr) ∨ x ∈ st.glob.seenNames

/-- `A` is stable under family `n`'s own metadata lines, and flushing a header of `n` that has `A` records `x` -/
structure Tracks (P : Params) (A : Hdr → Prop) (n x : Str) : Prop where
  keeps : ∀ h h' kind rest, A h → applyMeta h kind n rest = .ok h' → A h'
  records : ∀ h g g' samples, h.name = some n → A h → flush P g h samples = .ok g' → x ∈ g'.seenNames

theorem tracks_name (P : Params) (A : Hdr → Prop) (n : Str)
    (hA : ∀ h h' kind rest, A h → applyMeta h kind n rest = .ok h' → A h') : Tracks P A n n :=
  ⟨hA, fun h g g' samples hn _ hf => flush_records_name P g g' h samples n hn hf⟩

theorem tracks_true (P : Params) (n : Str) : Tracks P (fun _ => True) n n :=
  tracks_name P _ n fun _ _ _ _ _ _ => trivial

theorem seen_step (P : Params) (A : Hdr → Prop) (n x : Str) (hT : Tracks P A n x)
    (st st' : St) (l : Line) (hs : Seen A n x st) (h : stepLine P st l = .ok st') : Seen A n x st' := by
  obtain ⟨_, hc⟩ := stepLine_ok P st st' _ h
  rcases hc with ⟨_, rfl⟩ | ⟨kind, cand, rest, _, hm⟩ | ⟨nh, plain, s, isNh, _, _, hss⟩
  · exact hs
  · rcases stepMeta_ok P st st' _ _ _ hm with ⟨_, g, hd, hf, _, rfl⟩ | ⟨hn, hd, ha, rfl⟩
    · right
      rcases hs with ⟨hn, ha⟩ | hs
      · exact hT.records _ _ _ _ hn ha hf
      · exact flush_mono P _ _ _ _ hf x hs
    · rcases hs with ⟨hn', ha'⟩ | hs
      · left
        obtain rfl : cand = n := Option.some.inj (hn.symm.trans hn')
        exact ⟨(applyMeta_name _ _ _ _ _ ha).trans hn, hT.keeps _ _ _ _ ha' ha⟩
      · right; exact hs
  · rcases stepSample_ok P st st' s isNh hss with ⟨_, g, hd, gr, hf, _, _, rfl⟩ | ⟨_, gr, _, rfl⟩
    · right
      rcases hs with ⟨hn, ha⟩ | hs
      · exact hT.records _ _ _ _ hn ha hf
      · exact flush_mono P _ _ _ _ hf x hs
    · exact hs

theorem run_keeps (P : Params) (Q : St → Prop) (hstep : ∀ st st' l, Q st → stepLine P st l = .ok st' → Q st')
    (ls : List Line) (st st' : St) (hq : Q st) (h : run P st ls = .ok st') : Q st' :=
  run_invariant P Q (fun _ => True) (fun s l s' hq _ hst => hstep s s' l hq hst) ls (fun _ _ => trivial) st hq st' h

/-- `Seen` for a header property nothing has -/
theorem recorded_run (P : Params) (x : Str) (ls : List Line) (st st' : St) (hx : x ∈ st.glob.seenNames)
    (h : run P st ls = .ok st') : x ∈ st'.glob.seenNames :=
  (run_keeps P _ (seen_step P (fun _ => False) [] x ⟨fun _ _ _ _ hA _ => hA, fun _ _ _ _ _ hA _ => hA.elim⟩) ls st st' (Or.inr hx) h).resolve_left
    fun hc => hc.2

theorem meta_after_seen (P : Params) (n k r : Str) (post : List Line) (st : St) (hseen : n ∈ st.glob.seenNames) :
    isError (finishRun P st (.metadata k n r :: post)) = true := by
  refine isError_after_step P st _ _ fun st1 hs => ?_
  obtain ⟨hn, hmono, _⟩ := stepLine_meta_name P st st1 k n r hs
  exact doom_seen P n post st1 hn (hmono n hseen)

theorem after_meta (P : Params) (A : Hdr → Prop) (n x k r : Str) (mid rest : List Line) (st : St)
    (hA0 : ∀ h0 h, applyMeta h0 k n r = .ok h → A h)
    (hT : Tracks P A n x)
    (hrest : ∀ st2, Seen A n x st2 → isError (finishRun P st2 rest) = true) :
    isError (finishRun P st (.metadata k n r :: (mid ++ rest))) = true := by
  refine isError_after_step P st _ _ fun st1 hs => ?_
  obtain ⟨hn, _, h0, ha⟩ := stepLine_meta_name P st st1 k n r hs
  refine isError_after_run P st1 _ _ fun st2 hr => ?_
  exact hrest st2 (run_keeps P _ (seen_step P A n x hT) mid st1 st2 (Or.inl ⟨hn, hA0 h0 _ ha⟩) hr)

theorem meta_when_seen (P : Params) (A : Hdr → Prop) (n k r : Str) (post : List Line) (st : St) (hs : Seen A n n st)
    (hbad : ∀ hd, st.hdr.name = some n → A st.hdr → applyMeta st.hdr k n r = .ok hd →
      isError (finishRun P { st with hdr := hd } post) = true) :
    isError (finishRun P st (.metadata k n r :: post)) = true := by
  rcases hs with ⟨hn, hA⟩ | hrec
  · refine isError_after_step P st _ _ fun st3 hs3 => ?_
    rcases stepMeta_ok P st st3 _ _ _ (stepLine_meta_ok P st st3 k n r hs3) with ⟨hne, _⟩ | ⟨_, hd, ha3, rfl⟩
    · exact absurd hn hne
    · exact hbad hd hn hA ha3
  · exact meta_after_seen P n k r post st hrec

end PromVerif.Lemmas.OM
