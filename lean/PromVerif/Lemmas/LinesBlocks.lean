/-
C05 lemmas: the building blocks the expositions emit — escaped text, names, label lists, number tokens, timestamps —
run through the grammar's scanners and automaton.  Most lemmas here are equations `run om st (block ++ r) = run om st' r`
or `run om st block = st'`; a sample line is then accepted by chaining them (`run_append`).  Escaped text is
`Lemmas.Escape`'s per-character map; the extracted name classes are the grammar's classes.
-/
import PromVerif.Lemmas.LinesGrammar
import PromVerif.Lemmas.Escape
import PromVerif.Lemmas.GatewaySort
import PromVerif.Lemmas.Str
import PromVerif.Model.TextExpo
import PromVerif.Model.OMExpo

namespace PromVerif.Lemmas.Lines
open PromVerif.Py PromVerif.Model PromVerif.Model.Escape PromVerif.Model.Validation
open PromVerif.Generated.Expo PromVerif.Generated.Validation
open PromVerif.Spec.LineGrammar hiding Str
open PromVerif.Lemmas.Escape (escChar_cases escHelpChar escape_nil escape_cons escapeHelp_nil escapeHelp_cons)
open PromVerif.Lemmas.GatewaySort (sortByKey_perm mem_sortByKey)

theorem applyChain_cons (p : Char × Str) (ps : List (Char × Str)) (s : Str) :
    applyChain (p :: ps) s = applyChain ps (replaceChar p.1 p.2 s) := rfl

theorem escapeExemplarValue_eq (s : Str) : escapeExemplarValue s = escape s := by
  unfold escapeExemplarValue escape; rfl

/-- every `"` inside `escape s` is escaped, and `escape s` never ends in an open escape -/
theorem qscan_escape (s rest : Str) : qscan false (escape s ++ '"' :: rest) = some rest := by
  induction s with
  | nil => simp [escape_nil, qscan]
  | cons c cs ih =>
    rw [escape_cons]
    rcases escChar_cases c with ⟨_, e⟩ | ⟨_, e⟩ | ⟨_, e⟩ | ⟨h1, h2, h3, e⟩
    · simpa [e, qscan] using ih
    · simpa [e, qscan] using ih
    · simpa [e, qscan] using ih
    · simpa [e, qscan, h1, h2, h3] using ih

/-- every backslash `escapeHelp` writes is half of `\\` or starts `\n`, and it writes no raw LF -/
theorem hscan_escapeHelp (s : Str) : hscan false (escapeHelp s) = true := by
  induction s with
  | nil => simp [escapeHelp_nil, hscan]
  | cons c cs ih =>
    rw [escapeHelp_cons]
    by_cases h1 : c = '\\'
    · subst h1; simpa [escHelpChar, hscan] using ih
    by_cases h2 : c = '\n'
    · subst h2; simpa [escHelpChar, hscan] using ih
    simpa [escHelpChar, hscan, h1, h2] using ih

/-- the text format's HELP escaping at both its call sites; OpenMetrics' (an `escaped-string` of the ABNF) -/
theorem helpText_escaped (s : Str) :
    helpText false (escapeHelp s) = true ∧ helpText false (escapeHelpTrailing s) = true ∧
    helpText true (escape s) = true := by
  refine ⟨?_, ?_, ?_⟩
  · simpa [helpText] using hscan_escapeHelp s
  · simpa [helpText, Lemmas.Escape.escapeHelpTrailing_eq] using hscan_escapeHelp s
  · simp [helpText, qscan_escape]

theorem run_escape (om : Bool) (k : Q) (s : Str) : run om (.q k false) (escape s) = .q k false := by
  induction s with
  | nil => simp [escape_nil, run]
  | cons c cs ih =>
    rw [escape_cons]
    unfold run at ih ⊢
    rw [List.foldl_append]
    rcases escChar_cases c with ⟨_, e⟩ | ⟨_, e⟩ | ⟨_, e⟩ | ⟨h1, h2, h3, e⟩
    · simpa [e, step] using ih
    · simpa [e, step] using ih
    · simpa [e, step] using ih
    · simpa [e, step, h1, h2, h3] using ih

theorem inRange_self (n : Nat) (c : Char) : inRange n n c = decide (c.toNat = n) := by
  simp only [inRange, ← Bool.decide_and, Nat.le_antisymm_iff, and_comm]

/- The character classes extracted from the name regexes ARE the grammar's classes.  Each `show` spells the extracted
class out range by range, by code point; what is left is `[x-x]` = `x` and the order of the ranges. -/
theorem inClass_labelFirst (c : Char) : inClass labelNameRe.first c = labelFirst c := by
  show (inRange 97 122 c || (inRange 65 90 c || (inRange 95 95 c || false))) = _
  simp only [labelFirst, isLower, isUpper, inRange_self, Bool.or_false, Bool.or_assoc]

theorem inClass_labelRest (c : Char) : inClass labelNameRe.rest c = labelRest c := by
  show (inRange 97 122 c || (inRange 65 90 c || (inRange 48 57 c || (inRange 95 95 c || false)))) = _
  rw [Bool.or_left_comm (inRange 48 57 c)]
  simp only [labelRest, labelFirst, isLower, isUpper, isDig, inRange_self, Bool.or_false, Bool.or_assoc]

theorem inClass_nameFirst (c : Char) : inClass metricNameRe.first c = nameFirst c := by
  show (inRange 97 122 c || (inRange 65 90 c || (inRange 95 95 c || (inRange 58 58 c || false)))) = _
  simp only [nameFirst, labelFirst, isLower, isUpper, inRange_self, Bool.or_false, Bool.or_assoc]

theorem inClass_nameRest (c : Char) : inClass metricNameRe.rest c = nameRest c := by
  show (inRange 97 122 c || (inRange 65 90 c || (inRange 48 57 c || (inRange 95 95 c || (inRange 58 58 c || false))))) = _
  rw [Bool.or_left_comm (inRange 48 57 c), Bool.or_left_comm (inRange 48 57 c)]
  simp only [nameRest, nameFirst, labelFirst, isLower, isUpper, isDig, inRange_self, Bool.or_false, Bool.or_assoc]

theorem matchExact_metric (n : Str) : matchExact metricNameRe n = bareMetricName n := by
  cases n with
  | nil => rfl
  | cons c cs => simp only [matchExact, bareMetricName, inClass_nameFirst, funext inClass_nameRest]

theorem matchExact_label (n : Str) : matchExact labelNameRe n = bareLabelName n := by
  cases n with
  | nil => rfl
  | cons c cs => simp only [matchExact, bareLabelName, inClass_labelFirst, funext inClass_labelRest]

/-- with an exact end anchor (`\Z` in the pattern, or `fullmatch` at the call site) `matchName` is `matchExact` -/
theorem matchName_exact (re : NameRe) (full : Bool) (s : Str) (hd : (re.dollar && !full) = false)
    (hm : matchName re full s = true) : matchExact re s = true := by
  rwa [matchName, hd, Bool.false_and, Bool.or_false] at hm

/-- T1 facts (repaired F2): the legacy-name tests of the expositions use an exact end anchor -/
theorem metric_anchor_exact : (metricNameRe.dollar && !full_is_valid_legacy_metric_name) = false := by decide
theorem label_anchor_exact : (labelNameRe.dollar && !full_is_valid_legacy_labelname) = false := by decide

/-- a metric name passes `escape_metric_name` unquoted only if it is in the bare alphabet (exact end anchor: F2 repaired) -/
theorem legacy_metric_bare (n : Str) (hl : isValidLegacyMetricName n = true) : bareMetricName n = true :=
  matchExact_metric n ▸ matchName_exact _ _ n metric_anchor_exact hl

theorem legacy_label_bare (k : Str) (hl : isValidLegacyLabelname k = true) : bareLabelName k = true := by
  simp only [isValidLegacyLabelname, Bool.and_eq_true] at hl
  exact matchExact_label k ▸ matchName_exact _ _ k label_anchor_exact hl.1

theorem run_bareMetric (om : Bool) (n : Str) (h : bareMetricName n = true) : run om .s0 n = .name := by
  cases n with
  | nil => simp [bareMetricName] at h
  | cons c cs =>
    simp only [bareMetricName, Bool.and_eq_true] at h
    rw [run_cons, show step om .s0 c = .name by simp [step, h.1]]
    exact run_all om .name nameRest (fun c hc => by simp [step, hc]) cs h.2

theorem labelFirst_ne_brace (c : Char) (h : labelFirst c = true) : c ≠ '}' := by
  intro e; subst e; revert h; decide

theorem run_bareLabel (om ex f : Bool) (n : Str) (h : bareLabelName n = true) :
    run om (.lb ex f) n = .ln ex := by
  cases n with
  | nil => simp [bareLabelName] at h
  | cons c cs =>
    simp only [bareLabelName, Bool.and_eq_true] at h
    rw [run_cons, show step om (.lb ex f) c = .ln ex by simp [step, labelStart, h.1, labelFirst_ne_brace c h.1]]
    exact run_all om (.ln ex) labelRest (fun c hc => by simp [step, hc]) cs h.2

theorem bareTail_all (cs t : Str) (h : cs.all nameRest = true) : bareTail (cs ++ ' ' :: t) = some t := by
  induction cs with
  | nil =>
    have : nameRest ' ' = false := by decide
    simp [bareTail, this]
  | cons c cs ih =>
    simp only [List.all_cons, Bool.and_eq_true] at h
    simp [bareTail, h.1, ih h.2]

theorem escapeMetricName_quoted (n : Str) (h : ¬ isValidLegacyMetricName n = true) :
    escapeMetricName n = ['"'] ++ escape n ++ ['"'] := by
  rw [escapeMetricName, if_neg h]

theorem metaName_escapeMetricName (n t : Str) :
    metaName (escapeMetricName n ++ ' ' :: t) = some t := by
  unfold escapeMetricName
  split
  · next hl =>
    have hb := legacy_metric_bare n hl
    cases n with
    | nil => simp [bareMetricName] at hb
    | cons c cs =>
      simp only [bareMetricName, Bool.and_eq_true] at hb
      simp [metaName, hb.1, bareTail_all cs t hb.2]
  · have h1 : nameFirst '"' = false := by decide
    simp [metaName, h1, qscan_escape]

theorem help_lineOf (om : Bool) (n t : Str) (ht : helpText om t = true) :
    LineOf om .help ("# HELP ".toList ++ escapeMetricName n ++ [' '] ++ t ++ ['\n']) := by
  refine ⟨_, rfl, ?_⟩
  rw [List.append_assoc, List.append_assoc, List.singleton_append]
  unfold classify
  rw [stripPrefix_append]
  simp only [metaName_escapeMetricName n t, ht, if_true]

theorem type_lineOf (om : Bool) (n t : Str) (ht : (if om then typesOM else typesText).contains t = true) :
    LineOf om .type ("# TYPE ".toList ++ escapeMetricName n ++ [' '] ++ t ++ ['\n']) := by
  refine ⟨_, rfl, ?_⟩
  rw [List.append_assoc, List.append_assoc, List.singleton_append]
  unfold classify
  rw [(metaPrefix_distinct _).1, stripPrefix_append]
  simp only [metaName_escapeMetricName n t]
  rw [if_pos ht]

theorem unit_lineOf (n u : Str) (hu : unitTok u = true) :
    LineOf true .unit ("# UNIT ".toList ++ escapeMetricName n ++ [' '] ++ u ++ ['\n']) := by
  refine ⟨_, rfl, ?_⟩
  rw [List.append_assoc, List.append_assoc, List.singleton_append]
  unfold classify
  rw [(metaPrefix_distinct _).2.1, (metaPrefix_distinct _).2.2]
  simp only [if_true, stripPrefix_append, metaName_escapeMetricName n u, hu]

/-- sample labels: `ex = false`; exemplar labels: `ex = true` -/
theorem run_labelItem (om ex f : Bool) (k v : Str) :
    run om (.lb ex f) (escapeLabelName k ++ ['=', '"'] ++ escape v ++ ['"']) = .qe (if ex then .exval else .lval) := by
  have hname : step om (run om (.lb ex f) (escapeLabelName k)) '=' = .eq ex := by
    unfold escapeLabelName
    split
    · next hl => rw [run_bareLabel om ex f k (legacy_label_bare k hl)]; rfl
    · rw [List.append_assoc, List.singleton_append, run_cons, run_append,
        show step om (.lb ex f) '"' = .q (if ex then .exname else .lname) false from rfl, run_escape]
      cases ex <;> rfl
  rw [List.append_assoc, List.append_assoc, run_append, List.cons_append, List.cons_append, run_cons, hname,
    List.nil_append, run_cons, run_append, show step om (.eq ex) '"' = .q (if ex then .exval else .lval) false from rfl,
    run_escape]
  rfl

theorem run_labelList (om ex f : Bool) (item : Str × Str → Str)
    (hitem : ∀ f kv, run om (.lb ex f) (item kv) = .qe (if ex then .exval else .lval))
    (kv : Str × Str) (l : List (Str × Str)) :
    run om (.lb ex f) (joinStr [','] ((kv :: l).map item)) = .qe (if ex then .exval else .lval) := by
  induction l generalizing kv f with
  | nil => simpa [joinStr] using hitem f kv
  | cons y ys ih =>
    simp only [List.map_cons, joinStr, List.append_assoc, run_append]
    rw [hitem f kv]
    have := ih false y
    simp only [List.map_cons] at this
    cases ex <;> simpa [run_cons, step] using this

theorem run_sortedLabels (om ex : Bool) (item : Str × Str → Str)
    (hitem : ∀ f kv, run om (.lb ex f) (item kv) = .qe (if ex then .exval else .lval))
    (ls : List (Str × Str)) (hne : ls ≠ []) (f : Bool) :
    run om (.lb ex f) (joinStr [','] ((sortByKey ls).map item)) = .qe (if ex then .exval else .lval) := by
  cases hsl : sortByKey ls with
  | nil => exact absurd (hsl ▸ sortByKey_perm ls).nil_eq.symm hne
  | cons kv l => exact run_labelList om ex f item hitem kv l

theorem e_name_brace (om : Bool) (r : Str) : run om .name ('{' :: r) = run om (.lb false true) r := rfl
theorem e_name_sp (om : Bool) (r : Str) : run om .name (' ' :: r) = run om .v0 r := rfl
theorem e_lval_close (om : Bool) (r : Str) : run om (.qe .lval) ('}' :: r) = run om .al r := rfl
theorem e_al_sp (om : Bool) (r : Str) : run om .al (' ' :: r) = run om .v0 r := rfl
theorem e_mname_close (om : Bool) (r : Str) : run om (.qe .mname) ('}' :: r) = run om .al r := rfl
theorem e_mname_comma_text (r : Str) : run false (.qe .mname) (',' :: r) = run false (.lb false false) r := rfl
theorem e_mname_comma_om (r : Str) : run true (.qe .mname) (',' :: ' ' :: r) = run true (.lb false false) r := rfl
theorem e_s0_qname (om : Bool) (n r : Str) :
    run om .s0 ('{' :: '"' :: (escape n ++ '"' :: r)) = run om (.qe .mname) r := by
  rw [run_cons, run_cons, run_append, show step om (step om .s0 '{') '"' = .q .mname false from rfl, run_escape]
  rfl

/-- the shape both formats write for a legacy name; `L` is the joined label list, empty iff there are no labels -/
theorem run_bareHead (om : Bool) (n L r : Str) (hn : bareMetricName n = true)
    (hL : L ≠ [] → run om (.lb false true) L = .qe .lval) :
    run om .s0 (n ++ (if L.isEmpty then [] else ['{'] ++ L ++ ['}']) ++ ' ' :: r) = run om .v0 r := by
  rw [List.append_assoc, run_append, run_bareMetric om n hn]
  by_cases hl : L = []
  · subst hl; exact e_name_sp om r
  · simp only [List.isEmpty_eq_false_iff.mpr hl, Bool.false_eq_true, if_false, List.append_assoc, List.cons_append,
      List.nil_append, e_name_brace, run_append, hL hl, e_lval_close, e_al_sp]

theorem isDig_of_isDigit (c : Char) (h : isDigit c = true) : isDig c = true := by
  simp only [isDigit, Bool.and_eq_true, decide_eq_true_eq, Char.le_def, UInt32.le_iff_toNat_le] at h
  simp only [isDig, inRange, Bool.and_eq_true, decide_eq_true_eq]
  exact h

theorem numCh_of_isDig (c : Char) (h : isDig c = true) : numCh c = true := by simp [numCh, h]

theorem decDigits_isDig (n : Nat) : (decDigits n).all isDig = true :=
  List.all_eq_true.mpr fun c hc => isDig_of_isDigit c (List.all_eq_true.mp (allDigits_decDigits n) c hc)

theorem decDigits_num (n : Nat) : ∀ c ∈ decDigits n, numCh c = true :=
  fun c hc => numCh_of_isDig c (List.all_eq_true.mp (decDigits_isDig n) c hc)

theorem floatTok_iff (s : Str) : floatTok s = true ↔ s ≠ [] ∧ ∀ c ∈ s, numCh c = true := by
  cases s <;> simp [floatTok]

theorem intStr_numTok (n : Int) : floatTok (intStr n) = true := by
  rw [floatTok_iff]
  cases n with
  | ofNat k => exact ⟨decDigits_ne_nil k, decDigits_num k⟩
  | negSucc k =>
    exact ⟨List.cons_ne_nil _ _, List.forall_mem_cons.mpr ⟨by decide, decDigits_num (k + 1)⟩⟩

theorem zpad_num (w : Nat) (s : Str) (h : ∀ c ∈ s, numCh c = true) : ∀ c ∈ zpad w s, numCh c = true :=
  List.forall_mem_append.mpr ⟨fun _ hc => List.eq_of_mem_replicate hc ▸ rfl, h⟩

/-- the mantissa is made of characters of the input and a dot, the exponent of the extracted literal and digits -/
theorem goFinite_numTok (pos : Bool) (s : Str) (h : floatTok s = true) :
    floatTok (Utils.goFinite pos s) = true := by
  rw [floatTok_iff] at h ⊢
  unfold Utils.goFinite
  split
  · next dot _ =>
    split
    · refine ⟨by simp [show PromVerif.Generated.Utils.expLit ≠ [] by decide], ?_⟩
      refine List.forall_mem_append.mpr ⟨List.forall_mem_append.mpr ⟨?_, by decide⟩, zpad_num _ _ (decDigits_num _)⟩
      refine List.all_eq_true.mp (rstripSet_all _ numCh _ (List.all_eq_true.mpr ?_))
      refine List.forall_mem_append.mpr ⟨List.forall_mem_append.mpr ⟨List.forall_mem_append.mpr ⟨?_, by decide⟩, ?_⟩, ?_⟩
      · exact fun x hx => h.2 x (List.mem_of_mem_take hx)
      · exact fun x hx => h.2 x (List.mem_of_mem_drop (List.mem_of_mem_take hx))
      · exact fun x hx => h.2 x (List.mem_of_mem_drop hx)
    · exact h
  · exact h

theorem go_numTok (s : Str) (h : floatTok s = true) : floatTok (Utils.floatToGoString s) = true := by
  unfold Utils.floatToGoString
  split
  · decide
  split
  · decide
  split
  · decide
  · exact goFinite_numTok _ s h

/-- what is assumed of a float timestamp's repr text (an `int` or `Timestamp` needs nothing) -/
def tsOK : Ts → Bool
  | .flt r => floatTok r
  | _ => true

theorem tsStr_numTok (t : Ts) (h : tsOK t = true) : floatTok (OMExpo.tsStr t) = true := by
  cases t with
  | int n => exact intStr_numTok n
  | flt r => exact h
  | stamp sec nsec =>
    rw [floatTok_iff]
    refine ⟨by simp [OMExpo.tsStr, OMExpo.stampStr], ?_⟩
    refine List.forall_mem_append.mpr ⟨List.forall_mem_append.mpr ⟨((floatTok_iff _).mp (intStr_numTok sec)).2, by decide⟩, ?_⟩
    cases nsec with
    | ofNat k => exact zpad_num 9 _ (decDigits_num k)
    | negSucc k =>
      dsimp only
      split
      · exact zpad_num 9 _ (decDigits_num (k + 1))
      · exact List.forall_mem_cons.mpr ⟨by decide, zpad_num 8 _ (decDigits_num (k + 1))⟩

/-- the value, timestamp and exemplar number positions of the automaton all have this shape -/
theorem run_floatTok (om : Bool) (st0 st : St)
    (hp : ∀ c, numCh c = true → step om st0 c = st ∧ step om st c = st) (s : Str) (h : floatTok s = true) :
    run om st0 s = st := by
  rw [floatTok_iff] at h
  exact run_tok om st0 st numCh hp s h.1 (by simpa only [List.all_eq_true] using h.2)

theorem run_value (om : Bool) (s : Str) (h : floatTok s = true) : run om .v0 s = .v :=
  run_floatTok om .v0 .v (fun c hc => by simp [step, hc]) s h

theorem run_text_ts (m : Int) : run false .v (' ' :: intStr m) = .t := by
  rw [run_cons, show step false .v ' ' = .t0 from rfl]
  cases m with
  | ofNat k =>
    exact run_tok false .t0 .t isDig (fun c hc => by simp [step, hc]) _ (decDigits_ne_nil k) (decDigits_isDig k)
  | negSucc k =>
    rw [show intStr (Int.negSucc k) = '-' :: decDigits (k + 1) from rfl, run_cons,
      show step false .t0 '-' = .tm from rfl]
    exact run_tok false .tm .t isDig (fun c hc => by simp [step, hc]) _ (decDigits_ne_nil (k + 1))
      (decDigits_isDig (k + 1))

end PromVerif.Lemmas.Lines
