/-
Writer meets reader: the directory a world history leaves (`DiskOK`) is a listing of well-formed files in the sense of
the collector proofs (`WFInput`), each contribution being one cell of one identity's file.
-/
import PromVerif.Lemmas.MultiprocessCompose
import PromVerif.Lemmas.MultiprocessWorld
import PromVerif.Lemmas.MultiprocessChars

namespace PromVerif.Props.C08
open PromVerif.Py PromVerif.Generated.Multiprocess
open PromVerif.Model.Multiprocess PromVerif.Spec.Multiprocess PromVerif.Model.Values
set_option autoImplicit false

variable {V B : Type}

/-- the metric types whose values live in multiprocess files -/
def workerTypes : List Str := ["counter".toList, "gauge".toList, "summary".toList, "histogram".toList]

/-- parameters a metric class passes to its value objects -/
structure GoodParams (q : Params) : Prop where
  typ : q.typ ∈ workerTypes
  mode : q.typ = gaugeType → q.mode ∈ gaugeModes

theorem workerTypes_facts : ∀ t ∈ workerTypes, metricTypes.contains t = true ∧ '_' ∉ t := by
  simp only [workerTypes, chars]
  decide +kernel
theorem gaugeModes_no_sep : ∀ m ∈ gaugeModes, '_' ∉ m := by decide +kernel

/-- type, mode and pid as the file name spells them (the reader's view) -/
def parseName (fn : Str) : Str × Str × Str :=
  let parts := splitChar splitSep fn
  let typ := parts.headD []
  if typ = gaugeType then (typ, (parts[1]?).getD [], dropLastN extLen ((parts[2]?).getD []))
  else (typ, [], dropLastN extLen ((parts[1]?).getD []))

def sfileOf (f : Str × Store V) : SFile V := ⟨(parseName f.1).1, (parseName f.1).2.1, (parseName f.1).2.2, f.2⟩

/-- the directory as the spec sees it -/
def sfiles (disk : List (Str × Store V)) : List (SFile V) := disk.map sfileOf

/-- the directory as `glob` lists it for the collector -/
def listing (disk : List (Str × Store V)) : List (MpFile V) := disk.map (fun f => ⟨f.1, f.2⟩)

theorem fileName_baseName (q : Params) (pid : Str) : fileName (filePrefix q) pid = baseName q.typ q.mode pid := rfl

theorem parseName_fileName (q : Params) (hq : GoodParams q) (pid : Str) (hp : '_' ∉ pid) :
    parseName (fileName (filePrefix q) pid) = (q.typ, if q.typ = gaugeType then q.mode else [], pid) := by
  rw [fileName_baseName]
  unfold parseName
  by_cases hg : q.typ = gaugeType
  · rw [hg, split_gauge q.mode pid (gaugeModes_no_sep _ (hq.mode hg)) hp]
    simp [dropLastN_ext]
  · rw [split_other q.typ q.mode pid hg (workerTypes_facts _ hq.typ).2 hp]
    simp [hg, dropLastN_ext]

theorem sfileOf_eq (q : Params) (hq : GoodParams q) (pid : Str) (hp : '_' ∉ pid) (f : Str × Store V)
    (hn : f.1 = fileName (filePrefix q) pid) :
    sfileOf f = ⟨q.typ, if q.typ = gaugeType then q.mode else [], pid, f.2⟩ := by
  unfold sfileOf
  rw [hn, parseName_fileName q hq pid hp]

theorem toFile_sfileOf (PS : List Params) (hPS : ∀ q ∈ PS, GoodParams q) (disk : List (Str × Store V))
    (h : DiskOK PS disk) (f : Str × Store V) (hf : f ∈ disk) : toFile (sfileOf f) = ⟨f.1, f.2⟩ := by
  obtain ⟨q, hq, pid, hp, hn, _⟩ := h.files f hf
  rw [sfileOf_eq q (hPS q hq) pid hp f hn, hn, fileName_baseName]
  unfold toFile
  congr 1
  by_cases hg : q.typ = gaugeType
  · simp [hg]
  · simp [baseName, hg]

theorem listing_eq (PS : List Params) (hPS : ∀ q ∈ PS, GoodParams q) (disk : List (Str × Store V))
    (h : DiskOK PS disk) : listing disk = (sfiles disk).map toFile := by
  unfold listing sfiles
  rw [List.map_map]
  apply List.map_congr_left
  intro f hf
  exact (toFile_sfileOf PS hPS disk h f hf).symm

theorem cellGet_of_mem (disk : List (Str × Store V)) (hnames : (AL.keys disk).Nodup) (f : Str × Store V) (hf : f ∈ disk)
    (k : Key) : cellGet disk f.1 k = AL.get? f.2 k := by
  unfold cellGet
  rw [AL.getD_eq, AL.get?_of_mem disk hnames f.1 f.2 hf]
  rfl

theorem filePrefix_inj (q q' : Params) (hq : GoodParams q) (hq' : GoodParams q') (h : filePrefix q' = filePrefix q) :
    q'.typ = q.typ ∧ (q.typ = gaugeType → q'.mode = q.mode) := by
  -- the reader gets type and mode back from the name of the file of either
  have hp := congrArg (fun p => parseName (fileName p [])) h
  simp only [parseName_fileName q' hq' [] List.not_mem_nil, parseName_fileName q hq [] List.not_mem_nil,
    Prod.mk.injEq, and_true] at hp
  refine ⟨hp.1, fun hg => ?_⟩
  have hm := hp.2
  rw [if_pos (hp.1.trans hg), if_pos hg] at hm
  exact hm

theorem contrib_char (PS : List Params) (hPS : ∀ q ∈ PS, GoodParams q) (disk : List (Str × Store V))
    (h : DiskOK PS disk) (c : Contrib V) (hc : c ∈ allContribs (sfiles disk)) :
    ∃ q ∈ PS, c.typ = q.typ ∧ (c.typ = gaugeType → c.mode = q.mode) ∧ c.key = mmapKey q ∧ '_' ∉ c.pid ∧
      cellGet disk (fileName (filePrefix q) c.pid) c.key = some (c.value, c.ts) := by
  unfold allContribs sfiles at hc
  obtain ⟨sf, hsf, hcs⟩ := List.mem_flatMap.mp hc
  obtain ⟨f, hf, rfl⟩ := List.mem_map.mp hsf
  unfold contribsOf at hcs
  obtain ⟨e, he, rfl⟩ := List.mem_map.mp hcs
  obtain ⟨q, hq, pid, hp, hn, hs⟩ := h.files f hf
  obtain ⟨q', hq', hk, hpre⟩ := hs.2 e he
  have hinj := filePrefix_inj q q' (hPS q hq) (hPS q' hq') hpre
  simp only [sfileOf_eq q (hPS q hq) pid hp f hn]
  refine ⟨q', hq', hinj.1.symm, fun hg => ?_, hk, hp, ?_⟩
  · rw [if_pos hg]; exact (hinj.2 hg).symm
  · rw [hpre, ← hn, cellGet_of_mem disk h.names f hf]
    exact AL.get?_of_mem f.2 hs.1 e.1 e.2 he

theorem contrib_of_cell (PS : List Params) (hPS : ∀ q ∈ PS, GoodParams q) (disk : List (Str × Store V))
    (q : Params) (hq : q ∈ PS) (p : Str) (hp : '_' ∉ p)
    (hs : has disk (fileName (filePrefix q) p) (mmapKey q) = true) :
    ∃ c ∈ allContribs (sfiles disk), c.key = mmapKey q ∧ c.pid = p ∧ c.typ = q.typ ∧ (q.typ = gaugeType → c.mode = q.mode) := by
  unfold has cellGet at hs
  cases hg : AL.get? disk (fileName (filePrefix q) p) with
  | none => rw [AL.getD_eq, hg] at hs; simp at hs
  | some store =>
    rw [AL.getD_eq, hg, Option.getD_some] at hs
    obtain ⟨vt, hvt⟩ := Option.isSome_iff_exists.mp hs
    have hf := AL.mem_of_get? _ _ _ hg
    have he := AL.mem_of_get? _ _ _ hvt
    refine ⟨⟨q.typ, if q.typ = gaugeType then q.mode else [], p, mmapKey q, vt.1, vt.2⟩, ?_, rfl, rfl, rfl, ?_⟩
    · unfold allContribs sfiles
      apply List.mem_flatMap.mpr
      refine ⟨sfileOf (fileName (filePrefix q) p, store), List.mem_map.mpr ⟨_, hf, rfl⟩, ?_⟩
      unfold contribsOf
      apply List.mem_map.mpr
      refine ⟨(mmapKey q, vt), he, ?_⟩
      rw [sfileOf_eq q (hPS q hq) p hp _ rfl]
    · intro hg'; simp [hg']

/-- what the worker side must guarantee about the parameters of the value objects it constructs -/
structure GoodPS (bo : BOps B) (PS : List Params) : Prop where
  good : ∀ q ∈ PS, GoodParams q
  /-- one metric name, one type, one gauge mode -/
  consistent : ∀ q1 ∈ PS, ∀ q2 ∈ PS, q1.metric = q2.metric → q2.typ = q1.typ ∧ (q1.typ = gaugeType → q2.mode = q1.mode)
  /-- no gauge label NAMED `pid` (known finding F24) -/
  no_pid_label : ∀ q ∈ PS, q.typ = gaugeType → ∀ l ∈ (mmapKey q).labels, l.1 ≠ pidLabel
  le_parse : ∀ q ∈ PS, q.typ = histogramType → ∀ l ∈ (mmapKey q).labels, l.1 = leLabel → (bo.parse l.2).isSome = true

theorem leText_mem {c : Contrib V} {t : Str} (h : leText c = some t) : ∃ l ∈ c.key.labels, l.1 = leLabel ∧ l.2 = t := by
  obtain ⟨l, hf, rfl⟩ := Option.map_eq_some_iff.mp h
  have hp := List.find?_some hf
  exact ⟨l, List.mem_of_find?_eq_some hf, leLabel_eq ▸ of_decide_eq_true hp, rfl⟩

theorem wfinput_sfiles (bo : BOps B) (PS : List Params) (hPS : GoodPS bo PS) (disk : List (Str × Store V))
    (h : DiskOK PS disk) : WFInput bo (sfiles disk) := by
  have hch := contrib_char PS hPS.good disk h
  have hpair : ∀ c ∈ allContribs (sfiles disk), ∀ c' ∈ allContribs (sfiles disk), c.key.metric = c'.key.metric →
      c'.typ = c.typ ∧ (c.typ = gaugeType → c'.mode = c.mode) := by
    intro c hc c' hc' hm
    obtain ⟨q, hq, e1, e2, k1, _, _⟩ := hch c hc
    obtain ⟨q', hq', e1', e2', k1', _, _⟩ := hch c' hc'
    obtain ⟨hty, hmo⟩ := hPS.consistent q hq q' hq' (by rw [k1, k1'] at hm; exact hm)
    refine ⟨by rw [e1, e1', hty], fun hg => ?_⟩
    rw [e2 hg, e2' (by rw [e1', hty, ← e1]; exact hg)]
    exact hmo (e1 ▸ hg)
  refine ⟨?_, fun c hc c' hc' hm => (hpair c hc c' hc' hm).1, fun c hc c' hc' hm => (hpair c hc c' hc' hm).2,
    ?_, ?_, ?_, ?_⟩
  · intro sf hsf
    obtain ⟨f, hf, rfl⟩ := List.mem_map.mp hsf
    obtain ⟨q, hq, pid, hp, hn, _⟩ := h.files f hf
    have hg := hPS.good q hq
    rw [sfileOf_eq q hg pid hp f hn]
    refine ⟨(workerTypes_facts _ hg.typ).1, (workerTypes_facts _ hg.typ).2, ?_, hp⟩
    show '_' ∉ (if q.typ = gaugeType then q.mode else [])
    split
    · next e => exact gaugeModes_no_sep _ (hg.mode e)
    · simp
  · intro c hc hg
    obtain ⟨q, hq, e1, e2, _, _, _⟩ := hch c hc
    rw [e2 hg]; exact (hPS.good q hq).mode (e1 ▸ hg)
  · intro c hc hg l hl
    obtain ⟨q, hq, e1, _, k1, _, _⟩ := hch c hc
    rw [k1] at hl
    exact hPS.no_pid_label q hq (e1 ▸ hg) l hl
  · intro c hc hh t ht
    obtain ⟨q, hq, e1, _, k1, _, _⟩ := hch c hc
    obtain ⟨l, hmem, hle, rfl⟩ := leText_mem ht
    exact hPS.le_parse q hq (e1 ▸ hh) l (k1 ▸ hmem) hle
  · intro c hc
    obtain ⟨q, _, _, _, k1, _, _⟩ := hch c hc
    rw [k1]; exact mmapKey_labels_nodup q

end PromVerif.Props.C08
