/-
Test documents are written as string literals.  A `String` is a UTF-8 byte array, so `"…".toList` on a literal makes
the evaluator decode bytes; both the kernel and `isDefEq` read a literal as `String.ofList [chars]`, and the lemmas
below hand the parser that character list directly.  A test vector is then proved by
`rw [parseDoc_ofList]; decide +kernel`.
-/
import PromVerif.Lemmas.OMToy

namespace PromVerif.Lemmas.OMToy
open PromVerif.Py PromVerif.Model.OMParse

theorem parseDoc_ofList (l : List Char) : parseDoc (String.ofList l) = omParse toyP l := by
  rw [parseDoc, String.toList_ofList]

theorem isOkDoc_ofList (l : List Char) : isOkDoc (String.ofList l) = (omParse toyP l).toBool := by
  rw [isOkDoc, parseDoc_ofList]
  cases omParse toyP l <;> rfl

end PromVerif.Lemmas.OMToy
