/-
`parse_labels` (shared `ParseCore` model): every accepted term appends a label whose name was not yet present, so
the parsed dict never holds a name twice — the "duplicate label names" rule of C15.
-/
import PromVerif.Model.OMParse

namespace PromVerif.Lemmas.OM
open PromVerif.Py PromVerif.Model.ParseCore PromVerif.Model.OMParse

/-- an accepted term leaves the labels as they are or appends one whose name was absent and is the metric-name slot
or passes `_validate_labelname` -/
def Fresh (legacy : Bool) (labels : List (Str × Str)) (r : PyM (List (Str × Str) × Str)) : Prop :=
  ∀ l' rest, r = .ok (l', rest) →
    (l' = labels ∨ ∃ k v, l' = labels ++ [(k, v)] ∧ labels.any (fun kv => kv.1 == k) = false ∧
      (k = "__name__".toList ∨ Model.Validation.validateLabelname legacy k = .ok ()))

theorem fresh_bind {α : Type} {legacy : Bool} {labels : List (Str × Str)} (x : PyM α) (f : α → PyM (List (Str × Str) × Str))
    (h : ∀ a, x = .ok a → Fresh legacy labels (f a)) : Fresh legacy labels (x >>= f) := by
  intro l' rest hr
  cases x with
  | error e => cases hr
  | ok a => exact h a rfl l' rest hr

theorem fresh_throw {legacy : Bool} {labels : List (Str × Str)} (e : PyErr) : Fresh legacy labels (throw e) := by
  intro l' rest hr; cases hr

theorem fresh_throw_bind {α : Type} {legacy : Bool} {labels : List (Str × Str)} (e : PyErr) (f : α → PyM (List (Str × Str) × Str)) :
    Fresh legacy labels ((throw e : PyM α) >>= f) := by
  intro l' rest hr; cases hr

/-- a statement `if c: raise e` in front of its continuation `k` (the shape the `do` block gives it) -/
theorem fresh_raiseIf {legacy : Bool} {labels : List (Str × Str)} {c : Prop} [Decidable c] {e : PyErr}
    {k : Unit → PyM (List (Str × Str) × Str)} (h : ¬ c → Fresh legacy labels (k ())) :
    Fresh legacy labels (if c then (throw e : PyM Unit) >>= k else k ()) := by
  split
  · exact fresh_throw_bind e k
  · exact h ‹_›

/-- the body of the `while sub_labels:` loop: `if label_name in labels: raise ValueError` guards the only append, which
the validation of the name precedes.  The continuations of the `do` block are `have`s; `dsimp -zeta` keeps them shared
(plain `dsimp` copies each into both branches of every `if … raise`). -/
theorem parseOneLabel_fresh (legacy om : Bool) (sub : Str) (labels : List (Str × Str)) :
    Fresh legacy labels (parseOneLabel legacy om sub labels) := by
  unfold parseOneLabel
  apply fresh_bind; rintro ⟨term, rest⟩ _
  dsimp -zeta only
  split
  · split
    · exact fresh_throw _
    · intro l' r h; left; cases h; rfl
  · apply fresh_bind; rintro ⟨labelName, quotedName, term1⟩ _
    refine fresh_raiseIf fun _ => ?_
    dsimp -zeta only
    extract_lets term2
    clear_value term2
    split
    · split
      · exact fresh_throw _
      · refine fresh_raiseIf fun _ => ?_
        dsimp -zeta only
        apply fresh_bind; rintro ⟨labelValue, _⟩ _
        dsimp -zeta only
        extract_lets appended checked
        have hchk : (labelName = "__name__".toList ∨ Model.Validation.validateLabelname legacy labelName = .ok ()) →
            ∀ r, Fresh legacy labels (checked r) := by
          intro hvalid r
          refine fresh_raiseIf fun hany => ?_
          intro l' r' h; right; cases h
          exact ⟨labelName, labelValue, rfl, (Bool.not_eq_true _).mp hany, hvalid⟩
        by_cases hname : (labelName == "__name__".toList) = true
        · rw [if_pos hname]
          exact fresh_bind _ _ fun u _ => hchk (Or.inl (eq_of_beq hname)) u
        · rw [if_neg hname]
          exact fresh_bind _ _ fun u hu => hchk (Or.inr hu) u
    · exact fresh_throw _

def keys (l : List (Str × Str)) : List Str := l.map (·.1)

theorem nodup_append_fresh (labels : List (Str × Str)) (k v : Str) (hn : (keys labels).Nodup)
    (hf : labels.any (fun kv => kv.1 == k) = false) : (keys (labels ++ [(k, v)])).Nodup := by
  unfold keys at *
  rw [List.map_append, List.nodup_append]
  refine ⟨hn, by simp, ?_⟩
  intro a ha b hb
  simp only [List.map_cons, List.map_nil, List.mem_singleton] at hb
  subst hb
  obtain ⟨kv, hkv, rfl⟩ := List.mem_map.mp ha
  intro e
  rw [List.any_eq_false] at hf
  exact hf kv hkv (by simpa using e)

theorem parseLabelsLoop_inv {legacy om : Bool} (Inv : List (Str × Str) → Prop)
    (hstep : ∀ acc k v, Inv acc → acc.any (fun kv => kv.1 == k) = false →
      (k = "__name__".toList ∨ Model.Validation.validateLabelname legacy k = .ok ()) → Inv (acc ++ [(k, v)])) :
    ∀ (fuel : Nat) (sub : Str) (acc ls : List (Str × Str)), Inv acc → parseLabelsLoop legacy om fuel sub acc = .ok ls → Inv ls := by
  intro fuel
  induction fuel with
  | zero =>
    intro sub acc ls hn h
    unfold parseLabelsLoop at h
    split at h
    · cases h; exact hn
    · cases h
  | succ fuel ih =>
    intro sub acc ls hn h
    unfold parseLabelsLoop at h
    split at h
    · cases h; exact hn
    · cases hp : parseOneLabel legacy om sub acc with
      | error e => rw [hp] at h; cases h
      | ok p =>
        obtain ⟨labels', rest⟩ := p
        rw [hp] at h
        refine ih rest labels' ls ?_ h
        rcases parseOneLabel_fresh legacy om sub acc labels' rest hp with rfl | ⟨k, v, rfl, hf, hv⟩
        · exact hn
        · exact hstep acc k v hn hf hv

theorem parseLabels_inv {legacy om : Bool} (Inv : List (Str × Str) → Prop) (h0 : Inv [])
    (hstep : ∀ acc k v, Inv acc → acc.any (fun kv => kv.1 == k) = false →
      (k = "__name__".toList ∨ Model.Validation.validateLabelname legacy k = .ok ()) → Inv (acc ++ [(k, v)]))
    (s : Str) (ls : List (Str × Str)) (h : parseLabels legacy s om = .ok ls) : Inv ls := by
  unfold parseLabels at h
  dsimp only at h
  split at h
  · cases h
  · exact parseLabelsLoop_inv Inv hstep _ _ [] ls h0 h

/-- `parse_labels` never returns a dict-with-duplicates: a label block naming a label twice is not accepted -/
theorem parseLabels_nodup (legacy om : Bool) (s : Str) (ls : List (Str × Str)) (h : parseLabels legacy s om = .ok ls) :
    (keys ls).Nodup :=
  parseLabels_inv (fun l => (keys l).Nodup) (by simp [keys]) (fun acc k v hn hf _ => nodup_append_fresh acc k v hn hf) s ls h

end PromVerif.Lemmas.OM
