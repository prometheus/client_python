/-
`dict(labels)` in the final conversion of `_accumulate_metrics` is the identity on label lists with pairwise different
names, and the label lists `mmap_key` produces (a dict, keys sorted) are of that kind.
-/
import PromVerif.Lemmas.MultiprocessDict
import PromVerif.Model.Values
import PromVerif.Lemmas.GatewaySort

namespace PromVerif.Model.Multiprocess
open PromVerif.Py
set_option autoImplicit false

theorem AL.set_append_of_not_mem {κ β : Type} [DecidableEq κ] (d : List (κ × β)) (k : κ) (v : β) (h : k ∉ AL.keys d) :
    AL.set d k v = d ++ [(k, v)] := by
  induction d with
  | nil => rfl
  | cons x r ih =>
    obtain ⟨k', v'⟩ := x
    have hk : k' ≠ k := fun e => h (by simp [AL.keys, e])
    have hr : k ∉ AL.keys r := fun e => h (by simp only [AL.keys, List.map_cons, List.mem_cons]; exact Or.inr e)
    simp [AL.set, hk, ih hr]

theorem pyDict_acc (ls d : Labels) (hnd : (ls.map (·.1)).Nodup) (hdis : ∀ l ∈ ls, l.1 ∉ AL.keys d) :
    ls.foldl (fun d kv => AL.set d kv.1 kv.2) d = d ++ ls := by
  induction ls generalizing d with
  | nil => simp
  | cons x r ih =>
    simp only [List.map_cons, List.nodup_cons] at hnd
    simp only [List.foldl_cons]
    rw [AL.set_append_of_not_mem d x.1 x.2 (hdis x List.mem_cons_self)]
    rw [ih (d ++ [(x.1, x.2)]) hnd.2]
    · simp
    · intro l hl hm
      simp only [AL.keys, List.map_append, List.map_cons, List.map_nil, List.mem_append, List.mem_singleton] at hm
      rcases hm with hm | hm
      · exact hdis l (List.mem_cons_of_mem _ hl) hm
      · exact hnd.1 (List.mem_map.mpr ⟨l, hl, hm⟩)

theorem pyDict_id (ls : Labels) (hnd : (ls.map (·.1)).Nodup) : pyDict ls = ls := by
  unfold pyDict
  rw [pyDict_acc ls [] hnd (fun _ _ h => by simp [AL.keys] at h)]
  rfl

theorem pyDict_keys_nodup (ls : Labels) : ((pyDict ls).map (·.1)).Nodup :=
  AL.nodup_setAll ls [] List.nodup_nil

theorem mmapKey_labels_nodup (q : Values.Params) : ((Values.mmapKey q).labels.map (·.1)).Nodup := by
  unfold Values.mmapKey
  simp only
  exact ((Lemmas.GatewaySort.sortByKey_perm _).map (·.1)).symm.nodup (pyDict_keys_nodup _)

end PromVerif.Model.Multiprocess
