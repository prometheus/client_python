/-
From "every contribution is one identity's own entry" to "the collected sum is the sum of all increments ever issued":
the summation argument (commutative monoid) over the files of a directory left by a world history.
-/
import PromVerif.Lemmas.MultiprocessCollect
import PromVerif.Lemmas.MultiprocessFresh

namespace PromVerif.Props.C08
open PromVerif.Py PromVerif.Generated.Multiprocess
open PromVerif.Model.Multiprocess PromVerif.Spec.Multiprocess PromVerif.Model.Values
set_option autoImplicit false

variable {V B : Type}

theorem aggSum_filter_zero {α : Type} (vo : VOps V) (hzero : ∀ a, vo.add a vo.zero = a) (l : List α) (f : α → V)
    (p : α → Bool) (h : ∀ x ∈ l, p x = false → f x = vo.zero) (z : V) :
    (l.map f).foldl vo.add z = ((l.filter p).map f).foldl vo.add z := by
  rw [List.foldl_map, List.foldl_map, List.foldl_filter]
  apply foldl_congr_mem
  intro a x hx
  cases hp : p x with
  | true => rfl
  | false => rw [h x hx hp, hzero]; rfl

theorem aggSum_support (vo : VOps V) (hcomm : ∀ a b, vo.add a b = vo.add b a)
    (hassoc : ∀ a b c, vo.add (vo.add a b) c = vo.add a (vo.add b c)) (hzero : ∀ a, vo.add vo.zero a = a)
    (A C : List Str) (hA : A.Nodup) (hC : C.Nodup) (f : Str → V)
    (h1 : ∀ x ∈ A, x ∉ C → f x = vo.zero) (h2 : ∀ x ∈ C, x ∉ A → f x = vo.zero) :
    aggSum vo (A.map f) = aggSum vo (C.map f) := by
  have hz : ∀ a, vo.add a vo.zero = a := fun a => by rw [hcomm]; exact hzero a
  unfold aggSum
  rw [aggSum_filter_zero vo hz A f (fun x => decide (x ∈ C)) (fun x hx hp => h1 x hx (by simpa using hp)),
      aggSum_filter_zero vo hz C f (fun x => decide (x ∈ A)) (fun x hx hp => h2 x hx (by simpa using hp))]
  have hperm : (A.filter (fun x => decide (x ∈ C))).Perm (C.filter (fun x => decide (x ∈ A))) := by
    rw [List.perm_ext_iff_of_nodup (hA.sublist List.filter_sublist) (hC.sublist List.filter_sublist)]
    intro a
    simp only [List.mem_filter, decide_eq_true_eq]
    exact ⟨fun h => ⟨h.2, h.1⟩, fun h => ⟨h.2, h.1⟩⟩
  exact aggSum_perm vo hcomm hassoc _ _ (hperm.map f)

theorem filter_key {β : Type} (s : List (Key × β)) (hs : (AL.keys s).Nodup) (K : Key) :
    s.filter (fun e => e.1 = K) = match AL.get? s K with | some v => [(K, v)] | none => [] := by
  induction s with
  | nil => rfl
  | cons x r ih =>
    obtain ⟨k', v⟩ := x
    rw [AL.keys, List.map_cons, List.nodup_cons] at hs
    rw [List.filter_cons, AL.get?_cons, ih hs.2]
    by_cases hk : k' = K
    · subst hk
      rw [(AL.get?_eq_none_iff r k').mpr hs.1]
      simp
    · simp [hk]

theorem selected_values (vo : VOps V) (hcomm : ∀ a b, vo.add a b = vo.add b a) (hzero : ∀ a, vo.add vo.zero a = a)
    (disk : List (Str × Store V)) (hnames : (AL.keys disk).Nodup) (hstores : ∀ f ∈ disk, (AL.keys f.2).Nodup)
    (sel : Key → Bool) (K : Key) (hK : sel K = true) (hsel : ∀ f ∈ disk, ∀ e ∈ f.2, sel e.1 = true → e.1 = K) :
    aggSum vo (((allContribs (sfiles disk)).filter (fun c => sel c.key)).map (·.value))
      = aggSum vo ((AL.keys disk).map (fun fn => (cellVal vo disk fn K).1)) := by
  have hz : ∀ a, vo.add a vo.zero = a := fun a => by rw [hcomm]; exact hzero a
  unfold allContribs sfiles
  rw [List.flatMap_map, List.filter_flatMap, List.map_flatMap]
  unfold aggSum
  rw [List.foldl_flatMap]
  have hfile : ∀ f ∈ disk, ((contribsOf (sfileOf f)).filter (fun c => sel c.key)).map (·.value)
      = (f.2.filter (fun e => e.1 = K)).map (·.2.1) := by
    intro f hf
    have hK' : ∀ e ∈ f.2, sel e.1 = decide (e.1 = K) := fun e he =>
      Bool.eq_iff_iff.mpr ⟨fun h => decide_eq_true (hsel f hf e he h), fun h => of_decide_eq_true h ▸ hK⟩
    rw [← List.filter_congr hK']
    unfold contribsOf sfileOf
    simp only [List.filter_map, List.map_map]
    rfl
  have hcell : ∀ f ∈ disk, cellVal vo disk f.1 K = (AL.get? f.2 K).getD (vo.zero, vo.zero) := by
    intro f hf
    unfold cellVal
    rw [cellGet_of_mem disk hnames f hf]
  -- a file adds its entry under `K`, or nothing (zero)
  unfold AL.keys
  rw [List.map_map, List.foldl_map]
  apply foldl_congr_mem
  intro acc f hf
  simp only [Function.comp]
  rw [hfile f hf, filter_key f.2 (hstores f hf) K, hcell f hf]
  cases AL.get? f.2 K with
  | some vt => rfl
  | none => exact (hz acc).symm

theorem nonlive_prefix (t : Str) (ht : t ∈ workerTypes) (q p : Str) (hq : '_' ∉ q) (hp : '_' ∉ p) :
    isLiveFileOf q (fileName t p) = false := by
  cases h : isLiveFileOf q (fileName t p) with
  | false => rfl
  | true =>
    unfold isLiveFileOf at h
    rw [List.any_eq_true] at h
    obtain ⟨m, _, hm⟩ := h
    have := of_decide_eq_true hm
    rw [deadName_fileName] at this
    have e := (fileName_inj _ _ _ _ hp hq this).1
    have : '_' ∈ t := by rw [e]; simp [gaugePrefixSep]
    exact absurd this (workerTypes_facts t ht).2

theorem foldl_ownStep_foreign (vo : VOps V) (p : Str) (us : List (Upd V)) (pids : List Str) (hp : p ∉ pids)
    (hinc : ∀ u ∈ us, ∃ q a, u = Upd.inc q a ∧ q ∈ pids) (cell : V × V) : us.foldl (ownStep vo p) cell = cell := by
  induction us generalizing cell with
  | nil => rfl
  | cons u r ih =>
    obtain ⟨q, a, rfl, hq⟩ := hinc u List.mem_cons_self
    have : q ≠ p := fun e => hp (e ▸ hq)
    simp only [List.foldl_cons, ownStep, this, if_false]
    exact ih (fun u' hu' => hinc u' (List.mem_cons_of_mem _ hu')) _

end PromVerif.Props.C08
