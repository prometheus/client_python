/-
A raising step leaves the registry alone (up to the child an ACCEPTED `labels()` call created), and which calls raise
ValueError.
-/
import PromVerif.Lemmas.MetricsRun
import PromVerif.Lemmas.MetricsLabels
import PromVerif.Lemmas.MetricsHist

namespace PromVerif.Lemmas.Metrics
open PromVerif.Py PromVerif.Model.Metrics PromVerif.Generated.Metrics

variable {V : Type} [Val V]

theorem step_frame (r : Reg V) (op : Op V) (e : PyErr) (h : (step r op).2 = .raised e) :
    (step r op).1 = r ∨
      ∃ t, op.touchOf = some t ∧ (step r t).2 = .ok ∧ (step r op).1 = (step r t).1 := by
  rw [step_eq] at h ⊢
  cases hr : r[op.metric]? with
  | none => left; rfl
  | some m =>
    simp only [hr] at h ⊢
    rcases stepM_raised m op e h with ⟨_, h1⟩ | ⟨t, ht, _, hok, heq⟩
    · left; rw [h1]; exact set_getElem?_self r _ _ hr
    · right
      refine ⟨t, ht, ?_, ?_⟩
      · rw [step_eq, touchOf_metric op t ht, hr]; exact hok
      · rw [step_eq, touchOf_metric op t ht, hr, heq]


/-- the method calls on an observable metric that the statement rejects (negative counter increment, unknown enum
state) and the one further ValueError of the code (Info labels overlapping the label names, or None) -/
def RejectedMethod (d : Decl V) : Action V → Prop
  | .inc a => (match d.kind with
    | .counter => Val.lt a Val.zero = true
    | _ => False)
  | .state s => (match d.kind with
    | .enum states => s ∉ states
    | _ => False)
  | .info val => (match d.kind with
    | .info => (∃ kv ∈ val, kv.1 ∈ d.labelnames) ∨ (∃ kv ∈ val, kv.2 = none)
    | _ => False)
  | _ => False

/-- the Bool form of `RejectedMethod` -/
def rejects (d : Decl V) (act : Action V) : Bool := (argRejected d act || infoRejected d act) && isMethod d.kind act

theorem rejectedMethod_iff (d : Decl V) (act : Action V) : RejectedMethod d act ↔ rejects d act = true := by
  obtain ⟨name, kind, ln⟩ := d
  cases act with
  | inc a =>
    cases kind with
    | counter => simp [RejectedMethod, rejects, isMethod, argRejected, infoRejected, counterRejects_eq]
    | _ => exact ⟨False.elim, nofun⟩
  | state s =>
    cases kind with
    | enum states => simp [RejectedMethod, rejects, isMethod, argRejected, infoRejected, indexOf_none_iff]
    | _ => exact ⟨False.elim, nofun⟩
  | info val =>
    cases kind with
    | info => simp [RejectedMethod, rejects, isMethod, argRejected, infoRejected]
    | _ => simp [RejectedMethod, rejects, isMethod]
  | _ => exact ⟨False.elim, Bool.false_ne_true⟩

theorem raises_valueError_iff (d : Decl V) (act : Action V) :
    raises d true act true = some .valueError ↔ rejects d act = true := by
  unfold raises guarded rejects
  split
  · exact ⟨nofun, nofun⟩
  · cases isMethod d.kind act <;> cases argRejected d act <;> cases infoRejected d act <;> simp

theorem callMethod_valueError_iff (d : Decl V) (act : Action V) (c : Child V) :
    (callMethod d true act (some c)).2 = .raised .valueError ↔ RejectedMethod d act := by
  rw [rejectedMethod_iff, ← raises_valueError_iff, callMethod_some_eq]
  cases raises d true act true <;> simp

/-- once both methods start with `self._raise_if_not_observable()` no method skips it -/
theorem skips_eq_false (h1 : counterResetChecksObservable = true) (h2 : infoChecksObservable = true) (k : Kind V)
    (act : Action V) : skipsObservableCheck k act = false := by
  unfold skipsObservableCheck
  split
  · rw [h1]; rfl
  · rw [h2]; rfl
  · rfl

/-- the two methods of F7 are methods of their class, and check no argument before they reach for the value state -/
theorem method_of_skips (d : Decl V) (act : Action V) (h : skipsObservableCheck d.kind act = true) :
    isMethod d.kind act = true ∧ argRejected d act = false := by
  obtain ⟨name, kind, ln⟩ := d
  dsimp only at h ⊢
  unfold skipsObservableCheck at h
  split at h
  · exact ⟨rfl, rfl⟩
  · exact ⟨rfl, rfl⟩
  · cases h

/-- what a method called on a labelled parent without labels raises: ValueError from `_raise_if_not_observable()`, or
— F7 — AttributeError from the missing value state -/
theorem raises_parent (d : Decl V) (act : Action V) (hm : isMethod d.kind act = true) :
    raises d false act false
      = some (if skipsObservableCheck d.kind act = true then .attributeError else .valueError) := by
  unfold raises guarded
  split
  · cases hk : d.kind <;> simp [isMethod, hk] at hm
  · cases hs : skipsObservableCheck d.kind act with
    | false => simp [hm]
    | true => simp [hm, (method_of_skips d act hs).2]

/-- an update method on a labelled parent without labels raises ValueError — except the two of F7 -/
theorem parentCall_valueError_iff (d : Decl V) (act : Action V) :
    (callMethod d false act none).2 = .raised .valueError ↔
      (isMethod d.kind act = true ∧ skipsObservableCheck d.kind act = false) := by
  rw [callMethod_none_eq]
  cases hm : isMethod d.kind act with
  | true =>
    rw [raises_parent d act hm]
    cases skipsObservableCheck d.kind act <;> simp
  | false =>
    -- no such method: nothing is raised (`touch`) or AttributeError
    have hr : raises d false act false = none ∨ raises d false act false = some .attributeError := by
      unfold raises guarded
      split
      · exact Or.inl rfl
      · exact Or.inr (if_pos hm)
    rcases hr with hr | hr <;> rw [hr] <;> simp

/-- F7 in the model: on a labelled parent `Counter.reset()` and `Info.info()` raise AttributeError -/
theorem parentCall_attributeError (d : Decl V) (act : Action V) (h : skipsObservableCheck d.kind act = true) :
    (callMethod d false act none).2 = .raised .attributeError := by
  have hm := (method_of_skips d act h).1
  rw [callMethod_none_eq, raises_parent d act hm, h]
  rfl

end PromVerif.Lemmas.Metrics
