/-
Lemmas about the effect lists the GENERATED skeleton of `write_to_textfile` compiles to (C18): their shape, that every
step is private to the writer's temporary path, where the only completed rename sits, and what the private view is when
it is reached.
-/
import PromVerif.Lemmas.Textfile

namespace PromVerif.Model.Textfile
open PromVerif.Generated.Textfile

def flat (cs : List (Content × Bool)) : Content := (cs.map (·.1)).flatten

theorem flat_chunksOf : ∀ (cuts : List (Nat × Bool)) (fin : Bool) (d : Content), flat (chunksOf cuts fin d) = d := by
  intro cuts
  induction cuts with
  | nil => intro fin d; simp [chunksOf, flat]
  | cons a r ih =>
    intro fin d
    obtain ⟨n, fl⟩ := a
    have := ih fin (d.drop n)
    simp only [flat] at this
    simp [chunksOf, flat, this]

theorem flat_chunks (P : Params) : flat P.chunks = P.new := flat_chunksOf _ _ _

def collectEffs (P : Params) : List (Eff × Option Path) :=
  (List.range P.collectors.length).map fun i => (Eff.collect i, some P.tmp)

def writeEffs (P : Params) : List (Eff × Option Path) :=
  P.chunks.map fun c => (Eff.write P.tmp c.1 c.2, some P.tmp)

/-- everything before the rename -/
def pre (P : Params) : List (Eff × Option Path) :=
  (Eff.openTrunc P.tmp, none) :: (collectEffs P ++ (Eff.encode, some P.tmp) :: (writeEffs P ++ [(Eff.close P.tmp, none)]))

theorem body_eq (P : Params) : body P = pre P ++ [(Eff.rename P.tmp P.target, none)] := by
  simp [body, tryBody, compile, Params.res, pre, collectEffs, writeEffs]

theorem handlerEffs_eq (P : Params) :
    handlerEffs P = [Eff.pathExists P.tmp, Eff.removeIfSeen P.tmp, Eff.reraise] :=
  rfl

/-- `except Exception:` catches exactly the classes deriving from `Exception` -/
theorem catches_caughtClass (c : ExcClass) : catches caughtClass c = c.isException := by
  have h1 : caughtClass ≠ "BaseException".toList := by rw [String.toList_ofList]; decide
  have h2 : caughtClass = "Exception".toList := by rw [String.toList_ofList]; rfl
  rw [catches, if_neg h1, if_pos h2]

theorem body_length (P : Params) : (body P).length = P.collectors.length + P.chunks.length + 4 := by
  simp [body_eq, pre, collectEffs, writeEffs]; omega

/-- the step does not make the temporary file disappear -/
def keepsFile (s : Step) : Prop := ∀ v : View, v.file.isSome = true → (stepV s v).file.isSome = true

/-- last conjunct: the handle the `with` statement would close is the one opened on the temporary path -/
theorem mem_pre {P : Params} {x : Eff × Option Path} (hx : x ∈ pre P) :
    isPrivate P.tmp P.target x.1 = true ∧ isRen (normal x.1) = false ∧ keepsFile (normal x.1) ∧
      (∀ h, x.2 = some h → h = P.tmp) := by
  simp only [pre, collectEffs, writeEffs, List.mem_cons, List.mem_append, List.mem_map, List.not_mem_nil,
    or_false] at hx
  rcases hx with rfl | ⟨i, _, rfl⟩ | rfl | ⟨a, _, rfl⟩ | rfl <;> simp [isPrivate, isRen, normal, keepsFile, stepV]
  -- left over: a piece of the write keeps the file whether it is flushed or buffered
  intro v hv
  cases a.2 <;> simp [hv]

theorem mem_body {P : Params} {x : Eff × Option Path} (hx : x ∈ body P) :
    isPrivate P.tmp P.target x.1 = true ∧ (∀ h, x.2 = some h → h = P.tmp) := by
  rw [body_eq] at hx
  rcases List.mem_append.mp hx with h | h
  · exact ⟨(mem_pre h).1, (mem_pre h).2.2.2⟩
  · rw [List.mem_singleton.mp h]
    exact ⟨by simp [isPrivate], fun _ e => by cases e⟩

theorem isRen_faulted (e : Eff) (n : Nat) : isRen (e, some n) = false := by
  cases e <;> rfl

theorem keepsFile_faulted (e : Eff) (n : Nat) : keepsFile (e, some n) := by
  intro v hv
  cases e with
  | openTrunc p => simp only [stepV]; split <;> simp [hv]
  | write p x fl => rfl
  | close p => rfl
  | _ => exact hv

theorem normalRun_eq (P : Params) :
    normalRun P = (pre P).map (fun x => normal x.1) ++ [normal (Eff.rename P.tmp P.target)] := by
  simp [normalRun, body_eq]

theorem faultedRun_step {P : Params} {f : Fault} (h : f.pos < (body P).length) {s : Step}
    (hs : s ∈ faultedRun P f) :
    isPrivate P.tmp P.target s.1 = true ∧ isRen s = false ∧
      (catches caughtClass f.exc.cls = false → keepsFile s) := by
  unfold faultedRun at hs
  rw [List.getElem?_eq_getElem h] at hs
  simp only [List.mem_append, List.mem_map, List.mem_singleton] at hs
  have hb := mem_body (List.getElem_mem h)
  rcases hs with ((⟨x, hx, rfl⟩ | rfl) | hw) | hh
  · -- a completed effect in front of the raising one: it is in front of the rename
    have hlen : f.pos ≤ (pre P).length := by
      have := h; rw [body_eq] at this; simp at this; omega
    rw [body_eq, List.take_append_of_le_length hlen] at hx
    have hm := mem_pre (List.mem_of_mem_take hx)
    exact ⟨hm.1, hm.2.1, fun _ => hm.2.2.1⟩
  · exact ⟨hb.1, isRen_faulted _ _, fun _ => keepsFile_faulted _ _⟩
  · -- the `with` exit: only a handle on the temporary file is ever open
    cases hw2 : (body P)[f.pos].2 with
    | none => rw [hw2] at hw; cases hw
    | some p =>
      rw [hw2, hb.2 p hw2] at hw
      rw [List.mem_singleton.mp hw]
      exact ⟨by simp [normal, isPrivate], rfl, fun _ _ _ => rfl⟩
  · by_cases hc : catches caughtClass f.exc.cls = true
    · rw [if_pos hc, handlerEffs_eq] at hh
      simp only [List.map_cons, List.map_nil, List.mem_cons, List.not_mem_nil, or_false] at hh
      have hn : catches caughtClass f.exc.cls = false → keepsFile s := fun hn => by rw [hc] at hn; cases hn
      rcases hh with rfl | rfl | rfl <;> exact ⟨by simp [normal, isPrivate], rfl, hn⟩
    · rw [if_neg hc] at hh
      cases hh

theorem pre_private (P : Params) : AllPrivate P.tmp P.target ((pre P).map fun x => normal x.1) :=
  List.forall_mem_map.mpr fun _ hx => (mem_pre hx).1

theorem normalRun_private (P : Params) : AllPrivate P.tmp P.target (normalRun P) :=
  List.forall_mem_map.mpr fun _ hx => (mem_body hx).1

theorem faultedRun_past_end {P : Params} {f : Fault} (h : (body P).length ≤ f.pos) : faultedRun P f = normalRun P := by
  rw [faultedRun, List.getElem?_eq_none h]

theorem faultedRun_private (P : Params) (f : Fault) : AllPrivate P.tmp P.target (faultedRun P f) := by
  by_cases h : f.pos < (body P).length
  · exact fun s hs => (faultedRun_step h hs).1
  · rw [faultedRun_past_end (by omega)]
    exact normalRun_private P

theorem faultedRun_keepsFile {P : Params} {f : Fault} (h : f.pos < (body P).length)
    (hc : catches caughtClass f.exc.cls = false) : ∀ s ∈ faultedRun P f, keepsFile s :=
  fun _ hs => (faultedRun_step h hs).2.2 hc

theorem faultedRun_noRen {P : Params} {f : Fault} (h : f.pos < (body P).length) :
    ∀ s ∈ faultedRun P f, isRen s = false :=
  fun _ hs => (faultedRun_step h hs).2.1

/-- the handler ends in a bare `raise`: whatever the class, the caller sees the exception of a faulting effect -/
theorem outcome_of_lt {P : Params} {f : Fault} (h : f.pos < (body P).length) : outcome P f = .error f.exc := by
  have hr : Sk.reraise ∈ handler := by decide
  simp only [outcome, List.getElem?_eq_getElem h, if_pos hr, ite_self]

theorem outcome_past_end {P : Params} {f : Fault} (h : (body P).length ≤ f.pos) : outcome P f = .ok () := by
  simp only [outcome, List.getElem?_eq_none h]

theorem faultedRun_head {P : Params} {f : Fault} (h0 : 1 ≤ f.pos) (h : f.pos < (body P).length) :
    ∃ tl, faultedRun P f = normal (Eff.openTrunc P.tmp) :: tl := by
  unfold faultedRun
  rw [List.getElem?_eq_getElem h]
  obtain ⟨p, hp⟩ : ∃ p, f.pos = p + 1 := ⟨f.pos - 1, by omega⟩
  simp only [hp, body_eq, pre, List.cons_append, List.take_succ_cons, List.map_cons]
  exact ⟨_, rfl⟩

theorem faultedRun_caught {P : Params} {f : Fault} (h : f.pos < (body P).length)
    (hc : catches caughtClass f.exc.cls = true) :
    ∃ front, faultedRun P f = front ++ [normal (Eff.pathExists P.tmp), normal (Eff.removeIfSeen P.tmp), normal Eff.reraise] := by
  unfold faultedRun
  rw [List.getElem?_eq_getElem h, if_pos hc, handlerEffs_eq]
  exact ⟨_, rfl⟩

theorem execV_collects (l : List Nat) (v : View) : execV (l.map fun i => normal (Eff.collect i)) v = v := by
  induction l with
  | nil => rfl
  | cons i r ih => exact ih

/-- buffered or flushed piece by piece, after `close` the pieces are all in the file -/
theorem execV_writes_close (p : Path) : ∀ (cs : List (Content × Bool)) (f b : Content) (s : Bool),
    stepV (normal (Eff.close p)) (execV (cs.map fun c => normal (Eff.write p c.1 c.2)) ⟨some f, ⟨b, s⟩⟩) =
      ⟨some (f ++ b ++ flat cs), ⟨[], s⟩⟩ := by
  intro cs
  induction cs with
  | nil => intro f b s; simp [flat, normal, stepV]
  | cons c r ih =>
    intro f b s
    obtain ⟨x, fl⟩ := c
    cases fl with
    | true => exact (ih (f ++ (b ++ x)) [] s).trans (by simp [flat])
    | false => exact (ih f (b ++ x) s).trans (by simp [flat])

theorem execV_pre (P : Params) (v : View) :
    execV ((pre P).map fun x => normal x.1) v = ⟨some P.new, ⟨[], v.loc.seen⟩⟩ := by
  simp only [pre, collectEffs, writeEffs, List.map_cons, List.map_append, List.map_map, Function.comp_def,
    execV_cons, execV_append, execV_collects, List.map_nil, execV_nil]
  have h0 : stepV (normal (Eff.openTrunc P.tmp)) v = ⟨some [], ⟨[], v.loc.seen⟩⟩ := rfl
  have h3 : ∀ w : View, stepV (normal Eff.encode) w = w := fun _ => rfl
  rw [h0, h3, execV_writes_close, flat_chunks]
  rfl

theorem normalRun_ready (P : Params) (v : View) : Ready P.new (normalRun P) v := by
  rw [normalRun_eq, Ready_append]
  refine ⟨Ready_of_noRen _ _ _ (List.forall_mem_map.mpr fun _ hx => (mem_pre hx).2.1), ?_⟩
  · rw [execV_pre]
    exact ⟨fun _ => rfl, trivial⟩

theorem execV_normalRun (P : Params) (v : View) : execV (normalRun P) v = ⟨none, ⟨[], v.loc.seen⟩⟩ := by
  rw [normalRun_eq, execV_append, execV_pre]
  rfl

theorem execV_handler_removes (p : Path) (v : View) :
    (execV [normal (Eff.pathExists p), normal (Eff.removeIfSeen p), normal Eff.reraise] v).file = none := by
  obtain ⟨file, loc⟩ := v
  cases file <;> rfl

theorem execV_run_no_tmp (P : Params) (f : Fault) (v : View)
    (h : f.pos < (body P).length → catches caughtClass f.exc.cls = true) : (execV (faultedRun P f) v).file = none := by
  by_cases hp : f.pos < (body P).length
  · obtain ⟨front, hfr⟩ := faultedRun_caught hp (h hp)
    rw [hfr, execV_append]
    exact execV_handler_removes _ _
  · rw [faultedRun_past_end (by omega), execV_normalRun]

theorem faultedRun_ready (P : Params) (f : Fault) (v : View) : Ready P.new (faultedRun P f) v := by
  by_cases h : f.pos < (body P).length
  · exact Ready_of_noRen _ _ _ (faultedRun_noRen h)
  · rw [faultedRun_past_end (by omega)]
    exact normalRun_ready P v

theorem execV_keeps_file : ∀ (ss : List Step) (v : View), (∀ s ∈ ss, keepsFile s) →
    v.file.isSome = true → (execV ss v).file.isSome = true
  | [], _, _, h => h
  | s :: r, v, hn, hv =>
    execV_keeps_file r _ (fun x hx => hn x (List.mem_cons_of_mem _ hx)) (hn s List.mem_cons_self v hv)

end PromVerif.Model.Textfile
