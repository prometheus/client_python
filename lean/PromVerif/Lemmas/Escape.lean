/-
Escaping lemmas for C03/C05: `_escape` as a per-character map, `_replace_escaping ∘ _escape = id`, the HELP variants,
and what escaped text cannot contain.  The escape chains are the ones re-extracted from the source (`Generated.Expo`).
-/
import PromVerif.Model.TextExpo
import PromVerif.Model.ParseCore
namespace PromVerif.Lemmas.Escape
open PromVerif.Py PromVerif.Model.Escape PromVerif.Model.ParseCore PromVerif.Generated.Expo

/-- what `_escape` does to one character -/
def escChar (c : Char) : Str :=
  if c = '\\' then ['\\', '\\'] else if c = '\n' then ['\\', 'n'] else if c = '"' then ['\\', '"'] else [c]

theorem escChar_cases (c : Char) :
    (c = '\\' ∧ escChar c = ['\\', '\\']) ∨ (c = '\n' ∧ escChar c = ['\\', 'n']) ∨ (c = '"' ∧ escChar c = ['\\', '"']) ∨
      (c ≠ '\\' ∧ c ≠ '\n' ∧ c ≠ '"' ∧ escChar c = [c]) := by
  unfold escChar
  by_cases h1 : c = '\\'
  · exact Or.inl ⟨h1, if_pos h1⟩
  · by_cases h2 : c = '\n'
    · exact Or.inr (Or.inl ⟨h2, by rw [if_neg h1, if_pos h2]⟩)
    · by_cases h3 : c = '"'
      · exact Or.inr (Or.inr (Or.inl ⟨h3, by rw [if_neg h1, if_neg h2, if_pos h3]⟩))
      · exact Or.inr (Or.inr (Or.inr ⟨h1, h2, h3, by rw [if_neg h1, if_neg h2, if_neg h3]⟩))

theorem escape_eq_flatMap (s : Str) : escape s = s.flatMap escChar := by
  unfold escape applyChain escapeChain
  simp only [List.foldl, replaceChar, List.flatMap_assoc]
  congr 1
  funext c
  unfold escChar
  by_cases h1 : c = '\\'
  · subst h1; decide
  · by_cases h2 : c = '\n'
    · subst h2; decide
    · by_cases h3 : c = '"'
      · subst h3; decide
      · simp [h1, h2, h3]

theorem escape_nil : escape [] = [] := by rw [escape_eq_flatMap]; rfl
theorem escape_cons (c : Char) (s : Str) : escape (c :: s) = escChar c ++ escape s := by
  simp [escape_eq_flatMap]
theorem escape_append (a b : Str) : escape (a ++ b) = escape a ++ escape b := by
  simp [escape_eq_flatMap]

theorem rew_nil (tbl) : replaceEscapingWith tbl [] = [] := by
  rw [replaceEscapingWith]
theorem rew_bs (tbl) (c : Char) (rest : Str) : replaceEscapingWith tbl ('\\' :: c :: rest) =
    match tbl.find? (fun p => p.1 == c) with
    | some p => p.2 :: replaceEscapingWith tbl rest
    | none => '\\' :: replaceEscapingWith tbl (c :: rest) := by
  rw [replaceEscapingWith]; rfl
theorem rew_other (tbl) (c : Char) (rest : Str) (h : c ≠ '\\') : replaceEscapingWith tbl (c :: rest) =
    c :: replaceEscapingWith tbl rest := by
  rw [replaceEscapingWith]
  intro _ _ e _; exact absurd e h

theorem replaceEscaping_escChar (c : Char) (t : Str) : replaceEscaping (escChar c ++ t) = c :: replaceEscaping t := by
  unfold replaceEscaping
  rcases escChar_cases c with ⟨rfl, e⟩ | ⟨rfl, e⟩ | ⟨rfl, e⟩ | ⟨h1, _, _, e⟩ <;> rw [e]
  · exact rew_bs _ _ _
  · exact rew_bs _ _ _
  · exact rew_bs _ _ _
  · exact rew_other _ _ _ h1

/-- **`_replace_escaping(_escape(s)) == s`** for every string -/
theorem unescape_escape (s : Str) : replaceEscaping (escape s) = s := by
  induction s with
  | nil => rw [escape_nil]; exact rew_nil _
  | cons c s ih => rw [escape_cons, replaceEscaping_escChar, ih]

theorem replaceEscapingWith_of_no_bs (tbl) (t : Str) (h : '\\' ∉ t) : replaceEscapingWith tbl t = t := by
  induction t with
  | nil => exact rew_nil _
  | cons c t ih =>
    have hc : c ≠ '\\' := fun e => h (by simp [e])
    have ht : '\\' ∉ t := fun e => h (by simp [e])
    rw [rew_other _ _ _ hc, ih ht]

/-- what the HELP escaping does to one character -/
def escHelpChar (c : Char) : Str :=
  if c = '\\' then ['\\', '\\'] else if c = '\n' then ['\\', 'n'] else [c]

theorem escapeHelp_eq_flatMap (s : Str) : escapeHelp s = s.flatMap escHelpChar := by
  unfold escapeHelp applyChain helpChain
  simp only [List.foldl, replaceChar, List.flatMap_assoc]
  congr 1
  funext c
  unfold escHelpChar
  by_cases h1 : c = '\\'
  · subst h1; decide
  · by_cases h2 : c = '\n'
    · subst h2; decide
    · simp [h1, h2]

theorem escapeHelpTrailing_eq (s : Str) : escapeHelpTrailing s = escapeHelp s := by
  unfold escapeHelpTrailing escapeHelp helpChainTrailing helpChain; rfl

theorem escapeHelp_nil : escapeHelp [] = [] := by rw [escapeHelp_eq_flatMap]; rfl
theorem escapeHelp_cons (c : Char) (s : Str) : escapeHelp (c :: s) = escHelpChar c ++ escapeHelp s := by
  simp [escapeHelp_eq_flatMap]
theorem escapeHelp_append (a b : Str) : escapeHelp (a ++ b) = escapeHelp a ++ escapeHelp b := by
  simp [escapeHelp_eq_flatMap]

theorem replaceHelpEscaping_escHelpChar (c : Char) (t : Str) :
    replaceHelpEscaping (escHelpChar c ++ t) = c :: replaceHelpEscaping t := by
  unfold replaceHelpEscaping escHelpChar
  split
  · next h1 => subst h1; exact rew_bs _ _ _
  · next h1 =>
    split
    · next h2 => subst h2; exact rew_bs _ _ _
    · exact rew_other _ _ _ h1

/-- **`_replace_help_escaping(help_escape(s)) == s`** for every string -/
theorem helpUnescape_helpEscape (s : Str) : replaceHelpEscaping (escapeHelp s) = s := by
  induction s with
  | nil => rw [escapeHelp_nil]; exact rew_nil _
  | cons c s ih => rw [escapeHelp_cons, replaceHelpEscaping_escHelpChar, ih]

theorem newline_not_mem_escChar (c : Char) : '\n' ∉ escChar c := by
  rcases escChar_cases c with ⟨_, e⟩ | ⟨_, e⟩ | ⟨_, e⟩ | ⟨_, h2, _, e⟩ <;> rw [e]
  · decide
  · decide
  · decide
  · exact fun h => h2 (List.mem_singleton.mp h).symm

theorem newline_not_mem_escape (s : Str) : '\n' ∉ escape s := by
  rw [escape_eq_flatMap]
  intro h
  obtain ⟨c, _, hc⟩ := List.mem_flatMap.mp h
  exact newline_not_mem_escChar c hc

theorem newline_not_mem_escapeHelp (s : Str) : '\n' ∉ escapeHelp s := by
  rw [escapeHelp_eq_flatMap]
  intro h
  obtain ⟨c, _, hc⟩ := List.mem_flatMap.mp h
  unfold escHelpChar at hc
  by_cases h1 : c = '\\'
  · subst h1; simp at hc
  · by_cases h2 : c = '\n'
    · subst h2; simp at hc
    · simp [h1, h2] at hc; exact h2 hc.symm

end PromVerif.Lemmas.Escape
