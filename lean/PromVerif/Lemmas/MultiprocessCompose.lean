/-
The input well-formedness predicate of the collector proofs (`WFInput`), one family end to end (`family_eq_spec`), and the
small facts about the spec's functions that the property theorems of `Props/C08.lean` use.
-/
import PromVerif.Lemmas.MultiprocessFamily
import PromVerif.Lemmas.MultiprocessSpec
import PromVerif.Lemmas.MultiprocessLabels

namespace PromVerif.Props.C08
open PromVerif.Py PromVerif.Generated.Multiprocess
open PromVerif.Model.Multiprocess PromVerif.Spec.Multiprocess
set_option autoImplicit false

variable {V B : Type}

/-- what the writer side guarantees about a directory listing (the header of `Props/C08.lean` says which of these are
    genuine restrictions) -/
structure WFInput (bo : BOps B) (fs : List (SFile V)) : Prop where
  files : ∀ f ∈ fs, WFFile f
  one_type : ∀ c ∈ allContribs fs, ∀ c' ∈ allContribs fs, c.key.metric = c'.key.metric → c'.typ = c.typ
  one_mode : ∀ c ∈ allContribs fs, ∀ c' ∈ allContribs fs, c.key.metric = c'.key.metric → c.typ = gaugeType →
    c'.mode = c.mode
  modes : ∀ c ∈ allContribs fs, c.typ = gaugeType → c.mode ∈ gaugeModes
  no_pid_label : ∀ c ∈ allContribs fs, c.typ = gaugeType → ∀ l ∈ c.key.labels, l.1 ≠ pidLabel
  bounds_parse : ∀ c ∈ allContribs fs, c.typ = histogramType → ∀ t, leText c = some t → (bo.parse t).isSome = true
  /-- label names inside one key are pairwise different (the key's labels are a JSON object / Python dict) -/
  label_names : ∀ c ∈ allContribs fs, (c.key.labels.map (·.1)).Nodup

theorem mem_contribs {fs : List (SFile V)} {mn : Str} {c : Contrib V} (h : c ∈ contribs fs mn) :
    c ∈ allContribs fs ∧ c.key.metric = mn := by
  unfold contribs at h
  have := List.mem_filter.mp h
  exact ⟨this.1, by simpa using this.2⟩

theorem kind_hist (mode : Str) : kindOf histogramType mode = .histogram := by
  have h1 : histogramType ≠ "gauge".toList := by rw [← gaugeType_eq]; decide
  unfold kindOf
  rw [if_neg h1, if_pos histogramType_eq]

theorem kind_plain (typ mode : Str) (hg : typ ≠ gaugeType) (hh : typ ≠ histogramType) : kindOf typ mode = .plainSum := by
  unfold kindOf
  rw [if_neg (gaugeType_eq ▸ hg), if_neg (histogramType_eq ▸ hh)]

theorem head_fields {fs : List (SFile V)} {mn : Str} {c : Contrib V} {cs : List (Contrib V)}
    (hc : contribs fs mn = c :: cs) : typOf fs mn = c.typ ∧ helpOf fs mn = c.key.help ∧ modeOf fs mn = c.mode := by
  simp [typOf, helpOf, modeOf, hc]

theorem typOf_eq (bo : BOps B) (fs : List (SFile V)) (hwf : WFInput bo fs) (mn : Str) (c : Contrib V)
    (hc : c ∈ contribs fs mn) : typOf fs mn = c.typ := by
  unfold typOf
  cases hcs : contribs fs mn with
  | nil => rw [hcs] at hc; cases hc
  | cons c0 r =>
    have m0 := mem_contribs (hcs ▸ List.mem_cons_self : c0 ∈ contribs fs mn)
    have m1 := mem_contribs hc
    exact (hwf.one_type c0 m0.1 c m1.1 (m0.2.trans m1.2.symm)).symm

theorem family_eq_spec (vo : VOps V) (bo : BOps B) [DecidableEq B] (fs : List (SFile V)) (h : WFInput bo fs)
    (mn : Str) (c : Contrib V) (cs : List (Contrib V)) (hc : contribs fs mn = c :: cs)
    (hk : c.typ = histogramType → (AL.keys (bucketSeries vo bo mn (contribs fs mn))).Nodup) :
    ∃ m ss, (c :: cs).foldl famStep none = some m ∧ m.name = mn ∧ m.doc = helpOf fs mn ∧ m.typ = typOf fs mn ∧
      accumulateSamples vo bo m = .ok ss ∧ (AL.keys ss).Nodup ∧ ∀ k, AL.get? ss k = value vo bo fs mn k := by
  have hmem : ∀ c' ∈ c :: cs, c' ∈ allContribs fs ∧ c'.key.metric = mn := fun c' hc' => mem_contribs (hc ▸ hc')
  have hc0 := hmem c List.mem_cons_self
  obtain ⟨htyp, hhelp, hmode⟩ := head_fields hc
  have hall : ∀ c' ∈ c :: cs, c'.typ = c.typ := fun c' hc' =>
    (typOf_eq bo fs h mn c' (hc ▸ hc')).symm.trans htyp
  have hty : ∀ c' ∈ cs, c'.typ = c.typ := fun c' hc' => hall c' (List.mem_cons_of_mem _ hc')
  have hmo : c.typ = gaugeType → ∀ c' ∈ cs, c'.mode = c.mode := fun hg c' hc' =>
    h.one_mode c hc0.1 c' (hmem c' (List.mem_cons_of_mem _ hc')).1
      (hc0.2.trans (hmem c' (List.mem_cons_of_mem _ hc')).2.symm) hg
  have hrec := famStep_fold c cs hty hmo
  have main : ∃ ss, accumulateSamples vo bo (⟨c.key.metric, c.key.help, c.typ,
        if c.typ = gaugeType then some c.mode else none, (c :: cs).map toRSample⟩ : Metric V) = .ok ss ∧
      (AL.keys ss).Nodup ∧ ∀ k, AL.get? ss k = value vo bo fs mn k := by
    by_cases hg : c.typ = gaugeType
    · have hm := h.modes c hc0.1 hg
      obtain ⟨ss, h1, h2, h3⟩ := family_gauge vo bo c.key.metric c.key.help c.mode (c :: cs) hm
        (fun c' hc' => (hall c' hc').trans hg)
        (fun c' hc' => h.no_pid_label c' (hmem c' hc').1 ((hall c' hc').trans hg))
      refine ⟨ss, ?_, h2, ?_⟩
      · rw [if_pos hg, hg]; exact h1
      · intro k
        rw [h3 k]
        unfold value
        simp only [hc, htyp, hmode, hg]
        rcases rule_kind c.mode hm with ⟨_, hk⟩ | ⟨_, hk⟩ | ⟨_, hk⟩ | ⟨_, hk⟩ | ⟨_, hk⟩ <;> rw [hk]
    · by_cases hh : c.typ = histogramType
      · have hkk := hk hh
        rw [hc] at hkk
        obtain ⟨ss, h1, h2, h3⟩ := family_hist_get? vo bo mn c.key.help (if c.typ = gaugeType then some c.mode else none)
          (c :: cs) (fun c' hc' => by rw [hall c' hc']; exact hg)
          (fun c' hc' => h.bounds_parse c' (hmem c' hc').1 ((hall c' hc').trans hh)) hkk
        refine ⟨ss, ?_, h2, ?_⟩
        · rw [hc0.2, hh]; exact h1
        · intro k
          rw [h3 k]
          unfold value
          simp only [hc, htyp, hmode, hh, kind_hist]
      · obtain ⟨ss, h1, h2, h3⟩ := family_plain vo bo c.key.metric c.key.help c.typ
          (if c.typ = gaugeType then some c.mode else none) (c :: cs) hg hh
          (fun c' hc' => by rw [hall c' hc']; exact hg)
        refine ⟨ss, h1, h2, ?_⟩
        intro k
        rw [h3 k]
        unfold value
        simp only [hc, htyp, hmode, kind_plain c.typ c.mode hg hh]
  obtain ⟨ss, h1, h2, h3⟩ := main
  exact ⟨_, ss, hrec, hc0.2, hhelp.symm, htyp.symm, h1, h2, h3⟩

theorem mapM_spec {α β γ : Type} (fE : α → PyM β) (Q : α → β → Prop) (g : β → γ) (g' : α → γ) (xs : List α)
    (h : ∀ x ∈ xs, ∃ y, fE x = .ok y ∧ Q x y ∧ g y = g' x) :
    ∃ ys, xs.mapM fE = .ok ys ∧ ys.map g = xs.map g' ∧ ∀ y ∈ ys, ∃ x ∈ xs, Q x y := by
  induction xs with
  | nil => exact ⟨[], rfl, rfl, fun y hy => by cases hy⟩
  | cons x r ih =>
    obtain ⟨y, h1, h2, h3⟩ := h x List.mem_cons_self
    obtain ⟨ys, i1, i2, i3⟩ := ih (fun z hz => h z (List.mem_cons_of_mem _ hz))
    refine ⟨y :: ys, ?_, ?_, ?_⟩
    · rw [List.mapM_cons, h1, i1]; rfl
    · simp [h3, i2]
    · intro z hz
      rcases List.mem_cons.mp hz with e | e
      · exact ⟨x, List.mem_cons_self, e ▸ h2⟩
      · obtain ⟨w, hw, hq⟩ := i3 z e
        exact ⟨w, List.mem_cons_of_mem _ hw, hq⟩

theorem get?_bucketSeries (vo : VOps V) (bo : BOps B) [DecidableEq B] (mn : Str) (cs : List (Contrib V))
    (hk : (AL.keys (bucketSeries vo bo mn cs)).Nodup) (d : List (SKey × V)) (L : Labels)
    (hL : L ∈ groups (bucketContribs bo cs)) (k : SKey) (v : V)
    (h : (k, v) ∈ groupSeries vo bo mn (bucketContribs bo cs) L) :
    AL.get? (AL.setAll d (bucketSeries vo bo mn cs)) k = some v := by
  have hmem : (k, v) ∈ bucketSeries vo bo mn cs := by
    unfold bucketSeries
    exact List.mem_flatMap.mpr ⟨L, hL, h⟩
  rw [AL.get?_setAll _ _ hk, AL.get?_of_mem _ hk k v hmem]

theorem valuesFor_ne_nil (kf : Contrib V → SKey) (cs : List (Contrib V)) (k : SKey) :
    valuesFor kf cs k ≠ [] ↔ ∃ c ∈ cs, kf c = k := by
  simp [valuesFor, List.filter_eq_nil_iff]

theorem mem_bucketContribs (bo : BOps B) (cs : List (Contrib V)) (x : Labels × B × V) (hx : x ∈ bucketContribs bo cs) :
    ∃ c ∈ cs, ∃ t b, leText c = some t ∧ bo.parse t = some b ∧ x = (withoutLe c, b, c.value) := by
  obtain ⟨c, hc, hcx⟩ := List.mem_filterMap.mp hx
  split at hcx
  · next t ht =>
    obtain ⟨b, hb, e⟩ := Option.map_eq_some_iff.mp hcx
    exact ⟨c, hc, t, b, ht, hb, e.symm⟩
  · cases hcx

theorem mem_boundsOf (bo : BOps B) [DecidableEq B] (cs : List (Contrib V)) (L : Labels) (b : B)
    (hb : b ∈ boundsOf (bucketContribs bo cs) L) :
    ∃ c ∈ cs, ∃ t, leText c = some t ∧ bo.parse t = some b ∧ withoutLe c = L := by
  obtain ⟨x, hx, rfl⟩ := List.mem_map.mp ((mem_distinct _ _).mp hb)
  have hxm := List.mem_filter.mp hx
  obtain ⟨c, hc, t, b', ht, hp, e⟩ := mem_bucketContribs bo cs x hxm.1
  have hxL : x.1 = L := by simpa using hxm.2
  exact ⟨c, hc, t, ht, by rw [hp, e], by rw [← hxL, e]⟩

theorem baseName_inj_gauge (f : SFile V) (hf : WFFile f) (m pid : Str) (hm : '_' ∉ m) (hp : '_' ∉ pid) :
    baseName f.typ f.mode f.pid = baseName gaugeType m pid ↔ f.typ = gaugeType ∧ f.mode = m ∧ f.pid = pid := by
  constructor
  · intro h
    have hs := congrArg (splitChar splitSep) h
    rw [split_gauge m pid hm hp] at hs
    by_cases hg : f.typ = gaugeType
    · rw [hg, split_gauge f.mode f.pid hf.mode_sep hf.pid_sep] at hs
      simp only [List.cons.injEq, and_true, true_and] at hs
      exact ⟨hg, hs.1, List.append_cancel_right hs.2⟩
    · rw [split_other f.typ f.mode f.pid hg hf.typ_sep hf.pid_sep] at hs
      simp at hs
  · rintro ⟨h1, h2, h3⟩; rw [h1, h2, h3]

theorem deadName_eq (m pid : Str) : deadName m pid = baseName gaugeType m pid := by
  rw [baseName_gauge]
  simp [deadName, deadNameParts, gaugeType]

theorem liveModes_spec (m : Str) : m ∈ liveModes ↔ m ∈ gaugeModes ∧ "live".toList.isPrefixOf m = true := by
  unfold liveModes
  rw [List.mem_filter]
  rw [livePrefix_eq]

theorem liveModes_no_sep : ∀ m ∈ liveModes, '_' ∉ m := by decide +kernel

theorem dead_pred (f : SFile V) (hf : WFFile f) (pid : Str) (hp : '_' ∉ pid) :
    liveModes.any (fun m => decide ((toFile f).basename = deadName m pid)) = true ↔
      (f.typ = gaugeType ∧ f.mode ∈ liveModes ∧ f.pid = pid) := by
  rw [List.any_eq_true]
  constructor
  · rintro ⟨m, hml, he⟩
    have he' : baseName f.typ f.mode f.pid = deadName m pid := of_decide_eq_true he
    rw [deadName_eq] at he'
    obtain ⟨h1, h2, h3⟩ := (baseName_inj_gauge f hf m pid (liveModes_no_sep m hml) hp).mp he'
    exact ⟨h1, h2 ▸ hml, h3⟩
  · rintro ⟨h1, h2, h3⟩
    refine ⟨f.mode, h2, decide_eq_true ?_⟩
    show baseName f.typ f.mode f.pid = deadName f.mode pid
    rw [deadName_eq, h1, h3]

theorem contribs_perm (fs fs' : List (SFile V)) (h : fs.Perm fs') (mn : Str) : (contribs fs mn).Perm (contribs fs' mn) := by
  unfold contribs allContribs
  exact (List.Perm.flatMap_right _ h).filter _

theorem valuesFor_perm (kf : Contrib V → SKey) (fs fs' : List (SFile V)) (h : fs.Perm fs') (mn : Str) (k : SKey) :
    (valuesFor kf (contribs fs mn) k).Perm (valuesFor kf (contribs fs' mn) k) :=
  ((contribs_perm fs fs' h mn).filter _).map _

theorem sumValue_some (vo : VOps V) (cs : List (Contrib V)) (k : SKey) (r : V) (h : sumValue vo cs k = some r) :
    r = aggSum vo (valuesFor plainKey cs k) := by
  unfold sumValue at h
  cases hv : valuesFor plainKey cs k with
  | nil => rw [hv] at h; cases h
  | cons v vs => rw [hv] at h; exact (Option.some.inj h).symm

theorem typOf_mem (fs : List (SFile V)) (mn t : Str) (h : typOf fs mn = t) (ht : t ≠ []) :
    ∃ c ∈ contribs fs mn, c.typ = t := by
  unfold typOf at h
  cases hc : contribs fs mn with
  | nil => rw [hc] at h; simp at h; exact absurd h ht
  | cons c r => rw [hc] at h; simp at h; exact ⟨c, List.mem_cons_self, h⟩

end PromVerif.Props.C08
