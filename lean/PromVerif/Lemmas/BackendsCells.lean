/-
C12, the in-memory side: `runMutex` is `Metrics.run` on the `front`-ed history (so every theorem of C01 applies), and an
ACCEPTED method call changes the in-memory cells of the child exactly as the value-object calls `cellUpdates` lists
(`upd_cells`) — `MutexValue.inc` is `+=`, `MutexValue.set` is `=`: both back-ends are driven through one interface.
-/
import PromVerif.Model.Backends
import PromVerif.Lemmas.MetricsBasic

namespace PromVerif.Lemmas.Backends
open PromVerif.Py
open PromVerif.Model.Metrics (Val Decl Kind Child Reg Action Addr Out callMethod observeBuckets bucketTakes metricInit)
open PromVerif.Model.Backends
open PromVerif.Lemmas.Metrics (upd)
set_option autoImplicit false

variable {V : Type} [Val V]

theorem runMutexFrom_fst (ds : List (MDecl V)) : ∀ (h : List (Model.Metrics.Op V)) (r : Reg V),
    (runMutexFrom ds r h).1 = (Model.Metrics.run r (h.map (front ds))).1
  | [], _ => rfl
  | op :: ops, r => by
    simp only [runMutexFrom, List.map_cons, Model.Metrics.run, stepMutex]
    exact runMutexFrom_fst ds ops _

theorem runMutex_eq (ds : List (MDecl V)) (h : List (Model.Metrics.Op V)) :
    runMutex ds h = (Model.Metrics.run (Reg.fresh (ds.map (·.decl))) (h.map (front ds))).1 :=
  runMutexFrom_fst ds h _

/-- the four types of the property -/
def Supported (d : MDecl V) : Prop :=
  match d.decl.kind with
  | .counter => True
  | .gauge => True
  | .summary => True
  | .histogram _ => True
  | _ => False

/-- `MutexValue.inc` / `MutexValue.set` on the cell at a position -/
def applyUpd (vs : List V) : CellUpd V → List V
  | .inc pos a => match vs[pos]? with | some v => vs.set pos (Val.add v a) | none => vs
  | .set pos x _ => vs.set pos x

def applyUpds (vs : List V) (us : List (CellUpd V)) : List V := us.foldl applyUpd vs

theorem observeBuckets_eq (a : V) : ∀ (bs cs : List V),
    observeBuckets a bs cs = match firstBucket a bs with
      | some i => (match cs[i]? with | some v => cs.set i (Val.add v Val.one) | none => cs)
      | none => cs
  | [], cs => by cases cs <;> rfl
  | _ :: _, [] => by
    simp only [observeBuckets, firstBucket]
    split <;> simp
  | b :: bs, c :: cs => by
    simp only [observeBuckets, firstBucket]
    by_cases h : bucketTakes a b = true
    · simp [h]
    · simp only [h, Bool.false_eq_true, if_false]
      rw [observeBuckets_eq a bs cs]
      cases hf : firstBucket a bs with
      | none => simp
      | some i =>
        simp only [Option.map_some, List.getElem?_cons_succ]
        cases cs[i]? <;> simp

theorem upd_cells (d : MDecl V) (hs : Supported d) (t : V) (act : Action V) (c : Child V)
    (hok : (callMethod d.decl true act (some c)).2 = .ok) :
    cellValues d (upd d.decl act c) = applyUpds (cellValues d c) (cellUpdates d t act) := by
  have hr := (Lemmas.Metrics.okAct_iff d.decl act).mp (Lemmas.Metrics.okAct_of_ok _ _ _ hok)
  rw [Lemmas.Metrics.upd_eq, hr]
  unfold Supported at hs
  cases hk : d.decl.kind <;> simp only [hk] at hs
  all_goals
    -- per method: `hr` rules out what the class does not have, the rest computes
    cases act <;> simp [Lemmas.Metrics.raises, Lemmas.Metrics.guarded, Lemmas.Metrics.isMethod, hk] at hr
    all_goals simp [Lemmas.Metrics.effect, cellValues, cellUpdates, applyUpds, applyUpd, hk]
  -- `Histogram.observe`: the bucket that takes the amount
  rename_i bs a
  rw [observeBuckets_eq]
  simp only [Kind.bounds]
  cases hf : firstBucket a (bs.map (·.1)) with
  | none => simp
  | some i =>
    simp only [List.foldl_cons, List.foldl_nil, applyUpd, List.getElem?_cons_succ]
    cases c.buckets[i]? <;> simp

end PromVerif.Lemmas.Backends
