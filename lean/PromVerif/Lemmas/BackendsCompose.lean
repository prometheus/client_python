/-
C12, assembly: both normalised collections are unions over (metric, child) of the per-child sets that
`Lemmas/BackendsChild` proves equal.
-/
import PromVerif.Lemmas.BackendsChild

namespace PromVerif.Lemmas.Backends
open PromVerif.Py PromVerif.Generated.Multiprocess
open PromVerif.Model.Metrics (Val Decl Kind Child Action Sample childSamples metricSamples)
open PromVerif.Model.Multiprocess
open PromVerif.Model.Values
open PromVerif.Model.Backends
open PromVerif.Spec.Metrics (Hist)
open PromVerif.Spec.Multiprocess (SFile Contrib value contribs families allContribs)
open PromVerif.Spec.Backends
open PromVerif.Lemmas.Metrics (childOf metricOf RegAbs)
set_option autoImplicit false
set_option linter.unusedSectionVars false

variable {V : Type} [Val V] {B : Type} [DecidableEq B]

theorem metricSamples_flat (d : MDecl V) (h : Hist V) :
    (metricSamples (metricOf d.decl h)).map (fun s => (⟨d.decl.name, s.name, s.labels, s.value⟩ : Flat V))
      = (childList d h).flatMap (inChild d) := by
  unfold metricSamples metricOf childList inChild
  cases hl : d.decl.labelnames.isEmpty with
  | true =>
    have hln : d.decl.labelnames = [] := by simpa using hl
    simp [hln, List.map_map, Function.comp_def]
  | false =>
    simp only [Bool.not_false, if_true, Bool.false_eq_true, if_false, List.map_map, List.flatMap_map]
    rw [List.map_flatMap]
    apply flatMap_congr_mem
    intro kh _
    simp [List.map_map, Function.comp_def]

theorem forall2_length {α β : Type} (P : α → β → Prop) : ∀ (a : List α) (b : List β), Lemmas.Metrics.Forall2 P a b →
    b.length = a.length
  | [], [], _ => rfl
  | _ :: as, _ :: bs, .cons _ h => by simp [forall2_length P as bs h]

theorem history_length (ds : List (MDecl V)) (h : List (Model.Metrics.Op V)) :
    (Spec.Metrics.history (ds.map (·.decl)) (Model.Metrics.accepted (regFresh ds) (h.map (front ds)))).length = ds.length := by
  have := forall2_length _ _ _ (Lemmas.Metrics.run_fresh_abs (ds.map (·.decl)) (h.map (front ds))).ok
  rwa [List.length_map] at this

theorem zip_collect (ds : List (MDecl V)) : ∀ hs : List (Hist V),
    ds.zip (Model.Metrics.collect (List.zipWith metricOf (ds.map (·.decl)) hs))
      = (ds.zip hs).map (fun dh => (dh.1, metricSamples (metricOf dh.1.decl dh.2))) := by
  induction ds with
  | nil => intro hs; rfl
  | cons d ds ih =>
    intro hs
    cases hs with
    | nil => rfl
    | cons h hs =>
      simp only [List.map_cons, List.zipWith_cons_cons, Model.Metrics.collect, List.zip_cons_cons]
      rw [← ih hs]
      rfl

theorem mem_flatMutex (ds : List (MDecl V)) (hs : List (Hist V)) (x : Flat V) :
    x ∈ flatMutex ds (Model.Metrics.collect (List.zipWith metricOf (ds.map (·.decl)) hs)) ↔
      ∃ (i : Nat) (d : MDecl V) (h : Hist V), ds[i]? = some d ∧ hs[i]? = some h ∧
        ∃ ka ∈ childList d h, x ∈ inChild d ka := by
  unfold flatMutex
  rw [zip_collect, List.flatMap_map]
  simp only [metricSamples_flat, List.mem_flatMap]
  constructor
  · rintro ⟨dh, hdh, hx⟩
    obtain ⟨i, h1, h2⟩ := zip_mem_index _ _ dh.1 dh.2 hdh
    exact ⟨i, dh.1, dh.2, h1, h2, hx⟩
  · rintro ⟨i, d, h, hd, hh, hka⟩
    exact ⟨(d, h), zip_getElem_mem _ _ i _ _ hd hh, hka⟩

theorem mem_convert (ss : List (SKey × V)) (s : OutSample V) :
    s ∈ convert ss ↔ ∃ kv ∈ ss, s = ⟨kv.1.1, pyDict kv.1.2, kv.2⟩ := by
  unfold convert
  rw [List.mem_map]
  exact exists_congr (fun kv => and_congr_right (fun _ => eq_comm))

theorem mem_families (fs : List (SFile V)) (mn : Str) : mn ∈ families fs ↔ ∃ c ∈ allContribs fs, c.key.metric = mn := by
  unfold families
  rw [mem_distinct, List.mem_map]

theorem inChild_fam (d : MDecl V) (ka : List Str × List (Action V)) (f : Flat V) (hf : f ∈ inChild d ka) :
    f.fam = d.decl.name := by
  unfold inChild at hf
  obtain ⟨s, _, rfl⟩ := List.mem_map.mp hf
  rfl

theorem mem_flatMp_value (vo : VOps V) (bo : BOps B) (fs : List (SFile V)) (out : List (OutMetric V))
    (hnames : out.map (·.name) = families fs)
    (hfam : ∀ om ∈ out, ∃ ss, om.samples = convert ss ∧ (AL.keys ss).Nodup ∧ ∀ k, AL.get? ss k = value vo bo fs om.name k)
    (x : Flat V) :
    x ∈ flatMp out ↔ ∃ mn ∈ families fs, ∃ k v, value vo bo fs mn k = some v ∧ x = ⟨mn, k.1, pyDict k.2, v⟩ := by
  unfold flatMp
  rw [List.mem_flatMap]
  constructor
  · rintro ⟨om, hom, hx⟩
    obtain ⟨s, hs, rfl⟩ := List.mem_map.mp hx
    obtain ⟨ss, hss, hnd, hval⟩ := hfam om hom
    rw [hss] at hs
    obtain ⟨kv, hkv, rfl⟩ := (mem_convert ss s).mp hs
    exact ⟨om.name, hnames ▸ List.mem_map.mpr ⟨om, hom, rfl⟩, kv.1, kv.2,
      by rw [← hval]; exact AL.get?_of_mem ss hnd kv.1 kv.2 hkv, rfl⟩
  · rintro ⟨mn, hmn, k, v, hv, rfl⟩
    rw [← hnames] at hmn
    obtain ⟨om, hom, rfl⟩ := List.mem_map.mp hmn
    obtain ⟨ss, hss, hnd, hval⟩ := hfam om hom
    refine ⟨om, hom, List.mem_map.mpr ⟨⟨k.1, pyDict k.2, v⟩, ?_, rfl⟩⟩
    rw [hss, mem_convert]
    exact ⟨(k, v), AL.mem_of_get? _ _ _ (by rw [hval]; exact hv), rfl⟩

theorem ChildAgree.ofDecl {bo : BOps B} {Bs : List B} {d : MDecl V} {ns : Str → Labels → Bool} {pid : Str}
    {disk : List (Str × Store V)} {ka : List Str × List (Action V)} (key : ChildAgree bo Bs d ns pid disk ka)
    {ds : List (MDecl V)} (hdecl : declOf ds d.decl.name = some d) (kv : SKey × V) :
    (∃ x ∈ mpChild bo Bs d pid disk ka, normOne ds ns (mpFlat d x) = some kv) ↔
      (∃ f ∈ inChild d ka, normOne ds ns f = some kv) := by
  have hN : ∀ x : Flat V, x.fam = d.decl.name → normOne ds ns x = normD d ns x.name x.labels x.value :=
    fun x hx => normOne_known ds _ d x hx hdecl
  refine Iff.trans ?_ ((key kv).trans ?_)
  · exact exists_congr (fun x => and_congr_right (fun _ => by rw [hN _ rfl]))
  · exact exists_congr (fun f => and_congr_right (fun hf => by rw [hN f (inChild_fam d ka f hf)]))

section coupled
variable (bo : BOps B) (ds : List (MDecl V)) (bsOf : MDecl V → List B) (hwf : WFAllB bo ds bsOf)
    (hF14 : ∀ d ∈ ds, ∀ bs, d.decl.kind = Kind.histogram bs → Model.Metrics.sumExposed (bs.map (·.1)) = true)
    (hz : ∀ a : V, Val.add Val.zero a = a) (hlt : Val.lt (Val.zero : V) Val.zero = false)
    (pid : Str) (hpid : '_' ∉ pid) (hs : List (Hist V)) (ps : List Params) (st : St V)
    (hc : Core ds pid hs ps st) (hlen : hs.length = ds.length)
include hwf hc hlen

theorem mem_families_decl (mn : Str) :
    mn ∈ families (sfilesOf ps pid st) ↔
      ∃ (i : Nat) (d : MDecl V) (h : Hist V), ds[i]? = some d ∧ hs[i]? = some h ∧ mn = d.decl.name ∧
        expContribs d pid st.disk h ≠ [] := by
  rw [mem_families]
  constructor
  · rintro ⟨c, hcm, rfl⟩
    obtain ⟨i, d, h, hd, hh, hmet, hin⟩ := contrib_origin ds hwf.toWFAll pid hs ps st hc hlen c hcm
    exact ⟨i, d, h, hd, hh, hmet, List.ne_nil_of_mem hin⟩
  · rintro ⟨i, d, h, hd, hh, rfl, hne⟩
    obtain ⟨c, hin⟩ := List.exists_mem_of_ne_nil _ hne
    rw [← contribs_eq ds hwf.toWFAll pid hs ps st hc hlen i d h hd hh] at hin
    exact ⟨c, PromVerif.Props.C08.mem_contribs hin⟩

include hpid

theorem families_meta :
    ∃ out, mpCollect bo st = .ok out ∧ (out.map (·.name)).Nodup ∧
      (∀ om ∈ out, ∃ d ∈ ds, om.name = d.decl.name ∧ om.typ = typStr d.decl.kind ∧ om.doc = d.help) ∧
      (∀ (i : Nat) (d : MDecl V) (h : Hist V), ds[i]? = some d → hs[i]? = some h → childList d h ≠ [] →
        ∃ om ∈ out, om.name = d.decl.name) := by
  obtain ⟨out, hm, hnames, hnd, hfam⟩ := PromVerif.Props.C08.accumulate_eq_dict (voOf V) bo (sfilesOf ps pid st)
    (wfinput bo ds bsOf hwf pid hpid hs ps st hc hlen) (hk_input bo ds bsOf hwf pid hs ps st hc hlen)
  refine ⟨out, by unfold mpCollect; rw [files_eq pid ps st hc.vinv hc.psEq]; exact hm, by rw [hnames]; exact hnd, ?_, ?_⟩
  · intro om hom
    obtain ⟨hdoc, htyp, _⟩ := hfam om hom
    obtain ⟨i, d, h, hd, hh, hname, hne⟩ := (mem_families_decl bo ds bsOf hwf pid hs ps st hc hlen om.name).mp
      (hnames ▸ List.mem_map.mpr ⟨om, hom, rfl⟩)
    obtain ⟨ht, _, hh'⟩ := typOf_exp d pid st.disk h _ (contribs_eq ds hwf.toWFAll pid hs ps st hc hlen i d h hd hh) hne
    exact ⟨d, List.mem_of_getElem? hd, hname, by rw [htyp, hname]; exact ht, by rw [hdoc, hname]; exact hh'⟩
  · intro i d h hd hh hcl
    obtain ⟨ka, hka⟩ := List.exists_mem_of_ne_nil _ hcl
    have hfm := (mem_families_decl bo ds bsOf hwf pid hs ps st hc hlen _).mpr ⟨i, d, h, hd, hh, rfl,
      expContribs_ne_nil d pid st.disk h (hwf.decls d (List.mem_of_getElem? hd)).wf.sup ka hka⟩
    rw [← hnames] at hfm
    obtain ⟨om, hom, hname⟩ := List.mem_map.mp hfm
    exact ⟨om, hom, hname⟩

include hF14 hz hlt

theorem compose :
    ∃ out, mpCollect bo st = .ok out ∧
      ∀ kv, kv ∈ normalise ds (neverSet ds hs) (flatMp out) ↔
        kv ∈ normalise ds (neverSet ds hs)
          (flatMutex ds (Model.Metrics.collect (List.zipWith metricOf (ds.map (·.decl)) hs))) := by
  obtain ⟨out, hm, hnames, _, hfam⟩ := PromVerif.Props.C08.accumulate_eq_dict (voOf V) bo (sfilesOf ps pid st)
    (wfinput bo ds bsOf hwf pid hpid hs ps st hc hlen) (hk_input bo ds bsOf hwf pid hs ps st hc hlen)
  refine ⟨out, by unfold mpCollect; rw [files_eq pid ps st hc.vinv hc.psEq]; exact hm, ?_⟩
  have hchild : ∀ (i : Nat) (d : MDecl V) (h : Hist V), ds[i]? = some d → hs[i]? = some h → ∀ ka ∈ childList d h,
      ChildAgree bo (bsOf d) d (neverSet ds hs) pid st.disk ka := by
    intro i d h hd hh ka hka
    have hdm : d ∈ ds := List.mem_of_getElem? hd
    have hwd := hwf.decls d hdm
    have hmc := hc.metric i d h hd hh
    exact child_norm bo (bsOf d) d (neverSet ds hs) pid st.disk ka hz (hmc.cells ka hka) hwd (hwf.noPid d hdm) (hF14 d hdm) hlt
      (fun _ => neverSet_eq ds hs hwf.names i d h hd hh hwd.wf.lnNodup hmc.childKeys ka hka)
      (fun hmr p hp => hmc.tsok hmr ka hka p hp)
  have hdecl := fun i d (hd : ds[i]? = some d) => declOf_self ds d hwf.names (List.mem_of_getElem? hd)
  -- the multiprocess collection as a union over (metric, child), like `mem_flatMutex`
  have hmp : ∀ x : Flat V, x ∈ flatMp out ↔
      ∃ (i : Nat) (d : MDecl V) (h : Hist V), ds[i]? = some d ∧ hs[i]? = some h ∧
        ∃ ka ∈ childList d h, ∃ y ∈ mpChild bo (bsOf d) d pid st.disk ka, x = mpFlat d y := by
    intro x
    have hfv := fun i d h (hd : ds[i]? = some d) (hh : hs[i]? = some h) =>
      family_value bo (bsOf d) d (hwf.decls d (List.mem_of_getElem? hd)) _ pid st.disk h
        (contribs_eq ds hwf.toWFAll pid hs ps st hc hlen i d h hd hh) (hc.metric i d h hd hh).childKeys
    rw [mem_flatMp_value (voOf V) bo _ out hnames (fun om hom => (hfam om hom).2.2)]
    constructor
    · rintro ⟨mn, hmn, k, v, hv, rfl⟩
      obtain ⟨i, d, h, hd, hh, rfl, _⟩ := (mem_families_decl bo ds bsOf hwf pid hs ps st hc hlen mn).mp hmn
      obtain ⟨ka, hka, hmem⟩ := (hfv i d h hd hh k v).mp hv
      exact ⟨i, d, h, hd, hh, ka, hka, (k, v), hmem, rfl⟩
    · rintro ⟨i, d, h, hd, hh, ka, hka, y, hy, rfl⟩
      have hne := expContribs_ne_nil d pid st.disk h (hwf.decls d (List.mem_of_getElem? hd)).wf.sup ka hka
      exact ⟨d.decl.name, (mem_families_decl bo ds bsOf hwf pid hs ps st hc hlen _).mpr ⟨i, d, h, hd, hh, rfl, hne⟩, y.1, y.2,
        (hfv i d h hd hh y.1 y.2).mpr ⟨ka, hka, hy⟩, rfl⟩
  intro kv
  unfold normalise
  rw [List.mem_filterMap, List.mem_filterMap]
  constructor
  · rintro ⟨x, hx, hn⟩
    obtain ⟨i, d, h, hd, hh, ka, hka, y, hy, rfl⟩ := (hmp x).mp hx
    obtain ⟨f, hf, hn'⟩ := ((hchild i d h hd hh ka hka).ofDecl (hdecl i d hd) kv).mp ⟨y, hy, hn⟩
    exact ⟨f, (mem_flatMutex ds hs f).mpr ⟨i, d, h, hd, hh, ka, hka, hf⟩, hn'⟩
  · rintro ⟨f, hf, hn⟩
    obtain ⟨i, d, h, hd, hh, ka, hka, hf'⟩ := (mem_flatMutex ds hs f).mp hf
    obtain ⟨y, hy, hn'⟩ := ((hchild i d h hd hh ka hka).ofDecl (hdecl i d hd) kv).mpr ⟨f, hf', hn⟩
    exact ⟨mpFlat d y, (hmp _).mpr ⟨i, d, h, hd, hh, ka, hka, y, hy, rfl⟩, hn'⟩

end coupled

end PromVerif.Lemmas.Backends
