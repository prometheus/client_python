/-
The label block of the C03 round trip.  First the building blocks: what the legacy name alphabets cannot contain,
backslash-run parity, the closing-quote search of `parse_labels`, `_unquote_unescape` on rendered tokens.  Then:
`parse_labels` applied to what `sample_line` renders for a label dict gives the dict back (sorted by key), for every
label value, bare or quoted label names and any number of labels.
-/
import PromVerif.Lemmas.ParseCoreTotal
import PromVerif.Lemmas.Scanner
import PromVerif.Lemmas.GatewaySort
import PromVerif.Model.TextExpo

namespace PromVerif.Lemmas.TextParse
open PromVerif.Py PromVerif.Model.Escape PromVerif.Model.ParseCore PromVerif.Model.Validation PromVerif.Model.TextExpo
open PromVerif.Generated.Validation PromVerif.Lemmas.Escape PromVerif.Lemmas.Scanner

-- `sorted(labels.items())` is a permutation of the dict: proved with the sorting facts, reachable from here under the
-- names the label and sample lemmas use
export PromVerif.Lemmas.GatewaySort (insertByKey_perm sortByKey_perm)

/-- a character of the legacy metric-name alphabet `[a-zA-Z0-9_:]` -/
def isLegacyChar (c : Char) : Bool := inClass metricNameRe.rest c

theorem legacyChar_range {c : Char} (h : isLegacyChar c = true) :
    (97 ≤ c.toNat ∧ c.toNat ≤ 122) ∨ (65 ≤ c.toNat ∧ c.toNat ≤ 90) ∨ (48 ≤ c.toNat ∧ c.toNat ≤ 57) ∨
      c.toNat = 95 ∨ c.toNat = 58 := by
  obtain ⟨r, hr, hrc⟩ := List.any_eq_true.mp h
  simp only [Bool.and_eq_true, decide_eq_true_eq] at hrc
  simp only [metricNameRe, List.mem_cons, List.not_mem_nil, or_false] at hr
  rcases hr with rfl | rfl | rfl | rfl | rfl
  · exact Or.inl hrc
  · exact Or.inr (Or.inl hrc)
  · exact Or.inr (Or.inr (Or.inl hrc))
  · exact Or.inr (Or.inr (Or.inr (Or.inl (Nat.le_antisymm hrc.2 hrc.1))))
  · exact Or.inr (Or.inr (Or.inr (Or.inr (Nat.le_antisymm hrc.2 hrc.1))))

theorem legacyChar_not_space {c : Char} (h : isLegacyChar c = true) : isPySpace c = false := by
  have := legacyChar_range h
  exact not_space_of_range (by omega) (by omega)

theorem legacyChar_ne {c d : Char} (h : isLegacyChar c = true) (hd : isLegacyChar d = false) : c ≠ d := by
  intro e; subst e; rw [h] at hd; exact absurd hd (by decide)

theorem inClass_mono {cls cls' : List (Char × Char)} (h : ∀ r ∈ cls, r ∈ cls') {c : Char} (hc : inClass cls c = true) :
    inClass cls' c = true := by
  obtain ⟨r, hr, hrc⟩ := List.any_eq_true.mp hc
  exact List.any_eq_true.mpr ⟨r, h r hr, hrc⟩

theorem matchExact_metric_chars {s : Str} (h : matchExact metricNameRe s = true) :
    s ≠ [] ∧ ∀ c ∈ s, isLegacyChar c = true := by
  cases s with
  | nil => simp [matchExact] at h
  | cons c cs =>
    simp only [matchExact, Bool.and_eq_true, List.all_eq_true] at h
    refine ⟨by simp, ?_⟩
    intro d hd
    rcases List.mem_cons.mp hd with e | e
    · subst e; exact inClass_mono (by decide) h.1
    · exact h.2 d e

theorem matchExact_label_metric {s : Str} (h : matchExact labelNameRe s = true) : matchExact metricNameRe s = true := by
  cases s with
  | nil => simp [matchExact] at h
  | cons c cs =>
    simp only [matchExact, Bool.and_eq_true, List.all_eq_true] at h ⊢
    exact ⟨inClass_mono (by decide) h.1, fun d hd => inClass_mono (by decide) (h.2 d hd)⟩

/-- without a trailing line feed, `re.match` with `$` is an exact match (this is where F2 is excluded) -/
theorem matchName_exact {re : NameRe} {full : Bool} {s : Str} (h : matchName re full s = true)
    (hn : s.getLast? ≠ some '\n') : matchExact re s = true := by
  unfold matchName at h
  rw [Bool.or_eq_true] at h
  rcases h with h | h
  · exact h
  · rw [Bool.and_eq_true] at h
    have h2 := h.2
    split at h2
    · next e => exact absurd e hn
    · exact absurd h2 (by decide)

/-- with the end anchor `\\Z` (F2 repaired) `re.match` is an exact match -/
theorem matchName_exact_of_fixed {re : NameRe} {full : Bool} {s : Str} (hd : re.dollar = false)
    (h : matchName re full s = true) : matchExact re s = true := by
  unfold matchName at h
  simpa [hd] using h

theorem matchExact_no_newline {n : Str} (hm : matchExact metricNameRe n = true) : n.getLast? ≠ some '\n' :=
  fun hl => legacyChar_ne ((matchExact_metric_chars hm).2 _ (List.mem_of_getLast? hl)) (by decide) rfl

/-- **F2 is repaired in the tree the proofs are checked against**: a name the legacy metric pattern accepts does not end
in a line feed (this proof breaks if the pattern goes back to `$`) -/
theorem legacyMetric_no_newline {n : Str} (hv : isValidLegacyMetricName n = true) : n.getLast? ≠ some '\n' :=
  matchExact_no_newline (matchName_exact_of_fixed rfl hv)

theorem legacyLabel_no_newline {k : Str} (hv : isValidLegacyLabelname k = true) : k.getLast? ≠ some '\n' := by
  unfold isValidLegacyLabelname at hv
  rw [Bool.and_eq_true] at hv
  exact matchExact_no_newline (matchExact_label_metric (matchName_exact_of_fixed rfl hv.1))

theorem matchExact_matchName {re : NameRe} {full : Bool} {s : Str} (h : matchExact re s = true) :
    matchName re full s = true := by
  unfold matchName; simp [h]

/-- parity of the run of backslashes at the end of `s` -/
def trailOdd (s : Str) : Bool := s.foldl bsStep false

theorem trailOdd_append (a b : Str) : trailOdd (a ++ b) = b.foldl bsStep (trailOdd a) :=
  List.foldl_append

theorem trailOdd_append_singleton (s : Str) (c : Char) : trailOdd (s ++ [c]) = bsStep (trailOdd s) c :=
  trailOdd_append s [c]

theorem isCharacterEscaped_eq (s : Str) : isCharacterEscaped s s.length = trailOdd s := by
  unfold isCharacterEscaped
  rw [List.take_length]
  suffices h : ∀ r : Str, ((r.takeWhile (· == '\\')).length % 2 == 1) = trailOdd r.reverse by
    have := h s.reverse
    rwa [List.reverse_reverse] at this
  intro r
  induction r with
  | nil => rfl
  | cons c cs ih =>
    rw [List.reverse_cons, trailOdd_append_singleton, ← ih]
    simp only [List.takeWhile_cons, bsStep]
    by_cases hc : (c == '\\') = true
    · simp only [hc, ↓reduceIte, List.length_cons]
      generalize (List.takeWhile (fun x => x == '\\') cs).length = n
      cases h : n % 2 == 1 <;> simp at h ⊢ <;> omega
    · simp [hc]

theorem foldl_bsStep_eq (pre : Str) : pre.foldl bsStep false = trailOdd pre := rfl

theorem split_first {c : Char} {a : Str} (h : c ∈ a) : ∃ x y, a = x ++ c :: y ∧ c ∉ x :=
  List.eq_append_cons_of_mem h

/-- one round of the `term.index('"', i)` loop, started after `pre`, when the next quote comes after `x` -/
theorem findClosingQuote_step (pre x rest : Str) (f : Nat) (hx : '"' ∉ x) :
    findClosingQuote (pre ++ x ++ '"' :: rest) (f + 1) pre.length =
      if !trailOdd (pre ++ x) then some (pre.length + x.length)
      else findClosingQuote (pre ++ x ++ '"' :: rest) f (pre.length + x.length + 1) := by
  have hlt : pre.length < (pre ++ x ++ '"' :: rest).length := by simp; omega
  have hdrop : (pre ++ x ++ '"' :: rest).drop pre.length = x ++ '"' :: rest := by
    rw [List.append_assoc, List.drop_left]
  have htake : (pre ++ x ++ '"' :: rest).take (pre.length + x.length) = pre ++ x := by
    rw [← List.length_append]; exact List.take_left
  rw [findClosingQuote]
  simp only [hlt, ↓reduceIte, hdrop, findChar_append_of_not_mem hx]
  rw [htake, ← List.length_append, isCharacterEscaped_eq]

/-- the loop finds the first quote that is not escaped; that every quote of `a` is escaped is said through the scanner:
inside quotes after `pre`, it reports no quote in `a` -/
theorem findClosingQuote_spec (b : Str) : ∀ (fuel : Nat) (pre a : Str),
    noHit (· == '"') a true (trailOdd pre) = true → trailOdd (pre ++ a) = false → a.length < fuel →
    findClosingQuote (pre ++ a ++ '"' :: b) fuel pre.length = some (pre.length + a.length) := by
  intro fuel
  induction fuel with
  | zero => intro pre a _ _ h; omega
  | succ f ih =>
    intro pre a hq hodd hf
    by_cases hmem : '"' ∈ a
    · obtain ⟨x, y, rfl, hx⟩ := split_first hmem
      rw [noHit_append, run_fst_of_not_mem hx, run_snd, ← trailOdd_append, Bool.and_eq_true] at hq
      have hq2 := hq.2
      -- the quote after `x` is not reported, so the backslash run in front of it is odd
      have hodd1 : trailOdd (pre ++ x) = true := by
        cases ho : trailOdd (pre ++ x) with
        | true => rfl
        | false => rw [ho] at hq2; exact absurd hq2 (by simp [noHit, qStep])
      rw [hodd1] at hq2
      have hterm : pre ++ (x ++ '"' :: y) ++ '"' :: b = pre ++ x ++ '"' :: (y ++ '"' :: b) := by simp
      rw [hterm, findClosingQuote_step _ _ _ _ hx, hodd1]
      have hterm' : pre ++ x ++ '"' :: (y ++ '"' :: b) = (pre ++ x ++ ['"']) ++ y ++ '"' :: b := by simp
      have hlen : pre.length + x.length + 1 = (pre ++ x ++ ['"']).length := by simp; omega
      simp only [Bool.not_true, Bool.false_eq_true, ↓reduceIte]
      rw [hterm', hlen, ih (pre ++ x ++ ['"']) y]
      · simp; omega
      · rw [trailOdd_append_singleton, hodd1]; exact hq2
      · rw [← hodd]; congr 1; simp
      · simp at hf; omega
    · rw [findClosingQuote_step _ _ _ _ hmem, hodd]
      rfl

theorem getLast?_cons_concat (m : List Char) (c d : Char) : (c :: (m ++ [d])).getLast? = some d :=
  List.getLast?_concat (l := c :: m)

theorem quote_not_space : isPySpace '"' = false := by decide

theorem strip_quoted (m : Str) : strip ('"' :: (m ++ ['"'])) = '"' :: (m ++ ['"']) :=
  strip_eq_self (a := '"') (b := '"') rfl quote_not_space (getLast?_cons_concat _ _ _) quote_not_space

/-- `_unquote_unescape('"' + _escape(v) + '"') == (v, True)` -/
theorem unquoteUnescape_quoted (v : Str) : unquoteUnescape ('"' :: (escape v ++ ['"'])) = .ok (v, true) := by
  unfold unquoteUnescape
  simp only [List.isEmpty_cons, Bool.false_eq_true, ↓reduceIte, strip_quoted]
  have h1 : (('"' :: (escape v ++ ['"'])).length == 1) = false := by simp
  have h2 : (('"' :: (escape v ++ ['"'])).getLast? != some '"') = false := by rw [getLast?_cons_concat]; rfl
  simp only [h1, h2, Bool.or_self, Bool.false_eq_true, ↓reduceIte]
  have h3 : (List.drop 1 ('"' :: (escape v ++ ['"']))).dropLast = escape v := by simp
  rw [h3]
  split
  · rw [unescape_escape]
  · next hc =>
    -- without a backslash `_replace_escaping` changes nothing
    have u := unescape_escape v
    unfold replaceEscaping at u
    rw [replaceEscapingWith_of_no_bs _ _ (by simpa using hc)] at u
    rw [u]

theorem strip_legacy {k : Str} (h : ∀ c ∈ k, isLegacyChar c = true) : strip k = k :=
  strip_of_not_space (fun c hc => legacyChar_not_space (h c hc))

/-- `_unquote_unescape(k) == (k, False)` for a bare legacy name -/
theorem unquoteUnescape_bare {k : Str} (hne : k ≠ []) (h : ∀ c ∈ k, isLegacyChar c = true) :
    unquoteUnescape k = .ok (k, false) := by
  unfold unquoteUnescape
  have he : k.isEmpty = false := List.isEmpty_eq_false_iff.mpr hne
  simp only [he, Bool.false_eq_true, ↓reduceIte, strip_legacy h]
  cases k with
  | nil => exact absurd rfl hne
  | cons c cs =>
    have hq : c ≠ '"' := legacyChar_ne (h c (by simp)) (by decide)
    have hb : (c :: cs).contains '\\' = false := by
      simpa using fun hm : '\\' ∈ c :: cs => legacyChar_ne (h _ hm) (by decide) rfl
    split
    · rename_i e; simp at e
    · rename_i e; simp at e; exact absurd e.1 hq
    · simp only [hb, Bool.false_eq_true, ↓reduceIte]

def isOk {α : Type} : PyM α → Bool
  | .ok _ => true
  | .error _ => false

theorem isOk_unit {r : PyM Unit} (h : isOk r = true) : r = .ok () := by
  cases r with
  | ok u => rfl
  | error e => simp [isOk] at h

/-- a label name accepted by the library's own `_validate_labelname` -/
def labelNameOK (legacy : Bool) (k : Str) : Bool := isOk (validateLabelname legacy k)

/-- the label dicts the round trip is stated for: every name accepted by `_validate_labelname` (which excludes
`__name__` and all `__…` names), keys unique (a dict) -/
def LabelsOK (legacy : Bool) (ls : List (Str × Str)) : Prop :=
  (∀ kv ∈ ls, labelNameOK legacy kv.1 = true) ∧ (ls.map (·.1)).Nodup

instance (legacy : Bool) (ls : List (Str × Str)) : Decidable (LabelsOK legacy ls) := by
  unfold LabelsOK; infer_instance

theorem labelsOK_sortByKey {legacy : Bool} {ls : List (Str × Str)} (h : LabelsOK legacy ls) : LabelsOK legacy (sortByKey ls) :=
  ⟨fun x hx => h.1 x ((sortByKey_perm ls).mem_iff.mp hx), ((sortByKey_perm ls).map _).nodup_iff.mpr h.2⟩

/-- wanted sets that contain neither the quote nor a legacy name character -/
structure NameSafe (chs : Char → Bool) : Prop where
  quote : chs '"' = false
  legacy : ∀ c, isLegacyChar c = true → chs c = false

theorem nameSafe_eq (d : Char) (hq : d ≠ '"') (hl : isLegacyChar d = false) : NameSafe (· == d) :=
  ⟨by simpa using Ne.symm hq, fun c hc => by simpa using legacyChar_ne hc hl⟩

theorem nameTok_cases {legacy : Bool} {k : Str} (h : labelNameOK legacy k = true) :
    (escapeLabelName k = k ∧ k ≠ [] ∧ (∀ c ∈ k, isLegacyChar c = true) ∧ matchExact labelNameRe k = true) ∨
    (escapeLabelName k = '"' :: (escape k ++ ['"'])) := by
  unfold escapeLabelName
  by_cases hv : isValidLegacyLabelname k = true
  · left
    simp only [hv, ↓reduceIte, true_and]
    unfold isValidLegacyLabelname at hv
    rw [Bool.and_eq_true] at hv
    have hm := matchName_exact_of_fixed rfl hv.1
    have hc := matchExact_metric_chars (matchExact_label_metric hm)
    exact ⟨hc.1, hc.2, hm⟩
  · right
    simp [hv]

theorem validateLabelname_not_name (legacy : Bool) : isOk (validateLabelname legacy "__name__".toList) = false := by
  -- a literal is `String.ofList […]` for the unifier; left as it is, evaluation would decode its UTF-8 bytes
  rw [String.toList_ofList]
  cases legacy <;> decide +kernel

theorem labelNameOK_ne_name {legacy : Bool} {k : Str} (h : labelNameOK legacy k = true) : k ≠ "__name__".toList := by
  intro e
  subst e
  unfold labelNameOK at h
  rw [validateLabelname_not_name] at h
  simp at h

theorem labelNameOK_validate {legacy : Bool} {k : Str} (h : labelNameOK legacy k = true) :
    validateLabelname legacy k = .ok () :=
  isOk_unit h

/-- the scanner passes the string from the unquoted state back to the unquoted state without reporting -/
def Pass (chs : Char → Bool) (s : Str) : Prop := noHit chs s false false = true ∧ run s false false = (false, false)

/-- text the scanner passes because it has no quote, no backslash and no wanted character -/
def PlainFor (chs : Char → Bool) (s : Str) : Prop := ∀ c ∈ s, c ≠ '"' ∧ c ≠ '\\' ∧ chs c = false

section
variable {chs : Char → Bool}

theorem pass_append {a b : Str} (ha : Pass chs a) (hb : Pass chs b) : Pass chs (a ++ b) := by
  refine ⟨?_, ?_⟩
  · rw [noHit_append, ha.1, ha.2]; simpa using hb.1
  · rw [run_append, ha.2]; exact hb.2

theorem pass_char {c : Char} (hq : c ≠ '"') (hb : c ≠ '\\') (hc : chs c = false) : Pass chs [c] :=
  plain_pass chs [c] (fun d hd => by rw [List.mem_singleton.mp hd]; exact ⟨hq, hb, hc⟩)

theorem pass_plain {s : Str} (h : PlainFor chs s) : Pass chs s := plain_pass chs s h

theorem plainFor_append {a b : Str} (ha : PlainFor chs a) (hb : PlainFor chs b) : PlainFor chs (a ++ b) := by
  intro c hc
  rcases List.mem_append.mp hc with h | h
  · exact ha c h
  · exact hb c h

theorem plainFor_legacy (hl : ∀ c, isLegacyChar c = true → chs c = false) {n : Str}
    (hc : ∀ c ∈ n, isLegacyChar c = true) : PlainFor chs n :=
  fun c hm => ⟨legacyChar_ne (hc c hm) (by decide), legacyChar_ne (hc c hm) (by decide), hl c (hc c hm)⟩

theorem scan_pass_hit {p : Str} (hp : Pass chs p) (c : Char) (t : Str) (hq : c ≠ '"') (hc : chs c = true) :
    nextUnquotedChar (p ++ c :: t) chs = some p.length := by
  rw [nextUnquotedChar_zero, scan_append_of_noHit _ _ _ _ _ hp.1, hp.2, scan_hit chs c t false hq hc]
  simp

theorem scan_pass_none {p : Str} (hp : Pass chs p) : nextUnquotedChar p chs = none :=
  scan_none_of_noHit chs p false false hp.1

theorem nameTok_pass (hs : NameSafe chs) {legacy : Bool} {k : Str} (h : labelNameOK legacy k = true) :
    Pass chs (escapeLabelName k) := by
  rcases nameTok_cases h with ⟨e, _, hc, _⟩ | e
  · rw [e]
    exact pass_plain (plainFor_legacy hs.legacy hc)
  · rw [e]
    exact quoted_pass chs hs.quote k

theorem labelItem_eq (kv : Str × Str) :
    labelItem kv = escapeLabelName kv.1 ++ ('=' :: ('"' :: (escape kv.2 ++ ['"']))) := by
  simp [labelItem]

theorem item_pass (hs : NameSafe chs) (he : chs '=' = false) {legacy : Bool} {kv : Str × Str}
    (h : labelNameOK legacy kv.1 = true) :
    Pass chs (labelItem kv) := by
  rw [labelItem_eq]
  exact pass_append (nameTok_pass hs h)
    (pass_append (a := ['=']) (pass_char (by decide) (by decide) he) (quoted_pass chs hs.quote kv.2))

/-- `,item,item…` -/
def tailStr (l : List (Str × Str)) : Str := l.flatMap (fun kv => ',' :: labelItem kv)

theorem tailStr_cons (kv : Str × Str) (l : List (Str × Str)) : tailStr (kv :: l) = ',' :: (labelItem kv ++ tailStr l) := by
  simp [tailStr]

theorem joinStr_comma (x : Str) (xs : List Str) : joinStr [','] (x :: xs) = x ++ xs.flatMap (fun y => ',' :: y) := by
  induction xs generalizing x with
  | nil => simp [joinStr]
  | cons y ys ih => rw [joinStr, ih]; simp; simp

theorem labelStr_of_sorted {ls : List (Str × Str)} {kv : Str × Str} {r : List (Str × Str)} (h : sortByKey ls = kv :: r) :
    labelStr ls = labelItem kv ++ tailStr r := by
  unfold labelStr
  rw [h, List.map_cons, joinStr_comma]
  simp [tailStr, List.flatMap_map]

theorem tail_pass (hs : NameSafe chs) (he : chs '=' = false) (hc : chs ',' = false) {legacy : Bool}
    (l : List (Str × Str)) (h : ∀ kv ∈ l, labelNameOK legacy kv.1 = true) :
    Pass chs (tailStr l) := by
  induction l with
  | nil => exact ⟨rfl, rfl⟩
  | cons kv r ih =>
    rw [tailStr_cons]
    exact pass_append (a := [',']) (pass_char (by decide) (by decide) hc)
      (pass_append (item_pass hs he (h kv (by simp))) (ih (fun x hx => h x (by simp [hx]))))

end

theorem comma_not_space : isPySpace ',' = false := by decide

theorem item_last (kv : Str × Str) : (labelItem kv).getLast? = some '"' := by
  rw [labelItem_eq, List.getLast?_eq_some_iff]
  exact ⟨escapeLabelName kv.1 ++ ('=' :: '"' :: escape kv.2), by simp⟩

theorem item_head {legacy : Bool} {kv : Str × Str} (h : labelNameOK legacy kv.1 = true) :
    ∃ a t, labelItem kv = a :: t ∧ a ≠ ',' ∧ isPySpace a = false := by
  rw [labelItem_eq]
  rcases nameTok_cases h with ⟨e, hne, hc, _⟩ | e
  · rw [e]
    cases hk : kv.1 with
    | nil => exact absurd hk hne
    | cons c cs =>
      have hl := hc c (by rw [hk]; simp)
      exact ⟨c, _, rfl, legacyChar_ne hl (by decide), legacyChar_not_space hl⟩
  · rw [e]
    exact ⟨'"', _, rfl, by decide, by decide⟩

theorem strip_item {legacy : Bool} {kv : Str × Str} (h : labelNameOK legacy kv.1 = true) : strip (labelItem kv) = labelItem kv := by
  obtain ⟨a, t, e, _, hs⟩ := item_head h
  exact strip_eq_self (a := a) (b := '"') (by rw [e]; rfl) hs (item_last kv) (by decide)

theorem tail_last (l : List (Str × Str)) (h : l ≠ []) : (tailStr l).getLast? = some '"' := by
  induction l with
  | nil => exact absurd rfl h
  | cons kv r ih =>
    rw [tailStr_cons, ← List.cons_append, List.getLast?_append]
    cases r with
    | nil => rw [List.getLast?_cons, item_last]; rfl
    | cons kv' r' => rw [ih (List.cons_ne_nil _ _)]; rfl

theorem strip_tail (l : List (Str × Str)) : strip (tailStr l) = tailStr l := by
  cases l with
  | nil => rfl
  | cons kv r =>
    exact strip_eq_self (a := ',') (b := '"') (by rw [tailStr_cons]; rfl) comma_not_space (tail_last _ (by simp)) (by decide)

def termChs : Char → Bool := fun ch => ch == ',' || ch == '}'

theorem termChs_safe : NameSafe termChs :=
  ⟨by decide, fun c hc => by
    simp [termChs, legacyChar_ne hc (d := ',') (by decide), legacyChar_ne hc (d := '}') (by decide)]⟩

/-- `_next_term` (text mode) after the optional leading comma: the text up to the first unquoted ',' or '}' and the rest,
both stripped -/
def nextTermTail (t : Str) : PyM (Str × Str) :=
  let splitpos := match nextUnquotedChar t (fun ch => ch == ',' || ch == '}') with
    | some p => p
    | none => t.length
  .ok (strip (t.take splitpos), strip (t.drop splitpos))

theorem nextTerm_no_comma (c : Char) (cs : Str) (hc : c ≠ ',') : nextTerm (c :: cs) false = nextTermTail (c :: cs) := by
  have : (c == ',') = false := by simpa using hc
  unfold nextTerm nextTermTail
  simp only [this, Bool.false_eq_true, ↓reduceIte, Bool.and_false]
  rfl

theorem nextTerm_comma_nil : nextTerm [','] false = .ok ([], []) := rfl
theorem nextTerm_comma_comma (ds : Str) : nextTerm (',' :: ',' :: ds) false = .error .valueError := rfl

/-- the three-way `match` on what follows the comma is decided by `d ≠ ','` -/
theorem nextTerm_comma_cons (d : Char) (ds : Str) (hd : d ≠ ',') :
    nextTerm (',' :: d :: ds) false = nextTermTail (d :: ds) := by
  unfold nextTerm nextTermTail
  simp only [BEq.rfl, ↓reduceIte, List.cons.injEq, hd, false_and, imp_self, implies_true, Bool.and_false, Bool.false_eq_true]
  rfl

theorem nextTermTail_term {tm : Str} (hp : Pass termChs tm)
    (hstrip : strip tm = tm) (r : List (Str × Str)) : nextTermTail (tm ++ tailStr r) = .ok (tm, tailStr r) := by
  unfold nextTermTail
  cases r with
  | nil =>
    have hs := scan_pass_none hp
    unfold termChs at hs
    simp only [tailStr, List.flatMap_nil, List.append_nil, hs, List.take_length, List.drop_length, hstrip, strip_nil]
  | cons kv r =>
    have hs := scan_pass_hit hp ',' (labelItem kv ++ tailStr r) (by decide) (by decide)
    unfold termChs at hs
    rw [← tailStr_cons] at hs
    simp only [hs, List.take_left, List.drop_left, hstrip, strip_tail]

def eqChs : Char → Bool := (· == '=')
theorem eqChs_safe : NameSafe eqChs := nameSafe_eq '=' (by decide) (by decide)

theorem scan_item_eq {legacy : Bool} {kv : Str × Str} (h : labelNameOK legacy kv.1 = true) :
    nextUnquotedChar (labelItem kv) (· == '=') 0 = some (escapeLabelName kv.1).length := by
  rw [labelItem_eq]
  exact scan_pass_hit (nameTok_pass eqChs_safe h) '=' _ (by decide) rfl

theorem item_nonempty (kv : Str × Str) : (labelItem kv).isEmpty = false := by
  rw [labelItem_eq]; cases escapeLabelName kv.1 <;> rfl

theorem unquote_nameTok {legacy : Bool} {k : Str} (h : labelNameOK legacy k = true) :
    ∃ q, unquoteUnescape (escapeLabelName k) = .ok (k, q) ∧ (!q && !isValidLegacyMetricName k) = false := by
  rcases nameTok_cases h with ⟨e, hne, hc, hm⟩ | e
  · refine ⟨false, by rw [e]; exact unquoteUnescape_bare hne hc, ?_⟩
    have : isValidLegacyMetricName k = true := matchExact_matchName (matchExact_label_metric hm)
    simp [this]
  · exact ⟨true, by rw [e]; exact unquoteUnescape_quoted k, rfl⟩

theorem findClosingQuote_quoted (v : Str) :
    findClosingQuote ('"' :: (escape v ++ ['"'])) (('"' :: (escape v ++ ['"'])).length + 1) 1 = some ((escape v).length + 1) := by
  have hq := scan_escape (· == '"') v
  have h0 : trailOdd ['"'] = false := rfl
  have h := findClosingQuote_spec [] (('"' :: (escape v ++ ['"'])).length + 1) ['"'] (escape v)
    hq.1 (by rw [trailOdd_append, h0, ← run_snd _ true, hq.2])
    (by rw [List.length_cons, List.length_append]; omega)
  rw [List.length_singleton, Nat.add_comm 1, List.singleton_append] at h
  exact h

theorem quoted_end (v : Str) : ((escape v).length + 1 + 1 != ('"' :: (escape v ++ ['"'])).length) = false := by simp

theorem quoted_take (v : Str) :
    List.take ((escape v).length + 1 + 1) ('"' :: (escape v ++ ['"'])) = '"' :: (escape v ++ ['"']) :=
  List.take_of_length_le (by simp)

theorem oneLabelBody_item {legacy : Bool} {kv : Str × Str} (h : labelNameOK legacy kv.1 = true) (rest : Str)
    (acc : List (Str × Str)) (hfresh : acc.any (fun x => x.1 == kv.1) = false) :
    PromVerif.Lemmas.TextTotal.oneLabelBody legacy acc (labelItem kv) rest = .ok (acc ++ [kv], rest) := by
  obtain ⟨q, hq1, hq2⟩ := unquote_nameTok h
  have htake : List.take (escapeLabelName kv.1).length (labelItem kv) = escapeLabelName kv.1 := by
    rw [labelItem_eq]; exact List.take_left
  have hdrop : List.drop ((escapeLabelName kv.1).length + 1) (labelItem kv) = '"' :: (escape kv.2 ++ ['"']) := by
    rw [labelItem_eq, ← List.drop_drop, List.drop_left]; rfl
  have hname : (kv.1 == "__name__".toList) = false := by simpa using labelNameOK_ne_name h
  unfold PromVerif.Lemmas.TextTotal.oneLabelBody
  simp only [bind, Except.bind, pure, Except.pure, item_nonempty, Bool.false_eq_true, ↓reduceIte, scan_item_eq h, htake, hq1,
    hdrop, hq2, strip_quoted, findClosingQuote_quoted, quoted_end, quoted_take, unquoteUnescape_quoted, hname,
    labelNameOK_validate h, hfresh]

/-- one iteration on a first term the scanner passes: `_next_term` cuts the term off, the loop body gets it -/
theorem parseOneLabel_term (legacy : Bool) {tm t : Str} {a : Char} (hp : Pass termChs tm) (e : tm = a :: t) (hne : a ≠ ',')
    (hstrip : strip tm = tm) (r : List (Str × Str)) (lead : Bool) (acc : List (Str × Str)) :
    parseOneLabel legacy false ((if lead then [','] else []) ++ (tm ++ tailStr r)) acc =
      PromVerif.Lemmas.TextTotal.oneLabelBody legacy acc tm (tailStr r) := by
  have hnt : nextTerm ((if lead then [','] else []) ++ (tm ++ tailStr r)) false = .ok (tm, tailStr r) := by
    rw [← nextTermTail_term hp hstrip r, e]
    cases lead
    · exact nextTerm_no_comma a _ hne
    · exact nextTerm_comma_cons a _ hne
  rw [PromVerif.Lemmas.TextTotal.parseOneLabel_eq, hnt]
  rfl

theorem parseOneLabel_item {legacy : Bool} {kv : Str × Str} (h : labelNameOK legacy kv.1 = true) (r : List (Str × Str))
    (lead : Bool) (acc : List (Str × Str)) (hfresh : acc.any (fun x => x.1 == kv.1) = false) :
    parseOneLabel legacy false ((if lead then [','] else []) ++ (labelItem kv ++ tailStr r)) acc =
      .ok (acc ++ [kv], tailStr r) := by
  obtain ⟨a, t, e, hne, _⟩ := item_head h
  rw [parseOneLabel_term legacy (item_pass termChs_safe (by decide) h) e hne (strip_item h)]
  exact oneLabelBody_item h _ acc hfresh

theorem any_key_false {acc : List (Str × Str)} {k : Str} (h : k ∉ acc.map (·.1)) :
    acc.any (fun x => x.1 == k) = false := by
  apply Bool.eq_false_iff.mpr
  intro ha
  obtain ⟨x, hx, hk⟩ := List.any_eq_true.mp ha
  exact h (List.mem_map.mpr ⟨x, hx, by simpa using hk⟩)

/-- for either mode, given what one iteration does to a rendered item -/
theorem loop_tail_of_step {legacy om : Bool}
    (hstep : ∀ (kv : Str × Str) (r acc : List (Str × Str)), labelNameOK legacy kv.1 = true →
      acc.any (fun x => x.1 == kv.1) = false →
      parseOneLabel legacy om (',' :: (labelItem kv ++ tailStr r)) acc = .ok (acc ++ [kv], tailStr r)) :
    ∀ (r acc : List (Str × Str)) (fuel : Nat), r.length ≤ fuel →
    (∀ kv ∈ r, labelNameOK legacy kv.1 = true) → ((acc ++ r).map (·.1)).Nodup →
    parseLabelsLoop legacy om fuel (tailStr r) acc = .ok (acc ++ r) := by
  intro r
  induction r with
  | nil =>
    intro acc fuel _ _ _
    cases fuel <;> simp [tailStr, parseLabelsLoop]
  | cons kv r ih =>
    intro acc fuel hf hok hnd
    cases fuel with
    | zero => simp at hf
    | succ f =>
      have hfresh : acc.any (fun x => x.1 == kv.1) = false := by
        apply any_key_false
        rw [List.map_append, List.map_cons] at hnd
        have := (List.nodup_append.mp hnd).2.2
        intro hm
        exact this _ hm _ (by simp) rfl
      rw [tailStr_cons, parseLabelsLoop]
      simp only [List.isEmpty_cons, Bool.false_eq_true, ↓reduceIte, bind, Except.bind,
        hstep kv r acc (hok kv (by simp)) hfresh]
      rw [ih (acc ++ [kv]) f (by simp at hf; omega) (fun x hx => hok x (by simp [hx])) (by simpa using hnd)]
      simp

theorem tailStr_length (r : List (Str × Str)) : r.length ≤ (tailStr r).length := by
  induction r with
  | nil => simp
  | cons kv r ih => rw [tailStr_cons]; simp; omega

theorem parseOneLabel_comma_item {legacy : Bool} (kv : Str × Str) (r acc : List (Str × Str))
    (h : labelNameOK legacy kv.1 = true) (hf : acc.any (fun x => x.1 == kv.1) = false) :
    parseOneLabel legacy false (',' :: (labelItem kv ++ tailStr r)) acc = .ok (acc ++ [kv], tailStr r) := by
  simpa using parseOneLabel_item h r true acc hf

theorem parseLabels_first {legacy om : Bool} {tm t : Str} {a : Char} (e : tm = a :: t) (hs : isPySpace a = false)
    (ha : a ≠ ',') (hlast : tm.getLast? = some '"') (kv0 : Str × Str) (L : List (Str × Str))
    (hfirst : parseOneLabel legacy om (tm ++ tailStr L) [] = .ok ([kv0], tailStr L))
    (hstep : ∀ (kv : Str × Str) (r acc : List (Str × Str)), labelNameOK legacy kv.1 = true →
      acc.any (fun x => x.1 == kv.1) = false →
      parseOneLabel legacy om (',' :: (labelItem kv ++ tailStr r)) acc = .ok (acc ++ [kv], tailStr r))
    (hok : ∀ x ∈ L, labelNameOK legacy x.1 = true) (hnd : (([kv0] ++ L).map (·.1)).Nodup) :
    parseLabels legacy (tm ++ tailStr L) om = .ok (kv0 :: L) := by
  have hl : (tm ++ tailStr L).getLast? = some '"' := by
    rw [List.getLast?_append]
    by_cases hr : L = []
    · subst hr; rw [hlast]; rfl
    · rw [tail_last L hr]; rfl
  have hstrip : strip (tm ++ tailStr L) = tm ++ tailStr L :=
    strip_eq_self (a := a) (b := '"') (by rw [e]; rfl) hs hl (by decide)
  have hne : (tm ++ tailStr L).isEmpty = false := by rw [e]; rfl
  have hhead : ((tm ++ tailStr L).head? == some ',') = false := by rw [e]; simpa using ha
  unfold parseLabels
  simp only [hstrip, hhead, Bool.and_false, Bool.false_eq_true, ↓reduceIte]
  rw [parseLabelsLoop]
  simp only [hne, Bool.false_eq_true, ↓reduceIte, bind, Except.bind, hfirst]
  rw [loop_tail_of_step hstep L [kv0] _ (by have := tailStr_length L; simp; omega) hok hnd]
  rfl

theorem parseLabels_items {legacy : Bool} (kv : Str × Str) (r : List (Str × Str)) (h : LabelsOK legacy (kv :: r)) :
    parseLabels legacy (labelItem kv ++ tailStr r) false = .ok (kv :: r) := by
  have hkv := h.1 kv (by simp)
  obtain ⟨a, t, e, ha, hs⟩ := item_head hkv
  have hfirst := parseOneLabel_item hkv r false [] rfl
  rw [if_neg Bool.false_ne_true, List.nil_append] at hfirst
  exact parseLabels_first e hs ha (item_last kv) kv r hfirst parseOneLabel_comma_item (fun x hx => h.1 x (by simp [hx])) h.2

/-- `parse_labels` inverts the label rendering of `sample_line` -/
theorem parse_labels_render {legacy : Bool} {ls : List (Str × Str)} (h : LabelsOK legacy ls) :
    parseLabels legacy (labelStr ls) false = .ok (sortByKey ls) := by
  have hsorted := labelsOK_sortByKey h
  cases hs : sortByKey ls with
  | nil => rw [labelStr, hs]; rfl
  | cons kv r =>
    rw [hs] at hsorted
    rw [labelStr_of_sorted hs]
    exact parseLabels_items kv r hsorted

end PromVerif.Lemmas.TextParse
