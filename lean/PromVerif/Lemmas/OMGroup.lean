/-
`groupStep` (grouping, timestamps within a group, duplicate suppression): what a successful step leaves in the
state, and when it must fail.
-/
import PromVerif.Lemmas.OMDoom

namespace PromVerif.Lemmas.OM
open PromVerif.Py PromVerif.Model.ParseCore PromVerif.Model.OMParse PromVerif.Generated.OMParse
open PromVerif.Spec.OMRules

/-- `gts` is what the group remembers (emptied when the group changes) -/
theorem groupStep_eq (P : Params) (gr gr' : Grp) (n t : Str) (s : OSample) (h : groupStep P gr n t s = .ok gr') :
    ∃ g ls, groupOf s n t = .ok g ∧ labelsOrAttr s = .ok ls ∧
      (let gts := if gr.group.isSome && gr.group == some g then gr.gtsSamples else []
       gr' = { samples := if !tsEq P s.ts gr.groupTs || !gts.contains (s.name, sortByKey ls) then gr.samples ++ [s] else gr.samples,
               gtsSamples := if gts.contains (s.name, sortByKey ls) then gts else gts ++ [(s.name, sortByKey ls)],
               group := some g, groupTs := s.ts,
               seenGroups := if gr.seenGroups.contains g then gr.seenGroups else gr.seenGroups ++ [g] }) := by
  unfold groupStep at h
  cases hg : groupOf s n t with
  | error e => rw [hg] at h; cases h
  | ok g =>
    rw [hg] at h; dsimp only at h
    cases h1 : raiseIf (gr.group.isSome && !(gr.group == some g) && gr.seenGroups.contains g) with
    | error e => rw [h1] at h; cases h
    | ok u1 =>
      rw [h1] at h; dsimp only at h
      cases h2 : (if gr.group.isSome && gr.group == some g then chkGroupTs P t gr.groupTs s.ts else .ok ()) with
      | error e => rw [h2] at h; cases h
      | ok u2 =>
        rw [h2] at h; dsimp only at h
        cases h3 : labelsOrAttr s with
        | error e => rw [h3] at h; cases h
        | ok ls =>
          rw [h3] at h
          exact ⟨g, ls, rfl, rfl, (Except.ok.inj h).symm⟩

theorem groupStep_ok (P : Params) (gr gr' : Grp) (n t : Str) (s : OSample) (h : groupStep P gr n t s = .ok gr') :
    ∃ g ls, groupOf s n t = .ok g ∧ labelsOrAttr s = .ok ls ∧ gr'.group = some g ∧ gr'.groupTs = s.ts ∧
      (let gts := if gr.group.isSome && gr.group == some g then gr.gtsSamples else []
       gr'.samples = if !tsEq P s.ts gr.groupTs || !gts.contains (s.name, sortByKey ls) then gr.samples ++ [s] else gr.samples) := by
  obtain ⟨g, ls, hg, hl, rfl⟩ := groupStep_eq P gr gr' n t s h
  exact ⟨g, ls, hg, hl, rfl, rfl, rfl⟩

theorem groupStep_appends (P : Params) (gr gr' : Grp) (n t : Str) (s : OSample) (h : groupStep P gr n t s = .ok gr') :
    gr'.samples = gr.samples ++ [s] ∨ (gr'.samples = gr.samples ∧ gr.gtsSamples ≠ []) := by
  obtain ⟨g, ls, _, _, rfl⟩ := groupStep_eq P gr gr' n t s h
  dsimp only
  by_cases c2 : (gr.group.isSome && gr.group == some g) = true
  · rw [if_pos c2]
    split
    · exact Or.inl rfl
    · rename_i c
      exact Or.inr ⟨rfl, fun he => c (by rw [he]; simp)⟩
  · rw [if_neg c2]
    exact Or.inl (by simp)

theorem groupStep_ts_fails (P : Params) (gr : Grp) (n t : Str) (s : OSample)
    (hsame : ∀ g, groupOf s n t = .ok g → gr.group = some g)
    (hts : isError (chkGroupTs P t gr.groupTs s.ts) = true) : isError (groupStep P gr n t s) = true := by
  unfold groupStep
  cases hg : groupOf s n t with
  | error e => rfl
  | ok g =>
    rw [hsame g hg]
    simp only [Option.isSome_some, beq_self_eq_true, Bool.not_true, Bool.and_false, Bool.false_and, Bool.and_self, if_true, raiseIf]
    obtain ⟨e, he⟩ := error_of_isError hts
    rw [he]; rfl

theorem sampleChecks_ok (P : Params) (h : Hdr) (gr gr' : Grp) (s : OSample) (n : Str) (hn : h.name = some n)
    (hs : sampleChecks P h gr s false = .ok gr') : groupStep P gr n (h.typ.getD []) s = .ok gr' :=
  (sampleChecks_passed P h gr gr' s n hn hs).2.1

theorem groupOf_spec (s : OSample) (n t : Str) (g : Labels) (h : groupOf s n t = .ok g) :
    g = sortByKey (groupLabels n t s) := by
  unfold groupOf at h
  cases hg : groupForSample s n t with
  | error e => rw [hg] at h; cases h
  | ok o =>
    rw [hg] at h
    cases o with
    | none => cases h
    | some d =>
      obtain rfl := Except.ok.inj h
      congr 1
      -- the parser's chain of tests and the spec's are the same chain; each `del` branch is `delKey_ok`
      rw [groupForSample_eq] at hg
      unfold groupLabels
      dsimp only
      by_cases c0 : (t == tInfo) = true
      · rw [if_pos c0] at hg
        rw [if_pos (show t = cs!"info" from eq_of_beq c0)]
        exact (Option.some.inj (Except.ok.inj hg)).symm
      · rw [if_neg c0] at hg
        rw [if_neg (show ¬ t = cs!"info" from fun e => c0 (by rw [e]; rfl))]
        by_cases c1 : (t == tSummary && s.name == n) = true
        · rw [if_pos c1] at hg
          rw [if_pos (by simpa [tSummary] using c1)]
          exact delKey_ok _ _ _ hg
        · rw [if_neg c1] at hg
          rw [if_neg (by simpa [tSummary] using c1)]
          by_cases c2 : (t == tStateset) = true
          · rw [if_pos c2] at hg
            rw [if_pos (show t = cs!"stateset" from eq_of_beq c2)]
            exact delKey_ok _ _ _ hg
          · rw [if_neg c2] at hg
            rw [if_neg (show ¬ t = cs!"stateset" from fun e => c2 (by rw [e]; rfl))]
            by_cases c3 : ((t == tHistogram || t == tGaugeHistogram) && s.name == n ++ sBucket) = true
            · rw [if_pos c3] at hg
              rw [if_pos (by simpa [tHistogram, tGaugeHistogram, sBucket] using c3)]
              exact delKey_ok _ _ _ hg
            · rw [if_neg c3] at hg
              rw [if_neg (by simpa [tHistogram, tGaugeHistogram, sBucket] using c3)]
              rw [Except.ok.inj hg]; rfl

/-- duplicates are only suppressed against samples that were kept -/
def KeptInv (gr : Grp) : Prop := gr.gtsSamples ≠ [] → gr.samples ≠ []

/-- an accepted sample line (of either reading) is appended, or dropped as a series the group remembers -/
theorem sampleChecks_appends (P : Params) (h : Hdr) (gr gr' : Grp) (s : OSample) (isNh : Bool)
    (hs : sampleChecks P h gr s isNh = .ok gr') :
    gr'.samples = gr.samples ++ [s] ∨ (gr'.samples = gr.samples ∧ gr.gtsSamples ≠ []) := by
  cases isNh with
  | false =>
    cases hn : h.name with
    | none => rw [sampleChecks_false, hn] at hs; cases hs
    | some n => exact groupStep_appends P gr gr' n _ s (sampleChecks_ok P h gr gr' s n hn hs)
  | true =>
    rw [sampleChecks_nh] at hs
    obtain rfl := Except.ok.inj hs
    exact Or.inl rfl

theorem sampleChecks_samples (P : Params) (h : Hdr) (gr gr' : Grp) (s : OSample) (isNh : Bool) (hk : KeptInv gr)
    (hs : sampleChecks P h gr s isNh = .ok gr') : gr'.samples ≠ [] := by
  rcases sampleChecks_appends P h gr gr' s isNh hs with e | ⟨e, hne⟩
  · rw [e]; simp
  · rw [e]; exact hk hne

theorem kept_step (P : Params) (st st' : St) (l : Line) (hk : KeptInv st.grp) (h : stepLine P st l = .ok st') : KeptInv st'.grp := by
  obtain ⟨_, hc⟩ := stepLine_ok P st st' _ h
  rcases hc with ⟨_, rfl⟩ | ⟨kind, cand, rest, _, hm⟩ | ⟨nh, plain, s, isNh, _, _, hss⟩
  · exact hk
  · rcases stepMeta_ok P st st' _ _ _ hm with ⟨_, g, hd, _, _, rfl⟩ | ⟨_, hd, _, rfl⟩
    · intro hne; exact absurd rfl hne
    · exact hk
  · rcases stepSample_ok P st st' s isNh hss with ⟨_, g, hd, gr, _, _, hsc, rfl⟩ | ⟨_, gr, hsc, rfl⟩
    · exact fun _ => sampleChecks_samples P hd {} gr s isNh (fun hne => absurd rfl hne) hsc
    · exact fun _ => sampleChecks_samples P st.hdr st.grp gr s isNh hk hsc

theorem isError_of_suffix_kept (P : Params) (pre suf : List Line)
    (h : ∀ st, KeptInv st.grp → isError (finishRun P st suf) = true) : isError (assemble P (pre ++ suf)) = true := by
  rw [assemble_eq, finishRun_append]
  cases hr : run P {} pre with
  | error e => rfl
  | ok st => exact h st (run_keeps P _ (kept_step P) pre {} st (fun hne => absurd rfl hne) hr)

/-- "family `n` is current and has a sample, or the name `n` is recorded" -/
def HasSample (n : Str) (st : St) : Prop :=
  (st.hdr.name = some n ∧ st.grp.samples ≠ []) ∨ n ∈ st.glob.seenNames

/-- a sample line leaves the current family with a sample (it is kept: the family has one already, or remembers no
series yet) or closes it -/
theorem hasSample_of_sample (P : Params) (n : Str) (st st' : St) (nh : PyM (Option OSample)) (plain : PyM OSample)
    (hs : (st.hdr.name = some n ∧ KeptInv st.grp) ∨ n ∈ st.glob.seenNames)
    (h : stepLine P st (.sample nh plain) = .ok st') : HasSample n st' := by
  obtain ⟨_, hc⟩ := stepLine_ok P st st' _ h
  rcases hc with ⟨h0, _⟩ | ⟨_, _, _, hl, _⟩ | ⟨nh', plain', s, isNh, _, _, hss⟩
  · cases h0
  · cases hl
  · rcases stepSample_ok P st st' s isNh hss with ⟨_, g, hd, gr, hf, _, _, rfl⟩ | ⟨_, gr, hsc, rfl⟩
    · right
      rcases hs with ⟨hn, _⟩ | hs
      · exact flush_records_name P _ _ _ _ n hn hf
      · exact flush_mono P _ _ _ _ hf n hs
    · exact hs.imp (fun hc => ⟨hc.1, sampleChecks_samples P st.hdr st.grp gr s isNh hc.2 hsc⟩) id

theorem hasSample_step (P : Params) (n : Str) (st st' : St) (l : Line) (hs : HasSample n st) (h : stepLine P st l = .ok st') :
    HasSample n st' := by
  obtain ⟨_, hc⟩ := stepLine_ok P st st' _ h
  rcases hc with ⟨_, rfl⟩ | ⟨kind, cand, rest, _, hm⟩ | ⟨nh, plain, _, _, rfl, _, _⟩
  · exact hs
  · rcases stepMeta_ok P st st' _ _ _ hm with ⟨_, g, hd, hf, _, rfl⟩ | ⟨hn, hd, ha, rfl⟩
    · right
      rcases hs with ⟨hn, _⟩ | hs
      · exact flush_records_name P _ _ _ _ n hn hf
      · exact flush_mono P _ _ _ _ hf n hs
    · rcases hs with ⟨hn', hne⟩ | hs
      · obtain rfl : cand = n := Option.some.inj (hn.symm.trans hn')
        rw [stepMeta_late P st kind cand rest hn hne] at hm; cases hm
      · right; exact hs
  · exact hasSample_of_sample P n st st' nh plain (hs.imp (fun hc => ⟨hc.1, fun _ => hc.2⟩) id) h

end PromVerif.Lemmas.OM
