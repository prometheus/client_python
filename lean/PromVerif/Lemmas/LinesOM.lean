/-
C05 lemmas: the OpenMetrics exposition.  `sampleLine` either raises (an exemplar on an ineligible sample) or returns
`omBody s ++ LF` (`om_sampleLine_def`); `omBody` is `omHead` (name and labels), the value, the optional timestamp and
the optional exemplar, each a block of `LinesBlocks`.  The document is then the `LinesOf` of its families' kinds
followed by the one `# EOF` line (`om_doc`), and it exists exactly when every exemplar is eligible
(`om_generateLatest_def`).
-/
import PromVerif.Lemmas.LinesText

namespace PromVerif.Lemmas.Lines
open PromVerif.Py PromVerif.Model PromVerif.Model.Escape PromVerif.Model.Validation
open PromVerif.Generated.Expo PromVerif.Generated.Validation
open PromVerif.Spec.LineGrammar hiding Str

/-- preconditions on an exemplar: its value and float timestamp are number tokens.  Nothing is assumed about its
label names (F3 repaired: they go through `escape_label_name`) or label values. -/
def exemplarOK (e : Exemplar) : Bool :=
  floatTok e.value && (match e.ts with | none => true | some t => tsOK t)

/-- preconditions on one sample for OpenMetrics: numbers are number tokens -/
def sampleOKOM (s : Sample) : Bool :=
  sampleOKText s && (match s.ts with | none => true | some t => tsOK t.ts) &&
    (match s.exemplar with | none => true | some e => exemplarOK e)

/-- T1 fact (repaired F3): exemplar label names are written through `escape_label_name` -/
theorem exemplar_name_escaped : PromVerif.Generated.Expo.exemplarNameEscaped = true := by decide

theorem run_exItem (f : Bool) (kv : Str × Str) :
    run true (.lb true f) (OMExpo.exemplarItem kv) = .qe .exval := by
  unfold OMExpo.exemplarItem
  rw [if_pos exemplar_name_escaped, escapeExemplarValue_eq]
  exact run_labelItem true true f kv.1 kv.2

theorem run_exLabels (ls : List (Str × Str)) (r : Str) :
    run true (.lb true true) (joinStr [','] ((sortByKey ls).map OMExpo.exemplarItem) ++ '}' :: r) = run true .xal r := by
  cases hsl : sortByKey ls with
  | nil => rfl
  | cons kv l =>
    rw [run_append, run_labelList true true true OMExpo.exemplarItem run_exItem kv l]
    rfl

theorem exPrefix : " # ".toList = [' ', '#', ' '] := rfl

theorem run_exOpen (st : St) (hst : st = .v ∨ st = .t) (r : Str) :
    run true st (' ' :: '#' :: ' ' :: '{' :: r) = run true (.lb true true) r := by
  rcases hst with rfl | rfl <;> rfl

theorem run_exemplar (st : St) (hst : st = .v ∨ st = .t) (e : Exemplar) (h : exemplarOK e = true) :
    accepting (run true st (OMExpo.exemplarStr e)) = true := by
  simp only [exemplarOK, Bool.and_eq_true] at h
  have hval : ∀ r, run true .xal (' ' :: (Utils.floatToGoString e.value ++ r)) = run true .xv r := fun r => by
    rw [run_cons, run_append]
    exact congrArg (run true · r) (run_floatTok true .xv0 .xv (fun c hc => by simp [step, hc]) _
      (go_numTok _ h.1))
  unfold OMExpo.exemplarStr
  cases hts : e.ts with
  | none =>
    simp only [exPrefix, List.append_assoc, List.cons_append, List.nil_append, run_exOpen st hst, run_exLabels]
    rw [← List.append_nil (Utils.floatToGoString e.value), hval]
    rfl
  | some t =>
    have ht : floatTok (OMExpo.tsStr t) = true := tsStr_numTok t (by simpa [hts] using h.2)
    simp only [exPrefix, List.append_assoc, List.cons_append, List.nil_append, run_exOpen st hst, run_exLabels, hval]
    rw [run_cons, show step true .xv ' ' = .xt0 from rfl,
      run_floatTok true .xt0 .xt (fun c hc => by simp [step, hc]) _ ht]
    rfl

/-- name and labels of a sample line as `sampleLine` builds them, up to (not including) the space before the value -/
def omHead (s : Sample) : Str :=
  let legacy := isValidLegacyMetricName s.name
  let l0 := if !legacy then escapeMetricName s.name ++ (if s.labels.isEmpty then [] else [',', ' ']) else []
  let l1 := if s.labels.isEmpty then l0 else l0 ++ joinStr [','] ((sortByKey s.labels).map OMExpo.labelItem)
  let labelstr := if l1.isEmpty then [] else ['{'] ++ l1 ++ ['}']
  if legacy then s.name ++ labelstr else labelstr

/-- what `sampleLine` returns when it does not raise, without the LF -/
def omBody (s : Sample) : Str :=
  omHead s ++ [' '] ++ Utils.floatToGoString s.value ++
    (match s.ts with | none => [] | some t => ' ' :: OMExpo.tsStr t.ts) ++
    (match s.exemplar with | some e => OMExpo.exemplarStr e | none => [])

theorem om_sampleLine_def (fam : Family) (s : Sample) :
    OMExpo.sampleLine fam s =
      if s.exemplar.isNone || OMExpo.isValidExemplarMetric fam.typ fam.name s.name then .ok (omBody s ++ ['\n'])
      else .error .valueError := by
  unfold OMExpo.sampleLine omBody omHead
  cases s.exemplar with
  | none => cases isValidLegacyMetricName s.name <;> rfl
  | some e =>
    cases OMExpo.isValidExemplarMetric fam.typ fam.name s.name
    · rfl
    · cases isValidLegacyMetricName s.name <;> rfl

theorem om_labels_run (f : Bool) (ls : List (Str × Str)) (hne : ls ≠ []) :
    run true (.lb false f) (joinStr [','] ((sortByKey ls).map OMExpo.labelItem)) = .qe .lval :=
  run_sortedLabels true false OMExpo.labelItem (fun f kv => run_labelItem true false f kv.1 kv.2) ls hne f

theorem run_omHead (s : Sample) (r : Str) : run true .s0 (omHead s ++ ' ' :: r) = run true .v0 r := by
  unfold omHead
  by_cases hleg : isValidLegacyMetricName s.name = true
  · have h := run_bareHead true s.name
      (if s.labels.isEmpty then [] else [] ++ joinStr [','] ((sortByKey s.labels).map OMExpo.labelItem)) r
      (legacy_metric_bare s.name hleg) (by
        cases hls : s.labels with
        | nil => exact fun h => absurd rfl h
        | cons kv l => exact fun _ => om_labels_run true (kv :: l) (List.cons_ne_nil kv l))
    simpa only [hleg, Bool.not_true, Bool.false_eq_true, if_false, if_true] using h
  · simp only [hleg, Bool.not_false, if_true, Bool.false_eq_true, if_false, escapeMetricName_quoted s.name hleg]
    cases hls : s.labels with
    | nil =>
      simp only [List.isEmpty_nil, if_true, List.append_nil, List.append_assoc, List.cons_append, List.nil_append,
        List.isEmpty_cons, Bool.false_eq_true, if_false, e_s0_qname, e_mname_close, e_al_sp]
    | cons kv l =>
      simp only [List.isEmpty_cons, Bool.false_eq_true, if_false, List.append_assoc, List.cons_append,
        List.nil_append, e_s0_qname, e_mname_comma_om, run_append,
        om_labels_run false (kv :: l) (List.cons_ne_nil kv l), e_lval_close, e_al_sp]

theorem om_body_ok (s : Sample) (h : sampleOKOM s = true) : sampleLine true (omBody s) = true := by
  simp only [sampleOKOM, sampleOKText, Bool.and_eq_true] at h
  obtain ⟨⟨hv, hts⟩, hex⟩ := h
  unfold sampleLine omBody
  rw [List.append_assoc, List.append_assoc, List.append_assoc, List.singleton_append, run_omHead, run_append,
    run_value true _ (go_numTok _ hv), run_append]
  -- after the value: `.v`, or `.t` after a timestamp; the exemplar, if any, is accepted from either
  have hst : ∃ st, run true .v (match s.ts with | none => [] | some t => ' ' :: OMExpo.tsStr t.ts) = st ∧
      (st = .v ∨ st = .t) := by
    cases ht : s.ts with
    | none => exact ⟨_, rfl, Or.inl rfl⟩
    | some t =>
      refine ⟨.t, ?_, Or.inr rfl⟩
      rw [run_cons, show step true .v ' ' = .t0 from rfl]
      exact run_floatTok true .t0 .t (fun c hc => by simp [step, hc]) _
        (tsStr_numTok t.ts (by simpa [ht] using hts))
  obtain ⟨st, hrun, hst⟩ := hst
  rw [hrun]
  cases he : s.exemplar with
  | none => rcases hst with rfl | rfl <;> rfl
  | some e => exact run_exemplar st hst e (by simpa [he] using hex)

theorem om_sampleLine_inv (fam : Family) (s : Sample) (l : Str) (h : OMExpo.sampleLine fam s = .ok l) :
    l = omBody s ++ ['\n'] := by
  rw [om_sampleLine_def] at h
  split at h
  · exact (Except.ok.inj h).symm
  · cases h

theorem om_sampleLine_lineOf (fam : Family) (s : Sample) (l : Str) (hok : sampleOKOM s = true)
    (h : OMExpo.sampleLine fam s = .ok l) : LineOf true .sample l :=
  ⟨omBody s, om_sampleLine_inv fam s l h, classify_sample true _ (om_body_ok s hok)⟩

/-- hypotheses on a family for OpenMetrics: the type is one of `METRIC_TYPES`, numbers are number tokens
(preconditions), and — the one hypothesis that excludes a known finding — the unit, which is written raw (F4), is
empty or a clean token.  Nothing is assumed about any name, help text, label or exemplar label. -/
def familyOKOM (f : Family) : Bool :=
  PromVerif.Generated.Ctor.metricTypes.contains f.typ &&
    (f.unit.isEmpty || unitTok f.unit) && f.samples.all sampleOKOM

/-- the kinds of line OpenMetrics owes a family -/
def omKinds (f : Family) : List Kind :=
  [.help, .type] ++ (if f.unit.isEmpty then [] else [.unit]) ++ List.replicate f.samples.length .sample

/-- what `familyLines` returns when it does not raise -/
def omFamilyLines (f : Family) : List Str :=
  ["# HELP ".toList ++ escapeMetricName f.name ++ [' '] ++ escape f.doc ++ ['\n'],
   "# TYPE ".toList ++ escapeMetricName f.name ++ [' '] ++ f.typ ++ ['\n']] ++
  (if f.unit.isEmpty then [] else ["# UNIT ".toList ++ escapeMetricName f.name ++ [' '] ++ f.unit ++ ['\n']]) ++
  f.samples.map (fun s => omBody s ++ ['\n'])

/-- when does the OpenMetrics exposition raise: only for an exemplar on an ineligible sample -/
def exemplarsEligible (f : Family) : Bool :=
  f.samples.all (fun s => s.exemplar.isNone || OMExpo.isValidExemplarMetric f.typ f.name s.name)

theorem mapM_ite {α β : Type} (c : α → Bool) (g : α → β) (e : PyErr) (xs : List α) :
    xs.mapM (fun x => if c x then (.ok (g x) : PyM β) else .error e) =
      if xs.all c then .ok (xs.map g) else .error e := by
  induction xs with
  | nil => rfl
  | cons x r ih =>
    rw [List.mapM_cons, ih, List.all_cons]
    cases c x <;> cases r.all c <;> rfl

theorem om_familyLines_def (fam : Family) :
    OMExpo.familyLines fam = if exemplarsEligible fam then .ok (omFamilyLines fam) else .error .valueError := by
  unfold OMExpo.familyLines exemplarsEligible
  rw [funext (om_sampleLine_def fam), mapM_ite]
  cases fam.samples.all _ <;> rfl

theorem om_generateLatest_def (fs : List Family) :
    OMExpo.generateLatest fs =
      if fs.all exemplarsEligible then .ok ((fs.map omFamilyLines).flatten ++ ["# EOF\n".toList]).flatten
      else .error .valueError := by
  unfold OMExpo.generateLatest
  rw [funext om_familyLines_def, mapM_ite]
  cases fs.all exemplarsEligible <;> rfl

theorem omFamilyLines_ok (fam : Family) (hok : familyOKOM fam = true) :
    LinesOf true (omFamilyLines fam) (omKinds fam) := by
  simp only [familyOKOM, Bool.and_eq_true, Bool.or_eq_true, List.all_eq_true] at hok
  obtain ⟨⟨ht, hu⟩, hs⟩ := hok
  have htyp := munge_type_ok fam.typ (List.contains_iff_mem.mp ht)
  refine LinesOf.append (LinesOf.append
      ⟨help_lineOf true fam.name _ (helpText_escaped fam.doc).2.2, type_lineOf true fam.name _ htyp.2, trivial⟩ ?_)
    (LinesOf.map_replicate fam.samples _
      (fun s hsm => ⟨omBody s, rfl, classify_sample true _ (om_body_ok s (hs s hsm))⟩))
  by_cases hue : fam.unit.isEmpty = true
  · rw [if_pos hue, if_pos hue]; trivial
  · rw [if_neg hue, if_neg hue]
    exact ⟨unit_lineOf fam.name _ (hu.resolve_left hue), trivial⟩

theorem om_doc (fs : List Family) (out : Str) (h : OMExpo.generateLatest fs = .ok out)
    (hok : ∀ f ∈ fs, familyOKOM f = true) :
    ∃ body : List Str, out = (body ++ ["# EOF\n".toList]).flatten ∧ LinesOf true body (fs.flatMap omKinds) := by
  rw [om_generateLatest_def] at h
  split at h
  · cases h
    exact ⟨_, rfl, LinesOf.flatten fs omFamilyLines omKinds (fun f hf => omFamilyLines_ok f (hok f hf))⟩
  · cases h

theorem eof_linesOf : LinesOf true ["# EOF\n".toList] [Kind.eof] := ⟨eof_lineOf, trivial⟩

theorem om_total (fs : List Family) (h : ∀ f ∈ fs, exemplarsEligible f = true) :
    ∃ out, OMExpo.generateLatest fs = .ok out := by
  rw [om_generateLatest_def, if_pos (List.all_eq_true.mpr h)]
  exact ⟨_, rfl⟩

end PromVerif.Lemmas.Lines
