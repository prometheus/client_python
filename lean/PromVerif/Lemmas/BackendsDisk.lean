/-
C12: the directory of a single-identity run as a pure function of the value-object calls.

`MmapedValue(...)` on a (file, key) that EXISTS changes nothing on disk (`__reset` → `read_value` finds the entry: a
re-created child continues from what the dropped child left); an update through the YOUNGEST object on a key writes
`entry + amount` / the set value — by C09's coherence (`Values.Inv.cached`) its cache is what the file holds.  So the
directory evolves by `dConstruct` / `dUpd`, which do not mention value objects at all: two histories issuing the same
constructions (up to re-constructions of existing keys) and the same updates leave the same directory (what the
histories with remove/clear need).  Read off these functions: constructing the cells of a new child (`run_constructs`)
appends the objects and moves no cell value (the new cells read zero already, `cellVal_of_new`); after the calls of one
accepted method call (`run_updates`) exactly the cells of that child have moved, each as `MmapedValue.inc` / `.set` prescribe.
-/
import PromVerif.Lemmas.BackendsValues
import PromVerif.Lemmas.MultiprocessFresh

namespace PromVerif.Lemmas.Backends
open PromVerif.Py PromVerif.Generated.Multiprocess
open PromVerif.Model.Multiprocess
open PromVerif.Model.Values
open PromVerif.Model.Backends
set_option autoImplicit false

variable {V : Type}

/-- `MmapedValue(...)`'s effect on the directory -/
def dConstruct (vo : VOps V) (disk : List (Str × Store V)) (fn : Str) (k : Key) : List (Str × Store V) :=
  if (cellGet disk fn k).isSome then disk else AL.set disk fn (AL.set (storeOf disk fn) k (vo.zero, vo.zero))

/-- one `inc` / `set` on the cell at a position of a child -/
def dUpd (vo : VOps V) (pid : Str) (cells : List Params) (disk : List (Str × Store V)) (u : CellUpd V) : List (Str × Store V) :=
  match cells[updPos u]? with
  | some p =>
    writeValue disk (fileOf pid p) (mmapKey p) (updVal vo u (cellVal vo disk (fileOf pid p) (mmapKey p))).1
      (updVal vo u (cellVal vo disk (fileOf pid p) (mmapKey p))).2
  | none => disk

theorem file_of_cell (disk : List (Str × Store V)) (fn : Str) (k : Key) (h : (cellGet disk fn k).isSome = true) :
    (AL.get? disk fn).isSome = true := by
  unfold cellGet at h
  rw [AL.getD_eq] at h
  cases hg : AL.get? disk fn with
  | some s => rfl
  | none => rw [hg] at h; simp at h

theorem set_openFile (disk : List (Str × Store V)) (fn : Str) (s : Store V) :
    AL.set (openFile disk fn) fn s = AL.set disk fn s := by
  unfold openFile
  cases AL.get? disk fn with
  | some _ => rfl
  | none => exact set_set_same disk fn [] s

theorem readValue_disk (vo : VOps V) (disk : List (Str × Store V)) (fn : Str) (k : Key) :
    (readValue vo disk fn k).2 = dConstruct vo disk fn k := by
  unfold dConstruct
  cases hc : cellGet disk fn k with
  | some vt => rw [readValue_some vo disk fn k vt hc]; rfl
  | none => rw [readValue_none vo disk fn k hc]; rfl

/-- a file that holds the entry is there already -/
theorem dConstruct_openFile (vo : VOps V) (disk : List (Str × Store V)) (fn : Str) (k : Key) :
    dConstruct vo (openFile disk fn) fn k = dConstruct vo disk fn k := by
  unfold dConstruct
  rw [cellGet_openFile, storeOf_openFile, set_openFile]
  split
  · next h =>
    have := file_of_cell disk fn k h
    unfold openFile
    cases hg : AL.get? disk fn with
    | some _ => rfl
    | none => rw [hg] at this; cases this
  · rfl

theorem construct_disk {vo : VOps V} {pid : Str} {st : St V} (h : HInv vo pid st) (p : Params) :
    HInv vo pid (step vo st (.construct p)).1 ∧
      (step vo st (.construct p)).1.values.map (·.params) = st.values.map (·.params) ++ [p] ∧
      (step vo st (.construct p)).1.disk = dConstruct vo st.disk (fileOf pid p) (mmapKey p) := by
  have hpa : st.pid = st.actual := by rw [h.hpid, h.hactual]
  have hb := h.inv.bound
  have hparams := step_params vo st (.construct p) hb
  have hinv := step_inv vo st (.construct p) h.inv trivial
  have hpid := step_pid vo st (.construct p) hb
  refine ⟨⟨by rw [hpid.2, h.hactual], by rw [hpid.1, h.hactual], hinv⟩, by simpa [newParams] using hparams, ?_⟩
  have hstep : (step vo st (.construct p)).1.disk = (reset vo st.pid st.files st.disk p).2.2 := by
    simp only [step, checkPid_same vo st hpa]
  rw [hstep, h.hpid]
  have hf : FilesOK pid st.files := h.hpid ▸ hb.files
  cases hg : AL.get? st.files (filePrefix p) with
  | some fn0 =>
    rw [reset_some vo pid st.files st.disk p _ hg, hf _ _ hg]
    exact readValue_disk vo st.disk _ _
  | none =>
    rw [reset_none vo pid st.files st.disk p hg]
    exact (readValue_disk vo _ _ _).trans (dConstruct_openFile vo st.disk _ _)

theorem writeAt_disk {vo : VOps V} {pid : Str} {st : St V} (h : HInv vo pid st) (i : Nat) (v : ValueObj V)
    (hv : st.values[i]? = some v) (hlast : IsLast (idsOf st) i) (w : ValueObj V → V × V) :
    HInv vo pid (writeAt st i w) ∧ (writeAt st i w).values.map (·.params) = st.values.map (·.params) ∧
      (writeAt st i w).disk = writeValue st.disk (fileOf pid v.params) (mmapKey v.params) (w v).1 (w v).2 ∧
      cellVal vo st.disk (fileOf pid v.params) (mmapKey v.params) = (v.value, v.ts) := by
  have hbv := h.inv.bound.bound v (List.mem_of_getElem? hv)
  have hfile : v.file = fileOf pid v.params := by rw [hbv.2, h.hpid]; rfl
  obtain ⟨i1, i2, _⟩ := writeAt_ids st i w
  refine ⟨⟨i1.trans h.hpid, i2.trans h.hactual, writeAt_inv vo st h.inv i w hlast⟩, writeAt_params st i w, ?_, ?_⟩
  · unfold writeAt
    rw [hv, ← hfile, ← hbv.1]
  · rw [← hfile, ← hbv.1]
    exact h.inv.cached i v hv hlast

theorem block_constructs (vo : VOps V) (pid : Str) : ∀ (qs : List Params) (st : St V), HInv vo pid st →
    HInv vo pid (run vo st (qs.map Op.construct)) ∧
      (run vo st (qs.map Op.construct)).values.map (·.params) = st.values.map (·.params) ++ qs ∧
      (run vo st (qs.map Op.construct)).disk
        = qs.foldl (fun d q => dConstruct vo d (fileOf pid q) (mmapKey q)) st.disk
  | [], st, h => ⟨h, by simp [run], rfl⟩
  | q :: qs, st, h => by
    obtain ⟨h1, hp1, hd1⟩ := construct_disk h q
    obtain ⟨h2, hp2, hd2⟩ := block_constructs vo pid qs _ h1
    simp only [List.map_cons, run_cons, List.foldl_cons]
    exact ⟨h2, by rw [hp2, hp1]; simp, by rw [hd2, hd1]⟩

theorem update_disk (vo : VOps V) (pid : Str) (ps cells : List Params) (hcells : ∀ p ∈ cells, p ∈ ps)
    (hinj : ∀ p ∈ cells, ∀ q ∈ ps, idOf q = idOf p → q = p) (u : CellUpd V) (st : St V) (h : HInv vo pid st)
    (hps : st.values.map (·.params) = ps) :
    HInv vo pid (run vo st (toVop ps cells u)) ∧ (run vo st (toVop ps cells u)).values.map (·.params) = ps ∧
      (run vo st (toVop ps cells u)).disk = dUpd vo pid cells st.disk u := by
  rw [run_toVop vo ps cells u st (by rw [h.hpid, h.hactual])]
  unfold dUpd
  cases hc : cells[updPos u]? with
  | none => exact ⟨h, hps, rfl⟩
  | some p =>
    have hp := List.mem_of_getElem? hc
    obtain ⟨v, hv, hvp⟩ := value_at_pidx st ps hps p (hcells p hp)
    have hl : IsLast (idsOf st) (pidx p ps) := by
      intro j a hj hja hia
      rw [idsOf_eq, hps, List.getElem?_map] at hja hia
      rw [pidx_spec p ps (hcells p hp)] at hia
      obtain ⟨q, hq, hja⟩ := Option.map_eq_some_iff.mp hja
      obtain rfl := hinj p hp q (List.mem_of_getElem? hq) (hja.trans (Option.some.inj hia).symm)
      exact pidx_last q ps j hj hq
    obtain ⟨w1, w2, w3, w4⟩ := writeAt_disk h _ v hv hl (fun v => updVal vo u (v.value, v.ts))
    rw [hvp] at w3 w4
    exact ⟨w1, w2.trans hps, by rw [w3]; simp only [w4]⟩

theorem block_updates (vo : VOps V) (pid : Str) (ps cells : List Params) (hcells : ∀ p ∈ cells, p ∈ ps)
    (hinj : ∀ p ∈ cells, ∀ q ∈ ps, idOf q = idOf p → q = p) :
    ∀ (us : List (CellUpd V)) (st : St V), HInv vo pid st → st.values.map (·.params) = ps →
      HInv vo pid (run vo st (us.flatMap (toVop ps cells))) ∧
        (run vo st (us.flatMap (toVop ps cells))).values.map (·.params) = ps ∧
        (run vo st (us.flatMap (toVop ps cells))).disk = us.foldl (dUpd vo pid cells) st.disk
  | [], st, h, hps => ⟨h, hps, rfl⟩
  | u :: us, st, h, hps => by
    obtain ⟨k1, k2, k3⟩ := update_disk vo pid ps cells hcells hinj u st h hps
    obtain ⟨i1, i2, i3⟩ := block_updates vo pid ps cells hcells hinj us _ k1 k2
    rw [List.flatMap_cons, run_append, List.foldl_cons]
    exact ⟨i1, i2, by rw [i3, k3]⟩

theorem foldl_dConstruct_existing (vo : VOps V) (pid : Str) : ∀ (qs : List Params) (disk : List (Str × Store V)),
    (∀ q ∈ qs, (cellGet disk (fileOf pid q) (mmapKey q)).isSome = true) →
    qs.foldl (fun d q => dConstruct vo d (fileOf pid q) (mmapKey q)) disk = disk
  | [], _, _ => rfl
  | q :: qs, disk, h => by
    simp only [List.foldl_cons]
    have : dConstruct vo disk (fileOf pid q) (mmapKey q) = disk := by
      unfold dConstruct; rw [if_pos (h q List.mem_cons_self)]
    rw [this]
    exact foldl_dConstruct_existing vo pid qs disk (fun q' hq' => h q' (List.mem_cons_of_mem _ hq'))


theorem vinv_construct {vo : VOps V} {pid : Str} {st : St V} (h : VInv vo pid st) (p : Params)
    (hnew : idOf p ∉ idsOf st) :
    VInv vo pid (step vo st (.construct p)).1 ∧
      (step vo st (.construct p)).1.values.map (·.params) = st.values.map (·.params) ++ [p] ∧
      (∀ fn k, cellVal vo (step vo st (.construct p)).1.disk fn k = cellVal vo st.disk fn k) := by
  obtain ⟨hH, hparams, hdisk⟩ := construct_disk h.toHInv p
  have hnone := cellGet_none_of_new h p hnew
  have hd : (step vo st (.construct p)).1.disk
      = AL.set st.disk (fileOf pid p) (AL.set (storeOf st.disk (fileOf pid p)) (mmapKey p) (vo.zero, vo.zero)) := by
    rw [hdisk]
    unfold dConstruct
    rw [hnone]
    rfl
  have hu : (idsOf (step vo st (.construct p)).1).Nodup := by
    rw [idsOf_eq, hparams, List.map_append, ← idsOf_eq]
    exact nodup_concat h.uniq hnew
  refine ⟨⟨hH, hu, ?_, ?_, ?_⟩, hparams, fun fn k => by simpa using step_cell vo st (.construct p) h.inv trivial fn k⟩
  · intro fn
    rw [hd, storeOf_set, hparams, List.filter_append, List.filter_cons, List.filter_nil, List.map_append, ← h.keys]
    by_cases e : fileOf pid p = fn
    · subst e
      simp only [decide_true, if_true, List.map_cons, List.map_nil]
      rw [AL.keys_set]
      have : mmapKey p ∉ AL.keys (storeOf st.disk (fileOf pid p)) :=
        (AL.get?_eq_none_iff (storeOf st.disk (fileOf pid p)) (mmapKey p)).mp hnone
      rw [if_neg this]
    · simp only [e, decide_false, if_false, Bool.false_eq_true, List.map_nil, List.append_nil]
  · intro fn hfn
    rw [hd] at hfn
    rw [hparams]
    rcases (AL.mem_keys_set _ _ _ _).mp hfn with e | e
    · exact ⟨p, by simp, e.symm⟩
    · obtain ⟨q, hq, hqe⟩ := h.origin fn e
      exact ⟨q, List.mem_append_left _ hq, hqe⟩
  · rw [hd]
    exact AL.nodup_set _ _ _ h.nodupFiles

theorem run_constructs (vo : VOps V) (pid : Str) : ∀ (qs : List Params) (st : St V), VInv vo pid st →
    (qs.map idOf).Nodup → (∀ q ∈ qs, idOf q ∉ idsOf st) →
    VInv vo pid (run vo st (qs.map Op.construct)) ∧
      (run vo st (qs.map Op.construct)).values.map (·.params) = st.values.map (·.params) ++ qs ∧
      (∀ fn k, cellVal vo (run vo st (qs.map Op.construct)).disk fn k = cellVal vo st.disk fn k)
  | [], st, h, _, _ => ⟨h, by simp [run], fun _ _ => rfl⟩
  | q :: qs, st, h, hnd, hnew => by
    simp only [List.map_cons, List.nodup_cons] at hnd
    obtain ⟨h1, hp1, hc1⟩ := vinv_construct h q (hnew q List.mem_cons_self)
    have hnew' : ∀ q' ∈ qs, idOf q' ∉ idsOf (step vo st (.construct q)).1 := by
      intro q' hq' hm
      rw [idsOf_eq, hp1, List.map_append, ← idsOf_eq] at hm
      rcases List.mem_append.mp hm with hm | hm
      · exact hnew q' (List.mem_cons_of_mem _ hq') hm
      · have e : idOf q' = idOf q := List.mem_singleton.mp hm
        exact hnd.1 (e ▸ List.mem_map_of_mem hq')
    obtain ⟨h2, hp2, hc2⟩ := run_constructs vo pid qs _ h1 hnd.2 hnew'
    simp only [List.map_cons, run_cons]
    exact ⟨h2, by rw [hp2, hp1]; simp, fun fn k => by rw [hc2, hc1]⟩


theorem cellVal_dUpd (vo : VOps V) (pid : Str) (cells : List Params) (hnd : (cells.map mmapKey).Nodup)
    (disk : List (Str × Store V)) (f : Nat → V × V)
    (hf : ∀ j p, cells[j]? = some p → cellVal vo disk (fileOf pid p) (mmapKey p) = f j) (u : CellUpd V) :
    (∀ fn k, (∀ p ∈ cells, ¬ (fileOf pid p = fn ∧ mmapKey p = k)) →
        cellVal vo (dUpd vo pid cells disk u) fn k = cellVal vo disk fn k) ∧
      (∀ j p, cells[j]? = some p → cellVal vo (dUpd vo pid cells disk u) (fileOf pid p) (mmapKey p) = pairUpd vo f u j) := by
  unfold dUpd pairUpd
  cases hc : cells[updPos u]? with
  | none =>
    refine ⟨fun _ _ _ => rfl, fun j p hj => ?_⟩
    rw [if_neg (fun e => by rw [e, hc] at hj; cases hj)]
    exact hf j p hj
  | some q =>
    refine ⟨fun fn k hno => ?_, fun j p hj => ?_⟩
    · rw [cellVal_writeValue, if_neg (hno q (List.mem_of_getElem? hc))]
    · rw [cellVal_writeValue, hf _ q hc]
      by_cases e : j = updPos u
      · subst e
        rw [hc] at hj
        cases hj
        rw [if_pos ⟨rfl, rfl⟩, if_pos rfl]
      · rw [if_neg e, if_neg, hf j p hj]
        rintro ⟨_, ek⟩
        have e1 : (cells.map mmapKey)[updPos u]? = some (mmapKey q) := by rw [List.getElem?_map, hc]; rfl
        have e2 : (cells.map mmapKey)[j]? = some (mmapKey p) := by rw [List.getElem?_map, hj]; rfl
        exact nodup_getElem?_ne _ hnd j (updPos u) _ _ e2 e1 e ek.symm

theorem run_updates (vo : VOps V) (pid : Str) (ps cells : List Params) (hcells : ∀ p ∈ cells, p ∈ ps)
    (hnd : (cells.map mmapKey).Nodup) : ∀ (us : List (CellUpd V)) (st : St V) (f : Nat → V × V), VInv vo pid st →
    st.values.map (·.params) = ps →
    (∀ j p, cells[j]? = some p → cellVal vo st.disk (fileOf pid p) (mmapKey p) = f j) →
    VInv vo pid (run vo st (us.flatMap (toVop ps cells))) ∧
      (run vo st (us.flatMap (toVop ps cells))).values.map (·.params) = ps ∧
      (∀ fn k, (∀ p ∈ cells, ¬ (fileOf pid p = fn ∧ mmapKey p = k)) →
        cellVal vo (run vo st (us.flatMap (toVop ps cells))).disk fn k = cellVal vo st.disk fn k) ∧
      (∀ j p, cells[j]? = some p →
        cellVal vo (run vo st (us.flatMap (toVop ps cells))).disk (fileOf pid p) (mmapKey p) = pairsAfter vo f us j)
  | [], st, f, h, hps, hf => ⟨h, hps, fun _ _ _ => rfl, hf⟩
  | u :: us, st, f, h, hps, hf => by
    -- one object per (prefix, key): the object a call goes through is the youngest on its key
    have hinj : ∀ p ∈ cells, ∀ q ∈ ps, idOf q = idOf p → q = p := by
      have hu : (ps.map idOf).Nodup := by
        have := h.uniq
        rwa [idsOf_eq, hps] at this
      exact fun p hp q hq e => inj_of_nodup_map idOf ps hu q hq p (hcells p hp) e
    have hv1 : VInv vo pid (run vo st (toVop ps cells u)) ∧ (run vo st (toVop ps cells u)).values.map (·.params) = ps := by
      rw [run_toVop vo ps cells u st (by rw [h.hpid, h.hactual])]
      cases cells[updPos u]? with
      | none => exact ⟨h, hps⟩
      | some p =>
        obtain ⟨w1, w2⟩ := vinv_writeAt h (pidx p ps) (fun v => updVal vo u (v.value, v.ts))
        exact ⟨w1, w2.trans hps⟩
    have hd1 := (update_disk vo pid ps cells hcells hinj u st h.toHInv hps).2.2
    obtain ⟨c1, c2⟩ := cellVal_dUpd vo pid cells hnd st.disk f hf u
    rw [← hd1] at c1 c2
    obtain ⟨i1, i2, i3, i4⟩ := run_updates vo pid ps cells hcells hnd us _ (pairUpd vo f u) hv1.1 hv1.2 c2
    rw [List.flatMap_cons, run_append]
    exact ⟨i1, i2, fun fn k hno => by rw [i3 fn k hno, c1 fn k hno], i4⟩

end PromVerif.Lemmas.Backends
