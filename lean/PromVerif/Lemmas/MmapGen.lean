/-
C11: generations — a file left behind by a crashed writer is taken over by a new writer that crashes again, any number of
times.  `Good` is the closed class of files this produces; every member is readable and reopenable.
-/
import PromVerif.Lemmas.MmapStep
namespace PromVerif.Lemmas.Mmap
open PromVerif.Py PromVerif.Model.MmapDict PromVerif.Generated.Mmap
open PromVerif.Spec.MmapDict (Store PrefixFrom)

/-- absent, zero-length, sized but without header, or header + entries with distinct keys + anything -/
def Good (f : Option Bytes) : Prop :=
  f = none ∨ f = some [] ∨ (∃ n, 8 ≤ n ∧ f = some (zeros n)) ∨ ∃ file es, f = some file ∧ CutRep file es

def tr3 (items : List Item) : Store := items.map fun x => (x.1, x.2.1, x.2.2.1)

theorem CutRep.read {file es} (hc : CutRep file es) (page : Nat) (hp : 4 ≤ page) :
    ∃ items, readAllValuesFromFile page file = .ok items ∧ tr3 items = triples es := by
  obtain ⟨u, tl, hfr, _⟩ := hc
  exact ⟨_, hfr.fromFile_ok page hp, scanOut_triples es 8⟩

/-- what the collector's reader returns on the file (nothing for an absent file) -/
def contentOf (page : Nat) : Option Bytes → Store
  | none => []
  | some b => match readAllValuesFromFile page b with
    | .ok items => tr3 items
    | .error _ => []

/-- the generation's history fits below 2^31 bytes on top of what the new writer found -/
def GenFits (initSize : Nat) (f : Option Bytes) (ops : List Op) : Prop :=
  ∃ d0 tr0, init initSize (f.getD []) = .ok (d0, tr0) ∧ d0.used + need (d0.positions.map (·.1)) ops < 2147483648

/-- what every state of a generation satisfies: it is `Good`, and if the file exists the reader returns a prefix state of
the generation's history started from `c0` -/
def CutOK (page : Nat) (c0 : Store) (sops : List Spec.MmapDict.Op) (s : Option Bytes) : Prop :=
  Good s ∧ ∀ file, s = some file → ∃ items, readAllValuesFromFile page file = .ok items ∧ PrefixFrom c0 sops (tr3 items)

theorem cutOK_of_cutrep {page c0 sops file esx} (hp : 4 ≤ page) (hc : CutRep file esx)
    (hpre : PrefixFrom c0 sops (triples esx)) : CutOK page c0 sops (some file) := by
  refine ⟨Or.inr (Or.inr (Or.inr ⟨file, esx, rfl, hc⟩)), ?_⟩
  intro file' h; cases h
  obtain ⟨items, hrd, ht⟩ := hc.read page hp
  exact ⟨items, hrd, ht ▸ hpre⟩

theorem cutOK_empty {page sops} : CutOK page [] sops (some []) :=
  ⟨Or.inr (Or.inl rfl), by intro file h; cases h; exact ⟨[], fromFile_empty page, prefixFrom_here _ _⟩⟩

theorem cutOK_zeros {page sops n} (hn : 8 ≤ n) (hp : 4 ≤ page) : CutOK page [] sops (some (zeros n)) :=
  ⟨Or.inr (Or.inr (Or.inl ⟨n, hn, rfl⟩)),
   by intro file h; cases h; exact ⟨[], fromFile_zeros page n hp, prefixFrom_here _ _⟩⟩

theorem cutOK_none {page c0 sops} : CutOK page c0 sops none := ⟨Or.inl rfl, by intro file h; cases h⟩

theorem contentOf_cutrep {page file es} (hp : 4 ≤ page) (hc : CutRep file es) : contentOf page (some file) = triples es := by
  obtain ⟨items, hrd, ht⟩ := hc.read page hp
  simp only [contentOf, hrd, ht]

/-- THE CONSTRUCTOR ON A `Good` FILE.  A new writer opens whatever is there: the store it gets is represented and holds
what the collector's reader returns on the file it found; every state on the way (no file, zero length, sized without
header) is `Good` and reads as that content, which is empty unless the file was represented already. -/
theorem ctor_ok (initSize page : Nat) (hi : 8 ≤ initSize) (hp : 4 ≤ page) {f : Option Bytes} (hg : Good f)
    (sops : List Spec.MmapDict.Op) :
    ∃ d0 tr0 es0 tl0, init initSize (f.getD []) = .ok (d0, tr0) ∧ Rep d0 es0 tl0 ∧ triples es0 = contentOf page f ∧
      applyEffects f ((if f.isNone then [Effect.createEmpty] else []) ++ tr0) = some d0.file ∧
      ∀ s ∈ states f ((if f.isNone then [Effect.createEmpty] else []) ++ tr0), CutOK page (contentOf page f) sops s := by
  have hhdr : ∀ n, 8 ≤ n → ∀ s ∈ states (some (zeros n)) [.sliceWrite 0 (le 4 8)], CutOK page [] sops s := by
    intro n hn s hs
    simp only [states, applyEffect, Option.map_some, sliceWrite_header_zeros n hn, List.mem_cons, List.not_mem_nil,
      or_false] at hs
    rcases hs with rfl | rfl
    · exact cutOK_zeros hn hp
    · exact cutOK_of_cutrep hp (freshStore_rep n hn).cutRep (prefixFrom_here _ _)
  have hsized : ∀ s ∈ states (some []) [.truncate initSize, .sliceWrite 0 (le 4 8)], CutOK page [] sops s := by
    intro s hs
    rcases List.mem_cons.mp hs with rfl | hs
    · exact cutOK_empty
    · exact hhdr initSize hi s (by simpa [applyEffect, truncate] using hs)
  rcases hg with rfl | rfl | ⟨n, hn, rfl⟩ | ⟨file, es, rfl, hc⟩
  · refine ⟨_, _, [], _, init_fresh initSize hi, freshStore_rep initSize hi, rfl, applyEffects_ctor initSize hi [], ?_⟩
    intro s hs
    rcases List.mem_cons.mp hs with rfl | hs
    · exact cutOK_none
    · exact hsized s hs
  · -- zero length: `applyEffects_ctor` read after its first effect, the creation
    have hc0 : contentOf page (some []) = [] := by simp [contentOf, fromFile_empty, tr3]
    rw [hc0]
    exact ⟨_, _, [], _, init_fresh initSize hi, freshStore_rep initSize hi, rfl,
      applyEffects_ctor initSize hi [], hsized⟩
  · have hc0 : contentOf page (some (zeros n)) = [] := by simp [contentOf, fromFile_zeros page n hp, tr3]
    rw [hc0]
    exact ⟨_, _, [], _, init_zeros initSize n hn, freshStore_rep n hn, rfl,
      by simp [applyEffects, applyEffect, sliceWrite_header_zeros n hn, freshStore], hhdr n hn⟩
  · obtain ⟨d0, tl, hinit, hr, rfl⟩ := init_cutrep hc initSize
    refine ⟨d0, [], es, tl, hinit, hr, (contentOf_cutrep hp hr.cutRep).symm, rfl, ?_⟩
    intro s hs
    simp only [Option.isNone_some, Bool.false_eq_true, if_false, List.nil_append, states, List.mem_singleton] at hs
    rw [hs, contentOf_cutrep hp hr.cutRep]
    exact cutOK_of_cutrep hp hr.cutRep (prefixFrom_here _ _)

/-- ONE GENERATION.  From any `Good` file, a new writer that runs any history that fits: the run succeeds, and every state
the file goes through — every cut — is `Good` again and reads as a prefix state of this generation's history started from
what the new writer found. -/
theorem gen_step (initSize page : Nat) (hi : 8 ≤ initSize) (hp : 4 ≤ page) {f : Option Bytes} (hg : Good f)
    (ops : List Op) (hfit : GenFits initSize f ops) :
    ∃ d effs, genRun initSize f ops = .ok (d, effs) ∧
      ∀ s ∈ states f effs, CutOK page (contentOf page f) (ops.map toSpec) s := by
  obtain ⟨d0, tr0, es0, tl0, hinit, hr, hc0, hfin, hcuts0⟩ := ctor_ok initSize page hi hp hg (ops.map toSpec)
  obtain ⟨d0', tr0', hinit', hfit⟩ := hfit
  rw [hinit] at hinit'; cases hinit'
  obtain ⟨d, tr, _, _, hrun, _, _, _, _, _, hcuts⟩ := runFrom_ok initSize ops hr (hr.keys_eq ▸ hfit)
  refine ⟨d, (if f.isNone then [Effect.createEmpty] else []) ++ tr0 ++ tr,
    by simp only [genRun, hinit, hrun, bind, Except.bind], ?_⟩
  intro s hs
  rcases mem_states_append.mp hs with hs | hs
  · exact hcuts0 s hs
  · rw [hfin] at hs
    obtain ⟨file, rfl, esx, hc, hpre⟩ := hcuts s hs
    rw [← hc0]
    exact cutOK_of_cutrep hp hc hpre

/-- files reachable by any number of generations: writers that open what is there, run a history that fits, and stop dead
after an arbitrary number of file effects -/
inductive Reach : Option Bytes → Prop
  | start : Reach none
  | crash {f : Option Bytes} (initSize : Nat) (hi : 8 ≤ initSize) (ops : List Op) (k : Nat) :
      Reach f → GenFits initSize f ops → Reach (genCut initSize f ops k)

theorem genCut_ok (initSize page : Nat) (hi : 8 ≤ initSize) (hp : 4 ≤ page) {f : Option Bytes} (hg : Good f)
    (ops : List Op) (hfit : GenFits initSize f ops) (k : Nat) :
    CutOK page (contentOf page f) (ops.map toSpec) (genCut initSize f ops k) := by
  obtain ⟨d, effs, hrun, hall⟩ := gen_step initSize page hi hp hg ops hfit
  simp only [genCut, hrun]
  exact hall _ (cut_mem_states f effs k)

theorem reach_good {f : Option Bytes} (h : Reach f) : Good f := by
  induction h with
  | start => exact Or.inl rfl
  | crash initSize hi ops k _ hfit ih => exact (genCut_ok initSize 4 hi (Nat.le_refl 4) ih ops hfit k).1

theorem good_usable (initSize page : Nat) (hi : 8 ≤ initSize) (hp : 4 ≤ page) {file : Bytes} (hg : Good (some file)) :
    (∃ items, readAllValuesFromFile page file = .ok items) ∧
    ∃ d' tr' es tl, init initSize file = .ok (d', tr') ∧ Rep d' es tl := by
  obtain ⟨d0, tr0, es0, tl0, hinit, hr, _, _, hcuts0⟩ := ctor_ok initSize page hi hp hg []
  obtain ⟨items, hrd, _⟩ := (hcuts0 _ (head_mem_states _ _)).2 file rfl
  exact ⟨⟨items, hrd⟩, d0, tr0, es0, tl0, hinit, hr⟩

end PromVerif.Lemmas.Mmap
