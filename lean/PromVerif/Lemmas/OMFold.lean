/-
Totality of the line/family fold of the OpenMetrics parser model: nothing but ValueError escapes, and the loops run
within their fuel.  In order: the per-sample checks and `_check_histogram` on samples as `_parse_sample` produces them;
`build_metric` on the sample lists the fold builds; the invariant of the fold (`Inv`) and one step of it; from the
text of a line to what the fold needs of its tokenised form (`LineOK`); the composition `omParse_safe`.
-/
import PromVerif.Lemmas.OMTotal
import PromVerif.Lemmas.OMDoom
import PromVerif.Lemmas.OMHist
import PromVerif.Lemmas.OMGroup
import PromVerif.Lemmas.OMNh

namespace PromVerif.Lemmas.OM
open PromVerif.Py PromVerif.Model.ParseCore PromVerif.Model.Validation PromVerif.Model.OMParse PromVerif.Generated.OMParse
open PromVerif.Lemmas.TextParse PromVerif.Lemmas.TextTotal

/-- a sample as `_parse_sample` returns it: labels and value are set -/
def Plain (s : OSample) : Prop := s.labels.isSome = true ∧ s.value.isSome = true

/-- interpreter fact used by the `le` test: `float("NaN")` is a NaN -/
def NaNLiteral (P : Params) : Prop := ∀ f, P.pyFloat sNaN = some f → P.isNaN f = true

theorem safe_raiseIfM (c : PyM Bool) (h : Safe c) : Safe (raiseIfM c) := by
  unfold raiseIfM
  refine safe_cases h safe_valueError fun b _ => ?_
  cases b with
  | true => exact safe_valueError
  | false => exact safe_ok _

theorem safe_isUncanonical (P : Params) (s : Str) : Safe (isUncanonicalNumber P s) := by
  unfold isUncanonicalNumber
  apply safe_bind (safe_floatE P s)
  intro f _
  split <;> exact safe_pure _

theorem safe_cmpOpt_some (P : Params) (op : CmpOp) (a b : Num) : Safe (P.cmpOpt op (some a) (some b)) := safe_ok _

/-- comparing two timestamps raises nothing: `Timestamp` coerces a non-Timestamp operand (007bfee) and falls back to
comparing the seconds when the conversion overflows (a186a64) -/
theorem safe_tsGt (P : Params) (a b : OTs) : Safe (tsGt P a b) := by
  have h1 : tsCoerce = true := by decide
  have h2 : tsOverflowFallback = true := by decide
  cases a with
  | stamp s n =>
    cases b with
    | stamp s2 n2 =>
      simp only [tsGt]
      split
      · split <;> exact safe_ok _
      · exact safe_ok _
    | flt f =>
      simp only [tsGt, h1, h2, if_true]
      split <;> exact safe_ok _
  | flt f =>
    cases b with
    | stamp s n =>
      simp only [tsGt, h1, h2, if_true]
      split <;> exact safe_ok _
    | flt g => exact safe_ok _

theorem safe_chkGroupTs (P : Params) (t : Str) (g s : Option OTs) : Safe (chkGroupTs P t g s) := by
  unfold chkGroupTs
  refine safe_ite safe_valueError ?_
  cases g with
  | none => exact safe_ok _
  | some a =>
    cases s with
    | none => exact safe_ok _
    | some b =>
      dsimp only
      exact safe_cases (safe_tsGt P a b) safe_valueError fun gt _ => safe_raiseIf _

theorem safe_preChecks (P : Params) (n : Str) (typ : Option Str) (s : OSample) (hp : Plain s) (hnan : NaNLiteral P) :
    Safe (preChecks P n typ s) := by
  obtain ⟨hl, hv⟩ := hp
  obtain ⟨l, hl⟩ := Option.isSome_iff_exists.mp hl
  obtain ⟨v, hv⟩ := Option.isSome_iff_exists.mp hv
  unfold preChecks
  apply safe_runChecks
  intro c hc
  simp only [List.mem_cons, List.not_mem_nil, or_false] at hc
  have hni : Safe (raiseIfM (notIntegral P s.value)) := by
    apply safe_raiseIfM
    rw [hv]; cases v <;> exact safe_ok _
  rcases hc with rfl | rfl | rfl | rfl | rfl
  · unfold chkStatesetLabel
    refine safe_ite ?_ (safe_ok _)
    simp only [labelsOrType, hl]
    exact safe_raiseIf _
  · unfold chkLe
    refine safe_ite ?_ (safe_ok _)
    simp only [labelsOrAttr, hl]
    split
    · refine safe_ite ?_ safe_valueError
      refine safe_cases (safe_floatE P sNaN) safe_valueError fun f hf => ?_
      dsimp only
      have : P.isNaN f = true := by
        apply hnan
        unfold Params.floatE at hf
        split at hf
        · rename_i b hb; cases hf; exact hb
        · cases hf
      rw [if_pos this]; exact safe_valueError
    · rename_i le _
      have hu := safe_raiseIfM _ (safe_isUncanonical P le)
      refine safe_ite ?_ (safe_ite safe_valueError hu)
      exact safe_cases (safe_floatE P le) safe_valueError fun f _ => safe_ite safe_valueError hu
  · unfold chkBucketIntegral
    exact safe_ite hni (safe_ok _)
  · unfold chkCountIntegral
    exact safe_ite hni (safe_ok _)
  · unfold chkQuantile
    refine safe_ite ?_ (safe_ok _)
    simp only [labelsOrAttr, hl]
    split
    · exact safe_valueError
    · rename_i q _
      exact safe_cases (safe_floatE P q) safe_valueError fun f _ =>
        safe_ite safe_valueError (safe_raiseIfM _ (safe_isUncanonical P _))

theorem safe_postChecks (P : Params) (n : Str) (typ : Option Str) (s : OSample) (hp : Plain s) :
    Safe (postChecks P n typ s) := by
  obtain ⟨_, hv⟩ := hp
  obtain ⟨v, hv⟩ := Option.isSome_iff_exists.mp hv
  unfold postChecks
  apply safe_runChecks
  intro c hc
  simp only [List.mem_cons, List.not_mem_nil, or_false] at hc
  have hcmp : ∀ op b, Safe (raiseIfM (P.cmpOpt op s.value (some b))) := by
    intro op b
    rw [hv]
    exact safe_raiseIfM _ (safe_cmpOpt_some P _ _ _)
  rcases hc with rfl | rfl | rfl | rfl | rfl | rfl
  · exact safe_raiseIf _
  · unfold chkInfoValue
    exact safe_ite (hcmp _ _) (safe_ok _)
  · unfold chkSummaryNeg
    exact safe_ite (hcmp _ _) (safe_ok _)
  · unfold chkNaN
    refine safe_ite (safe_raiseIfM _ ?_) (safe_ok _)
    -- `isinstance(sample.value, float) and math.isnan(…)`: no conversion of an int (afb5815)
    have hflag : nanGuardsFloat = true := by decide
    unfold nanTest
    rw [if_pos hflag]
    split <;> exact safe_ok _
  · unfold chkNeg
    exact safe_ite (hcmp _ _) (safe_ok _)
  · exact safe_raiseIf _

theorem safe_groupStep (P : Params) (gr : Grp) (n : Str) (typ : Option Str) (s : OSample) (hp : Plain s)
    (hpre : preChecks P n typ s = .ok ()) : Safe (groupStep P gr n (typ.getD []) s) := by
  obtain ⟨l, hl⟩ := Option.isSome_iff_exists.mp hp.1
  obtain ⟨d, hd⟩ := groupForSample_guarded_some P n typ s l hl hpre
  unfold groupStep
  have : groupOf s n (typ.getD []) = .ok (sortByKey d) := by unfold groupOf; rw [hd]
  rw [this]
  dsimp only
  refine safe_cases (safe_raiseIf _) safe_valueError fun _ _ => ?_
  dsimp only
  refine safe_cases (safe_ite (safe_chkGroupTs P _ _ _) (safe_ok _)) safe_valueError fun _ _ => ?_
  dsimp only
  simp only [labelsOrAttr, hl]
  exact safe_ok _

theorem safe_sampleChecks (P : Params) (h : Hdr) (gr : Grp) (s : OSample) (n : Str) (hn : h.name = some n)
    (hp : Plain s) (hnan : NaNLiteral P) : Safe (sampleChecks P h gr s false) := by
  rw [sampleChecks_false, hn]
  dsimp only
  refine safe_cases (safe_preChecks P n h.typ s hp hnan) safe_valueError fun _ h1 => ?_
  dsimp only
  refine safe_cases (safe_groupStep P gr n h.typ s hp h1) safe_valueError fun gr' _ => ?_
  dsimp only
  exact safe_cases (safe_postChecks P n h.typ s hp) safe_valueError fun _ _ => safe_ok _

/-- what `_check_histogram` needs of a sample list of family `n`: native-histogram samples (skipped, 2c736ec) and
plain samples — one whose name continues `n` with `_bucket` is exactly `n_bucket` and carries an `le` label -/
def HistOK (n : Str) (samples : List OSample) : Prop :=
  ∀ s ∈ samples,
    (Plain s ∧ (s.name.drop n.length = sBucket → s.name = n ++ sBucket ∧ ∃ l le, s.labels = some l ∧ dictGet l sLe = some le))
    ∨ s.nh.isSome = true

theorem safe_doChecks (P : Params) (h : HSt) (hv : h.value.isSome = true) : Safe (doChecks P h) := by
  unfold doChecks
  apply safe_runChecks
  intro c hc
  simp only [List.mem_cons, List.not_mem_nil, or_false] at hc
  rcases hc with rfl | rfl | rfl | rfl | rfl | rfl | rfl
  · exact safe_raiseIf _
  · split
    · rename_i hc
      obtain ⟨c, hc⟩ := Option.isSome_iff_exists.mp hc
      obtain ⟨v, hv⟩ := Option.isSome_iff_exists.mp hv
      rw [hc, hv]
      exact safe_raiseIfM _ (safe_cmpOpt_some P _ _ _)
    · exact safe_ok _
  all_goals exact safe_raiseIf _

theorem safe_histReset (P : Params) (h : HSt) (g : Option Labels) (ts : Option OTs) (hv : h.value.isSome = true) :
    SafePost (fun h' => h'.value.isSome = true) (histReset P h g ts) := by
  unfold histReset
  refine safePost_ite ?_ (safePost_ok hv)
  exact safe_cases (safe_ite (safe_doChecks P h hv) (safe_ok _)) safePost_valueError fun _ _ => safePost_ok rfl

theorem groupForSample_hist_safe (n : Str) (s : OSample)
    (hb : s.name = n ++ sBucket → ∃ l le, s.labels = some l ∧ dictGet l sLe = some le) :
    ∃ g, groupForSample s n tHistogram = .ok g := by
  rw [groupForSample_eq, if_neg not_info, not_summary]
  simp only [Bool.false_and, Bool.false_eq_true, if_false, if_neg not_stateset]
  by_cases c : ((tHistogram == tHistogram || tHistogram == tGaugeHistogram) && s.name == n ++ sBucket) = true
  · rw [if_pos c]
    obtain ⟨l', le, hl', hle⟩ := hb (by simpa using c)
    rw [hl']
    exact ⟨_, delKey_some l' _ (dictHas_of_get l' _ le hle)⟩
  · rw [if_neg c]; exact ⟨_, rfl⟩

theorem safe_histBucket (P : Params) (h : HSt) (s : OSample) (le : Str) (hle : leOf s = .ok le)
    (hs : s.value.isSome = true) (hv : h.value.isSome = true) :
    SafePost (fun h' => h'.value.isSome = true) (histBucket P h s) := by
  obtain ⟨sv, hsv⟩ := Option.isSome_iff_exists.mp hs
  obtain ⟨v, hv⟩ := Option.isSome_iff_exists.mp hv
  unfold histBucket
  rw [hle]
  dsimp only
  refine safe_cases (safe_floatE P le) safePost_valueError fun b _ => ?_
  dsimp only
  refine safe_cases (safe_raiseIf _) safePost_valueError fun _ _ => ?_
  dsimp only
  rw [hsv, hv]
  exact safe_cases (safe_raiseIfM _ (safe_cmpOpt_some P _ sv v)) safePost_valueError fun _ _ => safePost_ok rfl

theorem safe_histStep (P : Params) (n : Str) (h : HSt) (s : OSample) (hp : Plain s)
    (hb : s.name.drop n.length = sBucket → s.name = n ++ sBucket ∧ ∃ l le, s.labels = some l ∧ dictGet l sLe = some le)
    (hv : h.value.isSome = true) :
    SafePost (fun h' => h'.value.isSome = true) (histStep P n h s) := by
  obtain ⟨g, hg⟩ := groupForSample_hist_safe n s (fun e => (hb (by rw [e]; simp)).2)
  unfold histStep
  refine safePost_ite (safePost_ok hv) ?_
  unfold histStepBody
  rw [hg]
  dsimp only
  refine safePost_ite (safePost_ok hv) ?_
  obtain ⟨hrs, hrv⟩ := safe_histReset P h g s.ts hv
  refine safe_cases hrs safePost_valueError fun h1 hr => ?_
  dsimp only
  have hv1 := hrv h1 hr
  by_cases c1 : (s.name.drop n.length == sBucket) = true
  · rw [if_pos c1]
    obtain ⟨_, l, le, hl, hle⟩ := hb (by simpa using c1)
    exact safe_histBucket P _ s le (by simp only [leOf, hl, hle]) hp.2 hv1
  · rw [if_neg c1]
    refine safePost_ite (safePost_ok hv1) (safePost_ite (safePost_ok hv1) (safePost_ite ?_ (safePost_ok hv1)))
    obtain ⟨sv, hsv⟩ := Option.isSome_iff_exists.mp hp.2
    rw [hsv]
    exact safePost_ok hv1

theorem safe_histLoop (P : Params) (n : Str) : ∀ (samples : List OSample) (h : HSt), HistOK n samples → h.value.isSome = true →
    SafePost (fun h' => h'.value.isSome = true) (histLoop P n h samples) := by
  intro samples
  induction samples with
  | nil => intro h _ hv; exact safePost_ok hv
  | cons s ss ih =>
    intro h hok hv
    have hstep : SafePost (fun h' => h'.value.isSome = true) (histStep P n h s) := by
      rcases hok s (List.mem_cons_self ..) with ⟨hp, hb⟩ | hnh
      · exact safe_histStep P n h s hp hb hv
      · -- `if s.native_histogram is not None: continue`
        have hflag : histSkipsNh = true := by decide
        unfold histStep
        rw [hflag, hnh]
        exact safePost_ok hv
    unfold histLoop
    exact safe_cases hstep.1 safePost_valueError fun h1 hst =>
      ih h1 (fun s' hs' => hok s' (List.mem_cons_of_mem _ hs')) (hstep.2 h1 hst)

theorem safe_checkHistogram (P : Params) (n : Str) (samples : List OSample) (hok : HistOK n samples) :
    Safe (checkHistogram P samples n) := by
  unfold checkHistogram
  obtain ⟨hs, hv⟩ := safe_histLoop P n samples {} hok rfl
  refine safe_cases hs safe_valueError fun h hl => ?_
  dsimp only
  split
  · exact safe_doChecks P h (hv h hl)
  · exact safe_ok _

theorem safe_flush (P : Params) (g : Glob) (h : Hdr) (samples : List OSample)
    (hok : ∀ n, h.name = some n → histTypes.contains (h.typ.getD tUnknown) = true → HistOK n samples) :
    Safe (flush P g h samples) := by
  unfold flush
  cases hn : h.name with
  | none => exact safe_ok _
  | some n =>
    dsimp only
    unfold buildMetric
    dsimp only
    refine safe_cases (safe_runChecks _ ?_) safe_valueError fun _ _ => safe_ok _
    intro c hc
    simp only [buildChecks, List.mem_cons, List.not_mem_nil, or_false] at hc
    rcases hc with rfl | rfl | rfl | rfl | rfl | rfl
    · exact safe_raiseIf _
    · exact safe_raiseIf _
    · exact safe_raiseIf _
    · split
      · rename_i hc
        exact safe_checkHistogram P n samples (hok n hn hc)
      · exact safe_ok _
    · exact safe_validateMetricName _ _
    · exact safe_raiseIf _

/-- a native-histogram sample as `_parse_nh_sample` returns it -/
def NhLine (s : OSample) : Prop := s.nh.isSome = true

/-- what the fold needs of a tokenised line: its own parsing raised at most ValueError; both readings of a sample
line raise at most ValueError; the native-histogram reading gives a sample carrying a native histogram, the plain
reading a sample with labels and a value -/
def LineOK : Line → Prop
  | .bad e => e = .valueError
  | .sample nh plain => SafePost (fun o => ∀ s, o = some s → NhLine s) nh ∧ SafePost Plain plain
  | _ => True

def isHist (h : Hdr) : Bool := histTypes.contains (h.typ.getD tUnknown)

def Prefixed (n : Str) (allowed : List Str) : Prop := ∀ x ∈ allowed, ∃ suf, x = n ++ suf

/-- the invariant of the fold -/
structure Inv (P : Params) (st : St) : Prop where
  plain : ∀ s ∈ st.grp.samples, Plain s ∨ NhLine s
  nameNone : st.hdr.name = none → st.hdr.allowed = []
  hist : ∀ n, st.hdr.name = some n → isHist st.hdr = true → Prefixed n st.hdr.allowed ∧ HistOK n st.grp.samples

theorem inv_init (P : Params) : Inv P {} :=
  ⟨(fun s hs => by cases hs), (fun _ => rfl), (fun n hn => by cases hn)⟩

theorem safe_applyMeta (h : Hdr) (kind c rest : Str) : Safe (applyMeta h kind c rest) := by
  rw [applyMeta_eq]
  exact safe_ite (safe_ite safe_valueError (safe_ok _))
    (safe_ite (safe_ite safe_valueError (safe_ite safe_valueError (safe_ok _)))
      (safe_ite (safe_ite safe_valueError (safe_ok _)) safe_valueError))

theorem applyMeta_prefix (h h' : Hdr) (kind c rest : Str) (hm : applyMeta h kind c rest = .ok h')
    (hp : isHist h = true → Prefixed c h.allowed) : isHist h' = true → Prefixed c h'.allowed := by
  rcases applyMeta_ok h h' kind c rest hm with ⟨_, _, rfl⟩ | ⟨_, _, rfl⟩ | ⟨_, _, rfl⟩
  · exact hp
  · intro _ x hx
    obtain ⟨suf, _, rfl⟩ := List.mem_map.mp hx
    exact ⟨suf, rfl⟩
  · exact hp

theorem unknownHdr_spec (s : OSample) :
    SafePost (fun h => (∃ c, h.name = some c) ∧ h.typ = some tUnknown ∧ h.allowed = [s.name]) (unknownHdr s) := by
  unfold unknownHdr
  refine safe_cases (unquoteUnescape_safe_all s.name) safePost_valueError fun p _ => ?_
  exact safePost_ite safePost_valueError (safePost_ok ⟨⟨_, rfl⟩, rfl, rfl⟩)

theorem groupStep_samples_sub (P : Params) (gr gr' : Grp) (n t : Str) (s : OSample) (h : groupStep P gr n t s = .ok gr') :
    ∀ x ∈ gr'.samples, x ∈ gr.samples ∨ x = s := by
  intro x hx
  rcases groupStep_appends P gr gr' n t s h with e | ⟨e, _⟩
  · rw [e] at hx; exact (List.mem_append.mp hx).imp id List.mem_singleton.mp
  · rw [e] at hx; exact Or.inl hx

theorem safe_pickSample (typ : Option Str) (nh : PyM (Option OSample)) (plain : PyM OSample)
    (hnh : Safe nh) (hp : Safe plain) : Safe (pickSample typ nh plain) := by
  unfold pickSample
  split
  · refine safe_cases hnh safe_valueError fun o _ => ?_
    cases o with
    | none => exact safe_map _ hp
    | some s' => exact safe_ok _
  · exact safe_map _ hp

theorem Inv.of_name {P : Params} {st : St} {c : Str} (hc : st.hdr.name = some c)
    (plain : ∀ s ∈ st.grp.samples, Plain s ∨ NhLine s)
    (hist : isHist st.hdr = true → Prefixed c st.hdr.allowed ∧ HistOK c st.grp.samples) : Inv P st := by
  refine ⟨plain, (fun h0 => by rw [hc] at h0; cases h0), fun n hn hh => ?_⟩
  rw [hc] at hn
  cases hn
  exact hist hh

theorem Inv.named {P : Params} {st : St} (hi : Inv P st) {x : Str} (hall : st.hdr.allowed.contains x = true) :
    ∃ n, st.hdr.name = some n := by
  cases hn : st.hdr.name with
  | some n => exact ⟨n, rfl⟩
  | none => rw [hi.nameNone hn] at hall; cases hall

theorem Inv.samples {P : Params} {st : St} (hi : Inv P st) (gr : Grp) (s : OSample)
    (hsub : ∀ x ∈ gr.samples, x ∈ st.grp.samples ∨ x = s) (hs : Plain s ∨ NhLine s)
    (hh : ∀ n, st.hdr.name = some n → Prefixed n st.hdr.allowed →
      (Plain s ∧ (s.name.drop n.length = sBucket → s.name = n ++ sBucket ∧ ∃ l le, s.labels = some l ∧ dictGet l sLe = some le))
      ∨ s.nh.isSome = true) :
    Inv P { st with grp := gr } := by
  refine ⟨fun x hx => ?_, hi.nameNone, fun n hn hist => ?_⟩
  · rcases hsub x hx with h1 | rfl
    · exact hi.plain x h1
    · exact hs
  · obtain ⟨hpre, hok⟩ := hi.hist n hn hist
    refine ⟨hpre, fun x hx => ?_⟩
    rcases hsub x hx with h1 | rfl
    · exact hok x h1
    · exact hh n hn hpre

theorem safe_stepMeta (P : Params) (st : St) (kind cand rest : Str)
    (hflush : Safe (flush P st.glob st.hdr st.grp.samples)) : Safe (stepMeta P st kind cand rest) := by
  unfold stepMeta
  refine safe_ite safe_valueError (safe_ite ?_ ?_)
  · refine safe_cases hflush safe_valueError fun g _ => ?_
    dsimp only
    exact safe_cases (safe_applyMeta _ kind cand rest) safe_valueError fun h _ => safe_ok _
  · exact safe_cases (safe_applyMeta st.hdr kind cand rest) safe_valueError fun h _ => safe_ok _

/-- a plain sample: the family it may open is named, so its checks are those of `safe_sampleChecks` -/
theorem safe_stepSample (P : Params) (hnan : NaNLiteral P) (st : St) (s : OSample) (hi : Inv P st) (hP : Plain s)
    (hflush : Safe (flush P st.glob st.hdr st.grp.samples)) : Safe (stepSample P st s false) := by
  unfold stepSample
  by_cases hno : (!st.hdr.allowed.contains s.name && !false) = true
  · rw [if_pos hno]
    refine safe_cases hflush safe_valueError fun g _ => ?_
    dsimp only
    refine safe_cases (unknownHdr_spec s).1 safe_valueError fun hd hu => ?_
    dsimp only
    obtain ⟨⟨c, hc⟩, _, _⟩ := (unknownHdr_spec s).2 hd hu
    exact safe_cases (safe_sampleChecks P hd {} s c hc hP hnan) safe_valueError fun gr _ => safe_ok _
  · rw [if_neg hno]
    obtain ⟨n, hn⟩ := hi.named (x := s.name) (by simpa using hno)
    exact safe_cases (safe_sampleChecks P st.hdr st.grp s n hn hP hnan) safe_valueError fun gr _ => safe_ok _

theorem stepSample_nh (P : Params) (st : St) (s : OSample) :
    stepSample P st s true = .ok { st with grp := { st.grp with samples := st.grp.samples ++ [s] } } := by
  simp only [stepSample, Bool.not_true, Bool.and_false, Bool.false_eq_true, if_false, sampleChecks_nh]

/-- a metadata line keeps the invariant: it opens a family that has no sample yet, or adds to the header of the current
family, which has none either (`stepMeta_late`) -/
theorem inv_stepMeta {P : Params} {st st' : St} {kind cand rest : Str} (hi : Inv P st)
    (hm : stepMeta P st kind cand rest = .ok st') : Inv P st' := by
  rcases stepMeta_ok P st st' _ _ _ hm with ⟨_, g, hd, _, ha, rfl⟩ | ⟨hn, hd, ha, rfl⟩
  · refine Inv.of_name (c := cand) (applyMeta_name _ _ _ _ _ ha) (fun s hs => by cases hs) fun hh => ?_
    refine ⟨applyMeta_prefix _ _ _ _ _ ha (fun _ x hx => ?_) hh, (fun s hs => by cases hs)⟩
    simp only [List.mem_singleton] at hx
    exact ⟨[], by rw [hx]; simp⟩
  · have hemp : st.grp.samples = [] := by
      cases hsm : st.grp.samples with
      | nil => rfl
      | cons a b =>
        rw [stepMeta_late P st kind cand rest hn (by rw [hsm]; simp)] at hm; cases hm
    refine Inv.of_name (c := cand) ((applyMeta_name _ _ _ _ _ ha).trans hn) hi.plain fun hh => ?_
    refine ⟨applyMeta_prefix _ _ _ _ _ ha (fun h0 => (hi.hist cand hn h0).1) hh, ?_⟩
    show HistOK cand st.grp.samples
    rw [hemp]; intro s hs; cases hs

theorem inv_stepNh {P : Params} {st st' : St} {s : OSample} (hi : Inv P st) (hN : NhLine s)
    (hss : stepSample P st s true = .ok st') : Inv P st' := by
  rw [stepSample_nh] at hss
  obtain rfl := Except.ok.inj hss
  exact hi.samples _ s (fun x hx => (List.mem_append.mp hx).imp id List.mem_singleton.mp) (Or.inr hN) (fun _ _ _ => Or.inr hN)

/-- a plain sample keeps the invariant: either it opens a family of type `unknown`, of which nothing is asked, or it passed
the checks of the current family, and those leave an `le` label on a `<name>_bucket` sample -/
theorem inv_stepPlain {P : Params} {st st' : St} {s : OSample} (hi : Inv P st) (hP : Plain s)
    (hss : stepSample P st s false = .ok st') : Inv P st' := by
  rcases stepSample_ok P st st' s false hss with ⟨_, g, hd, gr, _, hu, hsc, rfl⟩ | ⟨hno, gr, hsc, rfl⟩
  · obtain ⟨⟨c, hc⟩, hty, _⟩ := (unknownHdr_spec s).2 hd hu
    obtain ⟨_, hgs, _⟩ := sampleChecks_passed P hd {} gr s c hc hsc
    have hsub := groupStep_samples_sub P {} gr c _ s hgs
    refine Inv.of_name hc (fun x hx => ?_) fun hh => ?_
    · rcases hsub x hx with h1 | rfl
      · cases h1
      · exact Or.inl hP
    · rw [isHist, hty] at hh
      exact absurd hh (by decide)
  · have hall : st.hdr.allowed.contains s.name = true := by simpa using hno
    obtain ⟨n, hn⟩ := hi.named hall
    obtain ⟨hpre, hgs, _⟩ := sampleChecks_passed P st.hdr st.grp gr s n hn hsc
    have hsub := groupStep_samples_sub P st.grp gr n _ s hgs
    refine hi.samples gr s hsub (Or.inl hP) fun n' hn' hpre' => Or.inl ⟨hP, fun hdrop => ?_⟩
    rw [hn] at hn'
    cases hn'
    obtain ⟨suf, hsuf⟩ := hpre' s.name (by simpa using hall)
    have hsb : suf = sBucket := by rw [hsuf] at hdrop; simpa using hdrop
    rw [hsb] at hsuf
    obtain ⟨l, hl⟩ := Option.isSome_iff_exists.mp hP.1
    obtain ⟨le, hle⟩ := chkLe_ok_has P n s l hl hsuf.symm (runChecks_ok_mem _ hpre (chkLe P n s) (by simp))
    exact ⟨hsuf, l, le, hl, hle⟩

theorem step_safe (P : Params) (hnan : NaNLiteral P) (st : St) (l : Line) (hi : Inv P st) (hl : LineOK l) :
    SafePost (Inv P) (stepLine P st l) := by
  have hflush : Safe (flush P st.glob st.hdr st.grp.samples) :=
    safe_flush P _ _ _ (fun n hn hh => (hi.hist n hn hh).2)
  unfold stepLine
  refine safePost_ite safePost_valueError ?_
  cases l with
  | blank => exact safePost_valueError
  | eof => exact safePost_ok ⟨hi.plain, hi.nameNone, hi.hist⟩
  | bad e => rw [show e = .valueError from hl]; exact safePost_valueError
  | metadata kind cand rest => exact ⟨safe_stepMeta P st kind cand rest hflush, fun _ hm => inv_stepMeta hi hm⟩
  | sample nh plain =>
    obtain ⟨⟨hnh, hnl⟩, hsp, hpl⟩ := hl
    dsimp only
    refine safe_cases (safe_pickSample st.hdr.typ nh plain hnh hsp) safePost_valueError fun p hp => ?_
    obtain ⟨s, isNh⟩ := p
    dsimp only
    rcases pickSample_inv _ _ _ s isNh hp with ⟨rfl, hnhs⟩ | ⟨rfl, hplain⟩
    · exact ⟨by rw [stepSample_nh]; exact safe_ok _, fun _ hss => inv_stepNh hi (hnl _ hnhs s rfl) hss⟩
    · exact ⟨safe_stepSample P hnan st s hi (hpl s hplain) hflush, fun _ hss => inv_stepPlain hi (hpl s hplain) hss⟩

theorem run_safe (P : Params) (hnan : NaNLiteral P) : ∀ (ls : List Line) (st : St), Inv P st → (∀ l ∈ ls, LineOK l) →
    SafePost (Inv P) (run P st ls) := by
  intro ls
  induction ls with
  | nil => intro st hi _; exact safePost_ok hi
  | cons l ls ih =>
    intro st hi hl
    obtain ⟨hs, hinv⟩ := step_safe P hnan st l hi (hl l (List.mem_cons_self ..))
    unfold run
    exact safe_cases hs safePost_valueError fun st1 hst =>
      ih st1 (hinv st1 hst) (fun l' hl' => hl l' (List.mem_cons_of_mem _ hl'))

theorem assemble_safe (P : Params) (hnan : NaNLiteral P) (ls : List Line) (hl : ∀ l ∈ ls, LineOK l) : Safe (assemble P ls) := by
  obtain ⟨hs, hinv⟩ := run_safe P hnan ls {} (inv_init P) hl
  unfold assemble
  refine safe_cases hs safe_valueError fun st hr => ?_
  dsimp only
  have hi := hinv st hr
  unfold finish
  refine safe_cases (safe_flush P st.glob st.hdr st.grp.samples fun n hn hh => (hi.hist n hn hh).2) safe_valueError
    fun g _ => ?_
  dsimp only
  split
  · exact safe_valueError
  · exact safe_ok _

theorem parseSample_plain (P : Params) (text : Str) : Post Plain (parseSample P text) := by
  unfold parseSample
  dsimp only
  refine post_ite ?_ ?_
  · refine post_ite (post_throw_bind _ _) ?_
    apply post_bind; intro x
    exact post_pure _ ⟨rfl, rfl⟩
  · apply post_bind; intro labels
    apply post_bind; intro x
    apply post_bind; intro y
    exact post_pure _ ⟨rfl, rfl⟩

theorem parseNhLine_spec (P : Params) (hd : DigitsNotSpace P) (line : Str) :
    SafePost (fun o => ∀ s, o = some s → NhLine s) (parseNhLine P line) := by
  obtain ⟨suff, hs⟩ := parseNhLine_eq P
  rw [hs]
  exact (parseNhSample_spec P hd line suff).imp fun o h s hs => (h s hs).1

theorem parseLine_ok (P : Params) (hd : DigitsNotSpace P) (line : Str) : LineOK (parseLine P line) := by
  unfold parseLine
  split
  · trivial
  · split
    · trivial
    · split
      · split
        · split
          · rename_i e h
            exact unquoteUnescape_safe_all _ e h
          · split
            · rfl
            · trivial
        · rfl
      · exact ⟨parseNhLine_spec P hd line, parseSample_safe P line, parseSample_plain P line⟩

/-- **the OpenMetrics parser model is total**: on every text, for all number parameters and regex classes with
`float("NaN")` a NaN and no whitespace digit, it returns families or ValueError -/
theorem omParse_safe (P : Params) (hnan : NaNLiteral P) (hd : DigitsNotSpace P) (text : Str) : Safe (omParse P text) := by
  unfold omParse
  apply assemble_safe P hnan
  intro l hl
  obtain ⟨line, _, rfl⟩ := List.mem_map.mp hl
  exact parseLine_ok P hd line

end PromVerif.Lemmas.OM
