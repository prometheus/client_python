/-
The model state is an abstraction of the history of accepted calls.
`metricOf d h` is the metric object whose every child is the replay, from `_metric_init`, of the calls accepted since
the child was created; `stepM_abs`: one model step on `metricOf d h` lands on `metricOf d h'` where `h'` records what
the step accepted.
-/
import PromVerif.Lemmas.MetricsLabels

namespace PromVerif.Lemmas.Metrics
open PromVerif.Py PromVerif.Model.Metrics PromVerif.Generated.Metrics
open PromVerif.Spec.Metrics (Hist keyOf appendAt recordOn modifyNth record history)

variable {V : Type} [Val V]

/-- replay of accepted calls on a fresh child -/
def childOf (d : Decl V) (acts : List (Action V)) : Child V :=
  acts.foldl (fun c a => upd d a c) (metricInit d.kind)

theorem childOf_nil (d : Decl V) : childOf d [] = metricInit d.kind := rfl

theorem childOf_snoc (d : Decl V) (acts : List (Action V)) (a : Action V) :
    childOf d (acts ++ [a]) = upd d a (childOf d acts) := by
  simp [childOf, List.foldl_append]

def metricOf (d : Decl V) (h : Hist V) : Metric V :=
  { decl := d
    single := if d.labelnames.isEmpty then some (childOf d h.single) else none
    children := h.table.map (fun kh => (kh.1, childOf d kh.2)) }

theorem fresh_eq_metricOf (d : Decl V) : Metric.fresh d = metricOf d Hist.empty := by
  simp [Metric.fresh, metricOf, Hist.empty, childOf_nil]

/-- every recorded call was accepted -/
def AllOk (d : Decl V) (h : Hist V) : Prop :=
  (d.labelnames.isEmpty = true → ∀ a ∈ h.single, okAct d a) ∧ ∀ kh ∈ h.table, ∀ a ∈ kh.2, okAct d a

theorem allOk_empty (d : Decl V) : AllOk d Hist.empty := by
  simp [AllOk, Hist.empty]

/-- what one step on a metric object contributes to its history of accepted calls -/
def acceptedM (m : Metric V) (op : Op V) : Option (Op V) :=
  match (stepM m op).2 with
  | .ok => some op
  | .raised _ =>
    match op.touchOf with
    | some t => if (stepM m t).2 = .ok then some t else none
    | none => none


theorem treplace_getChild (d : Decl V) (s : Option (Child V)) (key : List Str) (act : Action V)
    (t : List (List Str × List (Action V))) :
    treplace key (upd d act (getChild ⟨d, s, t.map (fun kh => (kh.1, childOf d kh.2))⟩ key).2)
        (getChild ⟨d, s, t.map (fun kh => (kh.1, childOf d kh.2))⟩ key).1.children
      = (appendAt key act t).map (fun kh => (kh.1, childOf d kh.2)) := by
  induction t with
  | nil => simp [getChild, tlookup, treplace, appendAt, childOf]
  | cons kh t ih =>
    by_cases hk : kh.1 = key
    · simp [getChild, tlookup, treplace, appendAt, hk, childOf_snoc]
    · cases hl : tlookup key (t.map (fun kh => (kh.1, childOf d kh.2))) <;>
        simp [getChild, tlookup, treplace, appendAt, hk, hl] at ih ⊢ <;> exact ih

omit [Val V] in
theorem forall_appendAt {Q R : List (Action V) → Prop} (k : List Str) (a : Action V) (hold : ∀ l, Q l → R l)
    (hsnoc : ∀ l, Q l → R (l ++ [a])) (hnew : R [a]) (t : List (List Str × List (Action V)))
    (hall : ∀ kh ∈ t, Q kh.2) : ∀ kh ∈ appendAt k a t, R kh.2 := by
  induction t with
  | nil => intro kh hm; rw [List.mem_singleton.mp hm]; exact hnew
  | cons x t ih =>
    rw [List.forall_mem_cons] at hall
    rw [appendAt]
    split
    · exact List.forall_mem_cons.mpr ⟨hsnoc _ hall.1, fun kh hm => hold _ (hall.2 kh hm)⟩
    · exact List.forall_mem_cons.mpr ⟨hold _ hall.1, ih hall.2⟩


theorem stepCall_labels_ok (m : Metric V) (args : List PyVal) (kw : List (Str × PyVal)) (key : List Str) (act : Action V)
    (hres : resolveLabels m.decl.labelnames args kw = .ok key) :
    stepCall m (.labels args kw) act
      = ({ (getChild m key).1 with
            children := treplace key (upd m.decl act (getChild m key).2) (getChild m key).1.children },
         (callMethod m.decl true act (some (getChild m key).2)).2) := by
  simp [stepCall, hres, callMethod_some]

theorem stepCall_labels_err (m : Metric V) (args : List PyVal) (kw : List (Str × PyVal)) (e : PyErr) (act : Action V)
    (hres : resolveLabels m.decl.labelnames args kw = .error e) :
    stepCall m (.labels args kw) act = (m, .raised e) := by
  simp [stepCall, hres]

theorem stepM_touch_labels (m : Metric V) (i : Nat) (args : List PyVal) (kw : List (Str × PyVal)) (key : List Str)
    (hres : resolveLabels m.decl.labelnames args kw = .ok key) :
    stepM m (.call i (.labels args kw) .touch) = ((getChild m key).1, .ok) := by
  simp only [stepM, stepCall_labels_ok m args kw key _ hres, upd_touch, callMethod_touch]
  rw [treplace_self key _ _ (getChild_lookup m key)]

omit [Val V] in
theorem stepRemove_eq (m : Metric V) (vs : List PyVal) :
    stepRemove m vs =
      if m.decl.labelnames = [] ∨ vs.length ≠ m.decl.labelnames.length then (m, .raised .valueError)
      else ({ m with children := terase (vs.map pyStr) m.children }, .ok) := by
  simp only [stepRemove, List.isEmpty_iff]
  split <;> simp [*]

theorem acceptedM_of_ok (m : Metric V) (op : Op V) (h : (stepM m op).2 = .ok) : acceptedM m op = some op := by
  unfold acceptedM
  rw [h]

theorem acceptedM_of_raised (m : Metric V) (op : Op V) (e : PyErr) (h : (stepM m op).2 = .raised e) :
    acceptedM m op = match op.touchOf with
      | some t => if (stepM m t).2 = .ok then some t else none
      | none => none := by
  unfold acceptedM
  rw [h]

/-- **A raising call.**  Nothing is accepted and the object is unchanged — unless the call was
`m.labels(…).<method>(…)`, `labels(…)` returned and the method raised: then the `labels(…)` call alone is what was
accepted, and the object is as that call left it (the child it may have created stays). -/
theorem stepM_raised (m : Metric V) (op : Op V) (e : PyErr) (h : (stepM m op).2 = .raised e) :
    (acceptedM m op = none ∧ (stepM m op).1 = m) ∨
      ∃ t, op.touchOf = some t ∧ acceptedM m op = some t ∧ (stepM m t).2 = .ok ∧ (stepM m op).1 = (stepM m t).1 := by
  have hacc := acceptedM_of_raised m op e h
  cases op with
  | call i addr act =>
    cases addr with
    | none =>
      refine Or.inl ⟨hacc, ?_⟩
      simp only [stepM, stepCall] at h ⊢
      rw [callMethod_frame _ _ _ _ e h]
    | labels args kw =>
      cases hres : resolveLabels m.decl.labelnames args kw with
      | error e' =>
        have herr := fun a => stepCall_labels_err m args kw e' a hres
        refine Or.inl ⟨?_, by rw [stepM, herr]⟩
        rw [hacc]
        simp only [Op.touchOf, stepM, herr]
        rfl
      | ok key =>
        have ht := stepM_touch_labels m i args kw key hres
        refine Or.inr ⟨_, rfl, ?_, by rw [ht], ?_⟩
        · rw [hacc]
          simp only [Op.touchOf, ht]
          rfl
        · rw [ht]
          simp only [stepM, stepCall_labels_ok m args kw key _ hres] at h ⊢
          rw [upd_of_raised _ _ _ e h, treplace_self key _ _ (getChild_lookup m key)]
  | remove i vs =>
    refine Or.inl ⟨hacc, ?_⟩
    simp only [stepM, stepRemove_eq] at h ⊢
    split
    · rfl
    · rw [if_neg ‹_›] at h; cases h
  | clear i =>
    refine Or.inl ⟨hacc, ?_⟩
    simp only [stepM, stepClear] at h ⊢
    split
    · rw [if_pos ‹_›] at h; cases h
    · rfl

theorem stepM_ok_abs (d : Decl V) (h : Hist V) (op : Op V) (hok : AllOk d h) (hout : (stepM (metricOf d h) op).2 = .ok) :
    (stepM (metricOf d h) op).1 = metricOf d (recordOn d.labelnames h op) ∧ AllOk d (recordOn d.labelnames h op) := by
  have hd : (metricOf d h).decl = d := rfl
  cases op with
  | call i addr act =>
    cases addr with
    | none =>
      simp only [stepM, stepCall, metricOf, recordOn, keyOf] at hout ⊢
      cases hl : d.labelnames.isEmpty with
      | true =>
        rw [hl] at hout
        simp only [if_true] at hout ⊢
        rw [callMethod_some, childOf_snoc]
        exact ⟨rfl, fun _ => List.forall_mem_append.mpr
          ⟨hok.1 hl, List.forall_mem_singleton.mpr (okAct_of_ok d _ _ hout)⟩, hok.2⟩
      | false =>
        simp only [Bool.false_eq_true, if_false]
        rw [callMethod_none]
        exact ⟨rfl, fun hh => absurd (hl.symm.trans hh) Bool.false_ne_true, hok.2⟩
    | labels args kw =>
      cases hres : resolveLabels d.labelnames args kw with
      | error e =>
        rw [stepM, stepCall_labels_err (metricOf d h) args kw e _ hres] at hout
        cases hout
      | ok key =>
        simp only [stepM, stepCall_labels_ok (metricOf d h) args kw key act hres, hd] at hout ⊢
        have hact := okAct_of_ok d act _ hout
        simp only [recordOn, resolve_keyOf d.labelnames args kw key hres]
        refine ⟨?_, hok.1, forall_appendAt (Q := fun l => ∀ b ∈ l, okAct d b) (R := fun l => ∀ b ∈ l, okAct d b) key act
          (fun _ h => h) (fun l h => List.forall_mem_append.mpr ⟨h, List.forall_mem_singleton.mpr hact⟩)
          (List.forall_mem_singleton.mpr hact) h.table hok.2⟩
        simp only [metricOf]
        rw [treplace_getChild, getChild_decl, getChild_single]
  | remove i vs =>
    simp only [stepM, stepRemove_eq, hd] at hout ⊢
    split
    · rw [if_pos ‹_›] at hout; cases hout
    · refine ⟨?_, hok.1, fun kh hm => hok.2 kh (List.mem_filter.mp hm).1⟩
      simp [metricOf, recordOn, terase, List.filter_map, Function.comp_def]
  | clear i =>
    simp only [stepM, stepClear, hd] at hout ⊢
    split
    · exact ⟨rfl, hok.1, nofun⟩
    · rw [if_neg ‹_›] at hout; cases hout

def recOpt (d : Decl V) (h : Hist V) : Option (Op V) → Hist V
  | some o => recordOn d.labelnames h o
  | none => h

theorem stepM_abs (d : Decl V) (h : Hist V) (op : Op V) (hok : AllOk d h) :
    (stepM (metricOf d h) op).1 = metricOf d (recOpt d h (acceptedM (metricOf d h) op))
      ∧ AllOk d (recOpt d h (acceptedM (metricOf d h) op)) := by
  cases hout : (stepM (metricOf d h) op).2 with
  | ok =>
    rw [acceptedM_of_ok _ _ hout]
    exact stepM_ok_abs d h op hok hout
  | raised e =>
    rcases stepM_raised _ op e hout with ⟨hacc, hst⟩ | ⟨t, _, hacc, hokt, heq⟩
    · rw [hacc, hst]
      exact ⟨rfl, hok⟩
    · rw [hacc, heq]
      exact stepM_ok_abs d h t hok hokt

end PromVerif.Lemmas.Metrics
