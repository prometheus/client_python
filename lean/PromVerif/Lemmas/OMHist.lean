/-
`_check_histogram`: how the loop composes, what a bucket line / a non-bucket line of the current group does to the
loop state, and when `do_checks` fails.
-/
import PromVerif.Lemmas.OMRun

namespace PromVerif.Lemmas.OM
open PromVerif.Py PromVerif.Model.ParseCore PromVerif.Model.OMParse PromVerif.Generated.OMParse
open PromVerif.Spec.OMRules

/-- the loop from state `h` over `ls`, then the final `do_checks` -/
def histFinish (P : Params) (n : Str) (h : HSt) (ls : List OSample) : PyM Unit :=
  match histLoop P n h ls with
  | .error e => .error e
  | .ok h' => if h'.group.isSome then doChecks P h' else .ok ()

theorem checkHistogram_eq (P : Params) (n : Str) (ls : List OSample) : checkHistogram P ls n = histFinish P n {} ls := rfl

theorem histFinish_cons (P : Params) (n : Str) (h : HSt) (s : OSample) (ls : List OSample) :
    histFinish P n h (s :: ls) = match histStep P n h s with
      | .ok h' => histFinish P n h' ls
      | .error e => .error e := by
  simp only [histFinish, histLoop]
  cases histStep P n h s <;> rfl

theorem histLoop_append (P : Params) (n : Str) (h : HSt) (a b : List OSample) :
    histLoop P n h (a ++ b) = match histLoop P n h a with
      | .ok h' => histLoop P n h' b
      | .error e => .error e := by
  induction a generalizing h with
  | nil => rfl
  | cons s a ih =>
    simp only [List.cons_append, histLoop]
    cases histStep P n h s with
    | error e => rfl
    | ok h' => exact ih h'

theorem histFinish_append (P : Params) (n : Str) (h : HSt) (a b : List OSample) :
    histFinish P n h (a ++ b) = match histLoop P n h a with
      | .ok h' => histFinish P n h' b
      | .error e => .error e := by
  simp only [histFinish, histLoop_append]
  cases histLoop P n h a <;> rfl

theorem hist_of_suffix (P : Params) (n : Str) (pre suf : List OSample) (h : ∀ h0, isError (histFinish P n h0 suf) = true) :
    isError (checkHistogram P (pre ++ suf) n) = true := by
  rw [checkHistogram_eq, histFinish_append]
  cases histLoop P n {} pre with
  | error e => rfl
  | ok h0 => exact h h0

theorem not_info : ¬ (tHistogram == tInfo) = true := by decide
theorem not_summary : (tHistogram == tSummary) = false := by decide
theorem not_stateset : ¬ (tHistogram == tStateset) = true := by decide

theorem groupForSample_hist (n : Str) (s : OSample) (g : Labels) (h : histGroupOf n s = some g) :
    groupForSample s n tHistogram = .ok (some g) := by
  rw [groupForSample_eq, if_neg not_info, not_summary]
  simp only [Bool.false_and, Bool.false_eq_true, if_false, if_neg not_stateset, beq_self_eq_true, Bool.true_or, Bool.true_and]
  unfold histGroupOf at h
  cases hl : s.labels with
  | none => rw [hl] at h; cases h
  | some l =>
    rw [hl] at h
    dsimp only at h
    by_cases c : s.name = n ++ cs!"_bucket"
    · rw [if_pos c] at h
      rw [if_pos (by rw [c]; exact beq_self_eq_true _)]
      by_cases d : dictHas l cs!"le" = true
      · rw [if_pos d] at h
        obtain rfl := Option.some.inj h
        exact delKey_some l sLe d
      · rw [if_neg d] at h; cases h
    · rw [if_neg c] at h
      rw [if_neg (by simpa [sBucket] using c), ← h]

theorem histReset_same (P : Params) (h : HSt) (g g0 : Labels) (ts : Option OTs) (hg : h.group = some g0)
    (he : sortByKey g = sortByKey g0) (ht : tsEq P ts h.ts = true) : histReset P h (some g) ts = .ok h := by
  unfold histReset
  have : (!optDictEq (some g) h.group || !tsEq P ts h.ts) = false := by
    rw [hg, ht]; simp [optDictEq, dictEq, he]
  rw [this]; rfl

theorem histReset_other_fails (P : Params) (h : HSt) (g g0 : Labels) (ts : Option OTs) (hg : h.group = some g0)
    (hne : sortByKey g ≠ sortByKey g0 ∨ tsEq P ts h.ts = false) (hd : isError (doChecks P h) = true) :
    isError (histReset P h (some g) ts) = true := by
  unfold histReset
  have : (!optDictEq (some g) h.group || !tsEq P ts h.ts) = true := by
    rw [hg]
    rcases hne with h1 | h1
    · simp [optDictEq, dictEq, h1]
    · simp [h1]
  rw [if_pos this, hg]
  simp only [Option.isSome, if_true]
  obtain ⟨e, he⟩ := error_of_isError hd
  rw [he]; rfl

theorem histStep_classic (P : Params) (n : Str) (h : HSt) (s : OSample) (hs : s.nh = none) :
    histStep P n h s = histStepBody P n h s := by
  unfold histStep
  rw [hs]
  simp

theorem suffix_bucket (n : Str) : (n ++ cs!"_bucket").drop n.length = sBucket := by simp [sBucket]

theorem histStep_bucket (P : Params) (n : Str) (h : HSt) (s : OSample) (b : Nat) (g : Labels) (hb : IsBucket P n s b g) :
    histStep P n h s = match histReset P h (some g) s.ts with
      | .error e => .error e
      | .ok h0 =>
        match raiseIf (match h0.bucket with
            | some prev => P.cmp bucketOrderCmp (.flt b) (.flt prev)
            | none => false) with
        | .error e => .error e
        | .ok _ =>
          match raiseIfM (P.cmpOpt bucketValueCmp s.value h0.value) with
          | .error e => .error e
          | .ok _ => .ok { h0 with group := some g, ts := s.ts,
                                   hasNegBuckets := h0.hasNegBuckets || P.cmp negBucketCmp (.flt b) (.int 0),
                                   bucket := some b, value := s.value } := by
  obtain ⟨hcl, hname, hgrp, l, le, hl, hle, hf⟩ := hb
  rw [histStep_classic P n h s hcl]
  unfold histStepBody
  rw [groupForSample_hist n s g hgrp]
  dsimp only
  rw [hname, suffix_bucket]
  have e1 : (sBucket.isEmpty) = false := by decide
  simp only [e1, Bool.false_eq_true, if_false, beq_self_eq_true, if_true]
  cases histReset P h (some g) s.ts with
  | error e => rfl
  | ok h0 =>
    dsimp only
    unfold histBucket
    have : leOf s = .ok le := by simp only [leOf, hl]; rw [show sLe = cs!"le" from rfl, hle]
    rw [this]
    dsimp only
    have : P.floatE le = .ok b := by simp only [Params.floatE, hf]
    rw [this]
    rfl

/-- the loop is inside group `g` at timestamp `ts`, which equals itself; the group's last bucket line had bound `b` and
value `v` -/
structure InGroup (P : Params) (g : Labels) (ts : Option OTs) (b : Nat) (v : Option Num) (h : HSt) : Prop where
  group : ∃ l, h.group = some l ∧ sortByKey l = sortByKey g
  refl : tsEq P ts ts = true
  ts : h.ts = ts
  bucket : h.bucket = some b
  value : h.value = v

theorem histStep_inGroup (P : Params) (n : Str) (h h' : HSt) (s : OSample) (g : Labels) (ts : Option OTs) (b : Nat) (v : Option Num)
    (hi : InGroup P g ts b v h) (hs : InHistGroup n g ts s) (hst : histStep P n h s = .ok h') :
    InGroup P g ts b v h' ∧
    h'.count = if s.name.drop n.length == sCount || s.name.drop n.length == sGcount then s.value else h.count := by
  obtain ⟨hcl, hnb, hts, ⟨l, hgl, hle⟩, _⟩ := hs
  obtain ⟨⟨l0, hg, hl0⟩, hrefl, ht, hb, hv⟩ := hi
  -- every branch that changes the state sets the group to `l` and the timestamp to `s.ts = ts`
  have hi' : ∀ h'' : HSt, h''.group = some l → h''.ts = s.ts → h''.bucket = h.bucket → h''.value = h.value → InGroup P g ts b v h'' :=
    fun _ e1 e2 e3 e4 => ⟨⟨l, e1, hle⟩, hrefl, e2.trans hts, e3.trans hb, e4.trans hv⟩
  rw [histStep_classic P n h s hcl] at hst
  unfold histStepBody at hst
  rw [groupForSample_hist n s l hgl] at hst
  dsimp only at hst
  by_cases c0 : (s.name.drop n.length).isEmpty = true
  · rw [if_pos c0] at hst
    obtain rfl := Except.ok.inj hst
    rw [List.isEmpty_iff.mp c0]
    exact ⟨⟨⟨l0, hg, hl0⟩, hrefl, ht, hb, hv⟩, rfl⟩
  · rw [if_neg c0] at hst
    rw [histReset_same P h l l0 s.ts hg (by rw [hle, hl0]) (by rw [hts, ht]; exact hrefl)] at hst
    dsimp only at hst
    have c1 : ¬ (s.name.drop n.length == sBucket) = true := by
      intro e; exact hnb (by simpa [sBucket] using e)
    rw [if_neg c1] at hst
    by_cases c2 : (s.name.drop n.length == sCount || s.name.drop n.length == sGcount) = true
    · rw [if_pos c2] at hst
      obtain rfl := Except.ok.inj hst
      exact ⟨hi' _ rfl rfl rfl rfl, by rw [if_pos c2]⟩
    · rw [if_neg c2] at hst
      rw [if_neg c2]
      by_cases c3 : (s.name.drop n.length == sSum) = true
      · rw [if_pos c3] at hst
        obtain rfl := Except.ok.inj hst
        exact ⟨hi' _ rfl rfl rfl rfl, rfl⟩
      · rw [if_neg c3] at hst
        by_cases c4 : (s.name.drop n.length == sGsum) = true
        · rw [if_pos c4] at hst
          cases hc : P.cmpOpt gsumNegCmp s.value (some (.int 0)) with
          | error e => rw [hc] at hst; cases hst
          | ok neg =>
            rw [hc] at hst
            obtain rfl := Except.ok.inj hst
            exact ⟨hi' _ rfl rfl rfl rfl, rfl⟩
        · rw [if_neg c4] at hst
          obtain rfl := Except.ok.inj hst
          exact ⟨hi' _ rfl rfl rfl rfl, rfl⟩

theorem histStep_bucket_ok (P : Params) (n : Str) (h h' : HSt) (s : OSample) (b : Nat) (g : Labels) (hb : IsBucket P n s b g)
    (hst : histStep P n h s = .ok h') : h'.bucket = some b ∧ h'.group = some g ∧ h'.ts = s.ts ∧ h'.value = s.value := by
  rw [histStep_bucket P n h s b g hb] at hst
  cases hr : histReset P h (some g) s.ts with
  | error e => rw [hr] at hst; cases hst
  | ok h0 =>
    rw [hr] at hst; dsimp only at hst
    split at hst
    · cases hst
    · split at hst
      · cases hst
      · obtain rfl := Except.ok.inj hst
        exact ⟨rfl, rfl, rfl, rfl⟩

theorem histStep_bucket_inGroup (P : Params) (n : Str) (h h' : HSt) (s : OSample) (b : Nat) (g : Labels) (hb : IsBucket P n s b g)
    (hrefl : tsEq P s.ts s.ts = true) (hst : histStep P n h s = .ok h') : InGroup P g s.ts b s.value h' := by
  obtain ⟨e1, e2, e3, e4⟩ := histStep_bucket_ok P n h h' s b g hb hst
  exact ⟨⟨g, e2, rfl⟩, hrefl, e3, e1, e4⟩

theorem group_end_fails (P : Params) (n : Str) (h : HSt) (g : Labels) (ts : Option OTs) (b : Nat) (v : Option Num) (post : List OSample)
    (hi : InGroup P g ts b v h) (hend : GroupEnds P n g ts post)
    (hd : isError (doChecks P h) = true) : isError (histFinish P n h post) = true := by
  obtain ⟨l0, hg, hl0⟩ := hi.group
  cases post with
  | nil =>
    simp only [histFinish, histLoop, hg, Option.isSome, if_true]
    exact hd
  | cons s post =>
    obtain ⟨hcl, hne, l, hgl, hdiff⟩ := hend
    rw [histFinish_cons, histStep_classic P n h s hcl]
    unfold histStepBody
    rw [groupForSample_hist n s l hgl]
    dsimp only
    have c0 : ¬ (s.name.drop n.length).isEmpty = true := by
      intro e; exact hne (List.isEmpty_iff.mp e)
    rw [if_neg c0]
    obtain ⟨e, he⟩ := error_of_isError (histReset_other_fails P h l l0 s.ts hg (by rw [hl0, hi.ts]; exact hdiff) hd)
    rw [he]; rfl

theorem doChecks_no_inf (P : Params) (h : HSt) (b : Nat) (hb : h.bucket = some b) (hinf : P.isPosInf b = false) :
    isError (doChecks P h) = true := by
  unfold doChecks
  refine runChecks_isError_of_mem _ _ (List.mem_cons_self ..) ?_
  rw [hb]; simp only [hinf]; rfl

theorem doChecks_count_ne (P : Params) (h : HSt) (v c : Num) (hv : h.value = some v) (hc : h.count = some c)
    (hne : P.eq v c = false) : isError (doChecks P h) = true := by
  unfold doChecks
  refine runChecks_isError_of_mem _ (if h.count.isSome then raiseIfM (P.cmpOpt countCmp h.value h.count) else .ok ()) (by simp) ?_
  rw [hc, hv]
  simp only [Option.isSome, if_true]
  have : P.cmpOpt countCmp (some v) (some c) = .ok true := by
    show Except.ok (P.cmp countCmp v c) = _
    have : P.cmp countCmp v c = !P.eq v c := rfl
    rw [this, hne]; rfl
  rw [this]; rfl

theorem hist_tail (P : Params) (n : Str) (g : Labels) (ts : Option OTs) (b : Nat) (v : Option Num) (tail post : List OSample) :
    ∀ h : HSt, InGroup P g ts b v h → (∀ s ∈ tail, InHistGroup n g ts s) →
      (∀ h', InGroup P g ts b v h' → ((∀ s ∈ tail, NotCountLine n s) → h'.count = h.count) →
        isError (histFinish P n h' post) = true) →
      isError (histFinish P n h (tail ++ post)) = true := by
  induction tail with
  | nil => intro h hi _ hk; exact hk h hi fun _ => rfl
  | cons s tail ih =>
    intro h hi htail hk
    rw [List.cons_append, histFinish_cons]
    cases hs : histStep P n h s with
    | error e => rfl
    | ok h1 =>
      dsimp only
      obtain ⟨hi1, e6⟩ := histStep_inGroup P n h h1 s g ts b v hi (htail s (List.mem_cons_self ..)) hs
      refine ih h1 hi1 (fun s' hs' => htail s' (List.mem_cons_of_mem _ hs')) ?_
      intro h' hi' hc'
      refine hk h' hi' fun hnc => ?_
      obtain ⟨n1, n2⟩ := hnc s (List.mem_cons_self ..)
      rw [hc' fun s' hs' => hnc s' (List.mem_cons_of_mem _ hs'), e6, if_neg (by simpa [sCount, sGcount] using And.intro n1 n2)]

end PromVerif.Lemmas.OM
