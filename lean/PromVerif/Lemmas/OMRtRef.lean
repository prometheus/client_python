/-
C04: the symbolic number instance `refP` satisfies the `int()` law the theorems assume (so the hypotheses are
satisfiable), and small evaluation helpers for the kernel-checked examples.
-/
import PromVerif.Lemmas.OMRtLine

set_option autoImplicit false

namespace PromVerif.Lemmas.OMRt
open PromVerif.Py PromVerif.Model PromVerif.Model.ParseCore PromVerif.Model.OMParse PromVerif.Spec.OMRoundtrip

theorem refNat_digits {d : Str} (hne : d ≠ []) (hd : d.all isDigit = true) : refNat? d = some (parseDigits d) := by
  have : d.isEmpty = false := List.isEmpty_eq_false_iff.mpr hne
  simp [refNat?, this, hd]

theorem refNat_none {s : Str} (h : s.all isDigit = false) : refNat? s = none := by
  simp [refNat?, h]

theorem refInt_shape (s : Str) :
    ∃ (t : Str) (f : Nat → Int), refInt? s = (refNat? t).map f ∧ ∀ c ∈ s, c ∈ t ∨ c = '-' ∨ c = '+' := by
  unfold refInt?
  split
  · exact ⟨_, _, rfl, fun c hc => (List.mem_cons.mp hc).elim (fun h => Or.inr (Or.inl h)) Or.inl⟩
  · exact ⟨_, _, rfl, fun c hc => (List.mem_cons.mp hc).elim (fun h => Or.inr (Or.inr h)) Or.inl⟩
  · exact ⟨s, _, rfl, fun c hc => Or.inl hc⟩

theorem refP_intLaw : IntLaw refP.pyInt := by
  show IntLaw refInt?
  refine ⟨?_, ?_, ?_⟩
  · intro d hne hd
    have hsign : ∀ (x : Char) (cs : Str), isDigit x = false → d ≠ x :: cs := by
      intro x cs hx e
      subst e
      simp only [List.all_cons, Bool.and_eq_true] at hd
      rw [hd.1] at hx; cases hx
    rw [refInt?.eq_3 d (fun cs => hsign '-' cs (by decide)) (fun cs => hsign '+' cs (by decide)), refNat_digits hne hd]; rfl
  · intro d hne hd
    show refInt? ('-' :: d) = _
    rw [show refInt? ('-' :: d) = (refNat? d).map (fun n => -((n : Nat) : Int)) from rfl, refNat_digits hne hd]; rfl
  · intro s ⟨c, hc, hbad⟩
    obtain ⟨t, f, e, hmem⟩ := refInt_shape s
    obtain ⟨hnd, hm, hp⟩ : isDigit c = false ∧ c ≠ '-' ∧ c ≠ '+' := by rcases hbad with rfl | rfl | rfl | rfl <;> decide
    have hct : c ∈ t := (hmem c hc).resolve_right (fun h => h.elim hm hp)
    have hall : t.all isDigit = false := by
      apply Bool.eq_false_iff.mpr
      intro ha
      rw [List.all_eq_true.mp ha c hct] at hnd; cases hnd
    rw [e, refNat_none hall]; rfl

/-- `str(n)` of a one-digit number (the general definition recurses on `n / 10` by well-founded recursion, which the kernel
does not unfold by itself) -/
theorem decDigits_small (n : Nat) (h : n < 10) : decDigits n = [digitChar n] := by
  unfold decDigits; simp [h]

theorem decDigits_step (n : Nat) (h : ¬ n < 10) : decDigits n = decDigits (n / 10) ++ [digitChar (n % 10)] := by
  rw [decDigits]; simp [h]

/-- ` timestamp` or nothing, as the exposition writes it after the value -/
def tsPart (ts : Option TsIn) : Str := optTok (ts.map (fun t => OMExpo.tsStr t.ts))

end PromVerif.Lemmas.OMRt
