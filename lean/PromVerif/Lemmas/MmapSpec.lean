/-
C10/C11: facts about the spec alone (`Spec/MmapDict.lean`): the keys of a store, `write` after `touch`, prefix states, and
"nothing that was never written is ever read".
-/
import PromVerif.Model.MmapDict
import PromVerif.Spec.MmapDict
namespace PromVerif.Lemmas.Mmap
open PromVerif.Py PromVerif.Model.MmapDict PromVerif.Generated.Mmap
open PromVerif.Spec.MmapDict (Store PrefixFrom PrefixState Written)

theorem has_iff (s : Store) (k : Key) : s.has k = true ↔ k ∈ s.map (·.1) := by
  simp only [Store.has, List.any_eq_true, List.mem_map, beq_iff_eq]

theorem keys_write (s : Store) (k : Key) (v t : UInt64) :
    (s.write k v t).map (·.1) = if k ∈ s.map (·.1) then s.map (·.1) else s.map (·.1) ++ [k] := by
  induction s with
  | nil => simp [Store.write]
  | cons e s ih =>
    by_cases h : e.1 = k
    · simp [Store.write, h]
    · have h' : ¬ k = e.1 := fun x => h x.symm
      simp only [Store.write, h, if_false, List.map_cons, ih, List.mem_cons, h', false_or]
      split <;> simp

theorem keys_touch (s : Store) (k : Key) :
    (s.touch k).map (·.1) = if k ∈ s.map (·.1) then s.map (·.1) else s.map (·.1) ++ [k] := by
  unfold Store.touch
  by_cases h : k ∈ s.map (·.1)
  · rw [if_pos h, if_pos ((has_iff s k).mpr h)]
  · rw [if_neg h, if_neg (mt (has_iff s k).mp h), List.map_append]
    rfl

theorem write_touch (s : Store) (k : Key) (v t : UInt64) : (s.touch k).write k v t = s.write k v t := by
  unfold Store.touch
  cases hh : s.has k with
  | true => simp
  | false =>
    simp only [Bool.false_eq_true, if_false]
    induction s with
    | nil => simp [Store.write]
    | cons e s ih =>
      simp only [Store.has, List.any_cons, Bool.or_eq_false_iff, beq_eq_false_iff_ne] at hh
      simp only [List.cons_append, Store.write, hh.1, if_false]
      rw [ih (by simpa [Store.has] using hh.2)]

theorem prefixFrom_here (s : Store) (ops : List Spec.MmapDict.Op) : PrefixFrom s ops s :=
  ⟨0, Nat.zero_le _, Or.inl (by simp [Spec.MmapDict.run])⟩

theorem prefixFrom_inflight (s : Store) (op : Spec.MmapDict.Op) (ops : List Spec.MmapDict.Op) (k : Key)
    (hk : op.key? = some k) (hh : s.has k = false) : PrefixFrom s (op :: ops) (s ++ [(k, 0, 0)]) :=
  ⟨0, Nat.zero_le _, Or.inr ⟨k, by simp [hk], by simpa [Spec.MmapDict.run] using hh, by simp [Spec.MmapDict.run]⟩⟩

theorem prefixFrom_later (s : Store) (op : Spec.MmapDict.Op) (ops : List Spec.MmapDict.Op) (r : Store)
    (h : PrefixFrom (Spec.MmapDict.step s op) ops r) : PrefixFrom s (op :: ops) r := by
  obtain ⟨j, hj, h⟩ := h
  refine ⟨j + 1, Nat.succ_le_succ hj, ?_⟩
  simpa [Spec.MmapDict.run] using h

theorem mem_write (s : Store) (k : Key) (v t : UInt64) (x : Key × UInt64 × UInt64) (h : x ∈ s.write k v t) :
    x ∈ s ∨ x = (k, v, t) := by
  induction s with
  | nil => simp [Store.write] at h; exact Or.inr h
  | cons e s ih =>
    by_cases he : e.1 = k
    · simp only [Store.write, he, if_true, List.mem_cons] at h
      rcases h with h | h
      · exact Or.inr h
      · exact Or.inl (List.mem_cons_of_mem _ h)
    · simp only [Store.write, he, if_false, List.mem_cons] at h
      rcases h with h | h
      · exact Or.inl (by simp [h])
      · exact (ih h).imp_left (List.mem_cons_of_mem _)

theorem written_mono {ops ops' : List Spec.MmapDict.Op} (hsub : ∀ o ∈ ops, o ∈ ops') {k v t} (h : Written ops k v t) :
    Written ops' k v t := by
  obtain ⟨⟨op, ho, hk⟩, hv⟩ := h
  exact ⟨⟨op, hsub op ho, hk⟩, hv.imp_right (hsub _)⟩

theorem mem_step (s : Store) (op : Spec.MmapDict.Op) (x : Key × UInt64 × UInt64) (h : x ∈ Spec.MmapDict.step s op) :
    x ∈ s ∨ Written [op] x.1 x.2.1 x.2.2 := by
  cases op with
  | write k v t =>
    refine (mem_write s k v t x h).imp_right fun h => ?_
    subst h
    exact ⟨⟨.write k v t, by simp, rfl⟩, Or.inr (by simp)⟩
  | read k =>
    simp only [Spec.MmapDict.step, Store.touch] at h
    split at h
    · exact Or.inl h
    · rcases List.mem_append.mp h with h | h
      · exact Or.inl h
      · simp at h; subst h; exact Or.inr ⟨⟨.read k, by simp, rfl⟩, Or.inl ⟨rfl, rfl⟩⟩
  | reopen => exact Or.inl h

theorem mem_run : ∀ (ops : List Spec.MmapDict.Op) (s : Store) (x : Key × UInt64 × UInt64),
    x ∈ Spec.MmapDict.run s ops → x ∈ s ∨ Written ops x.1 x.2.1 x.2.2 := by
  intro ops
  induction ops with
  | nil => intro s x h; exact Or.inl h
  | cons op ops ih =>
    intro s x h
    simp only [Spec.MmapDict.run, List.foldl_cons] at h
    rcases ih (Spec.MmapDict.step s op) x h with h | h
    · exact (mem_step s op x h).imp_right (written_mono (by simp))
    · exact Or.inr (written_mono (by intro o ho; exact List.mem_cons_of_mem _ ho) h)

theorem prefixFrom_written (s : Store) (ops : List Spec.MmapDict.Op) (r : Store) (h : PrefixFrom s ops r)
    (x : Key × UInt64 × UInt64) (hx : x ∈ r) : x ∈ s ∨ Written ops x.1 x.2.1 x.2.2 := by
  obtain ⟨j, _, h⟩ := h
  have hrun : ∀ x ∈ Spec.MmapDict.run s (ops.take j), x ∈ s ∨ Written ops x.1 x.2.1 x.2.2 :=
    fun x hx => (mem_run _ s x hx).imp_right (written_mono fun o ho => List.mem_of_mem_take ho)
  rcases h with rfl | ⟨k, hk, _, rfl⟩
  · exact hrun x hx
  · rcases List.mem_append.mp hx with hx | hx
    · exact hrun x hx
    · obtain ⟨op, hd, hk⟩ := Option.bind_eq_some_iff.mp hk
      simp at hx; subst hx
      exact Or.inr ⟨⟨op, List.mem_of_mem_drop (List.mem_of_mem_head? hd), hk⟩, Or.inl ⟨rfl, rfl⟩⟩

end PromVerif.Lemmas.Mmap
