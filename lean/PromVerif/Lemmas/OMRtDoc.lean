/-
C04, document level.  (1) The text `openmetrics.exposition.generate_latest` writes for a family is a list of lines, each
followed by a line feed; `for line in fd` gives the lines back; every line tokenises (`parseLine`) to what was written.
(2) The family state machine on the tokenised lines of one rendered family, from a state whose current family has another
name: the metadata lines open the family with exactly the written name, help, type and unit; every sample line goes through
the rule layer (`sampleChecks`) of that family and nothing else.  (3) Hence `omParse (generateLatest fs)` equals the parser's
rule layer (`sampleChecks` per sample, `build_metric` per family) run on the EXPOSED values: what remains is exactly the set
of checks C15 obliges the parser to make.
-/
import PromVerif.Lemmas.OMRtLine
import PromVerif.Lemmas.TextParseDoc
import PromVerif.Lemmas.OMRun

set_option autoImplicit false

namespace PromVerif.Lemmas.OMRt
open PromVerif.Py PromVerif.Model PromVerif.Model.Escape PromVerif.Model.ParseCore PromVerif.Model.Validation
open PromVerif.Model.OMParse PromVerif.Spec.OMRoundtrip PromVerif.Lemmas.Escape PromVerif.Lemmas.Scanner
open PromVerif.Lemmas.TextParse PromVerif.Model.TextExpo PromVerif.Generated.OMParse

theorem docLinesAux_line (c : Str) (h : '\n' ∉ c) : ∀ (rest acc : Str),
    docLinesAux (c ++ '\n' :: rest) acc = (acc.reverse ++ c) :: docLinesAux rest [] := by
  induction c with
  | nil => intro rest acc; simp [docLinesAux]
  | cons x xs ih =>
    intro rest acc
    have hx : (x == '\n') = false := by
      have : x ≠ '\n' := fun e => h (by simp [e])
      simpa using this
    rw [List.cons_append, docLinesAux]
    simp only [hx, Bool.false_eq_true, ↓reduceIte]
    rw [ih (fun hm => h (by simp [hm]))]
    simp

/-- `for line in io.StringIO(text)` on lines each terminated by a line feed -/
theorem docLines_render (ls : List Str) (h : ∀ c ∈ ls, '\n' ∉ c) : docLines ((ls.map (· ++ ['\n'])).flatten) = ls := by
  unfold docLines
  induction ls with
  | nil => rfl
  | cons c cs ih =>
    simp only [List.map_cons, List.flatten_cons, List.append_assoc, List.singleton_append]
    rw [docLinesAux_line c (h c (by simp))]
    simp only [List.reverse_nil, List.nil_append]
    rw [ih (List.forall_mem_cons.mp h).2]

/-- `# KW name rest` without the line feed -/
def metaLine (kw nameTok rest : Str) : Str := '#' :: ' ' :: (kw ++ ' ' :: (nameTok ++ ' ' :: rest))

/-- `_split_quoted(line, ' ', 3)` on `# KW name rest`: the fourth token is the whole remainder, empty or not -/
theorem splitQuoted_meta4_sp (kw nm R : Str) (hkw : Pass spChs kw) (hnm : Pass spChs nm) :
    splitQuoted (metaLine kw nm R) spChs 3 = [['#'], kw, nm, R] := by
  have hhash : Pass spChs ['#'] := pass_plain (by unfold PlainFor; decide)
  have := splitQuotedAux_tokens spChs ' ' rfl (by decide) (by decide) 3 R [['#'], kw, nm]
    ((metaLine kw nm R).length + 1) [] []
    (by simpa using ⟨hhash, hkw, hnm⟩) rfl (by simp [metaLine]; omega) (by simp) (Or.inr (by simp))
  simpa [sepTokens, splitQuoted, metaLine] using this

theorem spChs_safe : NameSafe spChs := nameSafe_eq ' ' (by decide) (by decide)

theorem metaLine_ne_eof {kw tok R : Str} (h : kw.head? ≠ some 'E') : metaLine kw tok R ≠ sEOF := by
  intro e
  have := congrArg (fun l => (l.drop 2).head?) e
  cases kw with
  | nil => simp [metaLine, sEOF] at this
  | cons c cs => exact h (by simpa [metaLine, sEOF] using this)

theorem parseLine_meta (P : Params) (kw : Str) (hkw : ∀ c ∈ kw, isLegacyChar c = true) (n R : Str)
    (hE : kw.head? ≠ some 'E') :
    parseLine P (metaLine kw (escapeMetricName n) R) = .metadata kw n R := by
  have hsq : splitQuoted (metaLine kw (escapeMetricName n) R) (· == ' ') 3 = [['#'], kw, escapeMetricName n, R] :=
    splitQuoted_meta4_sp kw _ R (pass_plain (plainFor_legacy spChs_safe.legacy hkw)) (metricTok_pass spChs_safe n)
  obtain ⟨q, hq1, hq2⟩ := metricTok_unquote n
  have he : (metaLine kw (escapeMetricName n) R == sEOF) = false := beq_eq_false_iff_ne.mpr (metaLine_ne_eof hE)
  unfold parseLine
  have h1 : (metaLine kw (escapeMetricName n) R).isEmpty = false := rfl
  have h2 : (metaLine kw (escapeMetricName n) R).head? == some '#' := rfl
  simp only [h1, he, h2, hsq, hq1, hq2, Bool.false_eq_true, ↓reduceIte]

theorem lineBody_head (s : Sample) : ∃ c t, lineBody s = c :: t ∧ c ≠ '#' := by
  have hleg : isValidLegacyMetricName s.name = true → ∀ rest, ∃ c t, s.name ++ rest = c :: t ∧ c ≠ '#' := by
    intro hv rest
    obtain ⟨hne, hc⟩ := legacyName_chars hv (legacyMetric_no_newline hv)
    cases hn : s.name with
    | nil => exact absurd hn hne
    | cons c cs => exact ⟨c, _, rfl, legacyChar_ne (hc c (by rw [hn]; simp)) (by decide)⟩
  rcases lineBody_cases s with ⟨hv, _, hb⟩ | ⟨hv, _, _, _, hb⟩ | ⟨_, hb⟩
  · rw [hb]; exact hleg hv _
  · rw [hb]; exact hleg hv _
  · rw [hb]; exact ⟨'{', _, rfl, by decide⟩

theorem parseLine_renderedSample (P : Params) (s : Sample) (h : SampleOKom P s) :
    parseLine P (lineBody s) = .sample (.ok none) (parseSample P (lineBody s)) := by
  obtain ⟨c, t, hb, hc⟩ := lineBody_head s
  obtain ⟨suff, hs⟩ := OM.parseNhLine_eq P
  have hnh := parseNhSample_of_detect P _ suff (line_not_nh P s h)
  unfold parseLine
  rw [hs, hnh, hb]
  have h2 : ((c :: t) == sEOF) = false := by simp [sEOF, hc]
  have h3 : ((c :: t).head? == some '#') = false := by simpa using hc
  simp only [List.isEmpty_cons, h2, h3, Bool.false_eq_true, ↓reduceIte]

/-- the header variables after the metadata lines of a family -/
def famHdr (fam : Family) : Hdr :=
  ⟨some fam.name, some fam.doc, some fam.typ, if fam.unit.isEmpty then none else some fam.unit, allowedNames fam.name fam.typ⟩

/-- the rule layer of the parser on the parsed samples of one family, in order -/
def foldChecks (P : Params) (h : Hdr) : Grp → List OSample → PyM Grp
  | gr, [] => .ok gr
  | gr, o :: os =>
    match sampleChecks P h gr o false with
    | .ok gr' => foldChecks P h gr' os
    | .error e => .error e

/-- the tokenised metadata lines of a family -/
def metaLines (fam : Family) : List Line :=
  [.metadata Generated.OMParse.kwHelp fam.name (escape fam.doc), .metadata Generated.OMParse.kwType fam.name fam.typ] ++
    (if fam.unit.isEmpty then [] else [.metadata Generated.OMParse.kwUnit fam.name fam.unit])

theorem run_metaLines (P : Params) (st : St) (fam : Family) (heof : st.eof = false) (hname : st.hdr.name ≠ some fam.name)
    (htyp : fam.typ ≠ untypedName) (rest : List Line) :
    OMParse.run P st (metaLines fam ++ rest) =
      (match flush P st.glob st.hdr st.grp.samples with
       | .ok g => OMParse.run P ⟨famHdr fam, {}, g, false⟩ rest
       | .error e => .error e) := by
  have hn1 : (st.hdr.name == some fam.name) = false := by simpa using hname
  have hn2 : (st.hdr.name != some fam.name) = true := by simpa using hname
  have hty : (fam.typ == untypedName) = false := by simpa using htyp
  unfold metaLines
  simp only [List.cons_append, List.nil_append]
  rw [OMParse.run]
  simp only [stepLine, heof, Bool.false_eq_true, ↓reduceIte, stepMeta, hn1, Bool.false_and, hn2]
  cases flush P st.glob st.hdr st.grp.samples with
  | error e => rfl
  | ok g =>
    simp only [applyMeta, beq_self_eq_true, ↓reduceIte, Option.isSome_none, Bool.false_eq_true, unescapeHelp_escape]
    rw [OMParse.run]
    simp only [stepLine, Bool.false_eq_true, ↓reduceIte, stepMeta, beq_self_eq_true, List.isEmpty_nil, Bool.not_true, Bool.and_false,
      bne_self_eq_false, applyMeta, OM.kw_distinct.1, Option.isSome_none, hty]
    by_cases hu : fam.unit.isEmpty = true
    · simp only [hu, ↓reduceIte, List.nil_append, famHdr]
    · have hu' : fam.unit.isEmpty = false := by simpa using hu
      simp only [hu', Bool.false_eq_true, ↓reduceIte, List.cons_append, List.nil_append]
      rw [OMParse.run]
      simp only [stepLine, Bool.false_eq_true, ↓reduceIte, stepMeta, beq_self_eq_true, List.isEmpty_nil, Bool.not_true, Bool.and_false,
        bne_self_eq_false, applyMeta, OM.kw_distinct.2.1, OM.kw_distinct.2.2, famHdr, hu']

theorem run_sampleLines (P : Params) (h : Hdr) (g : Glob) : ∀ (os : List OSample) (gr : Grp) (rest : List Line),
    (∀ o ∈ os, h.allowed.contains o.name = true) →
    OMParse.run P ⟨h, gr, g, false⟩ (os.map (fun o => Line.sample (.ok none) (.ok o)) ++ rest) =
      (match foldChecks P h gr os with
       | .ok gr' => OMParse.run P ⟨h, gr', g, false⟩ rest
       | .error e => .error e) := by
  intro os
  induction os with
  | nil => intro gr rest _; rfl
  | cons o os ih =>
    intro gr rest hal
    have hc : h.allowed.contains o.name = true := hal o (by simp)
    simp only [List.map_cons, List.cons_append]
    rw [OMParse.run]
    simp only [stepLine, Bool.false_eq_true, ↓reduceIte, OM.pickSample_smp, stepSample, hc, Bool.not_true, Bool.false_and, foldChecks]
    cases sampleChecks P h gr o false with
    | error e => rfl
    | ok gr' =>
      simp only []
      exact ih gr' rest (List.forall_mem_cons.mp hal).2

/-- what a rendered sample line parses to -/
def parsedOf (P : Params) (s : Sample) : OSample :=
  match parseSample P (lineBody s) with
  | .ok o => o
  | .error _ => ⟨[], none, none, none, none, none⟩

theorem parsedOf_spec (P : Params) (hI : IntLaw P.pyInt) (s : Sample) (h : SampleOKom P s) :
    parseSample P (lineBody s) = .ok (parsedOf P s) ∧ SampleMatches P s (parsedOf P s) := by
  obtain ⟨o, h1, h2⟩ := line_roundtrip P hI s h
  unfold parsedOf
  rw [h1]
  exact ⟨rfl, h2⟩

/-- the families the document-level theorem is stated for -/
structure FamOK (P : Params) (fam : Family) : Prop where
  /-- the name `Metric()` accepts under the active validation -/
  name : metricNameOK P.legacy fam.name = true
  /-- one of `METRIC_TYPES` (what `Metric()` accepts) -/
  typ : fam.typ ∈ metricTypes
  /-- the unit is written raw: no line feed in it (C05's finding F4 is about that) -/
  unit : '\n' ∉ fam.unit
  /-- every sample: the line-level conditions, an exemplar only where the exposition accepts one, and a name within the
  suffix set of the family's type (another name starts another family) -/
  samples : ∀ s ∈ fam.samples, SampleOKom P s ∧
    (s.exemplar.isSome = true → OMExpo.isValidExemplarMetric fam.typ fam.name s.name = true) ∧
    (allowedNames fam.name fam.typ).contains s.name = true

/-- consecutive families carry different names (a repeated name continues the same family) -/
def AdjDiffer : List Family → Prop
  | [] => True
  | [_] => True
  | a :: b :: r => a.name ≠ b.name ∧ AdjDiffer (b :: r)

/-- the lines of one family, without line feeds -/
def textLines (fam : Family) : List Str :=
  [metaLine Generated.OMParse.kwHelp (escapeMetricName fam.name) (escape fam.doc),
   metaLine Generated.OMParse.kwType (escapeMetricName fam.name) fam.typ] ++
  (if fam.unit.isEmpty then [] else [metaLine Generated.OMParse.kwUnit (escapeMetricName fam.name) fam.unit]) ++
  fam.samples.map lineBody

theorem help_lit : "# HELP ".toList = ['#', ' ', 'H', 'E', 'L', 'P', ' '] := String.toList_ofList
theorem type_lit : "# TYPE ".toList = ['#', ' ', 'T', 'Y', 'P', 'E', ' '] := String.toList_ofList
theorem unit_lit : "# UNIT ".toList = ['#', ' ', 'U', 'N', 'I', 'T', ' '] := String.toList_ofList
theorem eof_lit : "# EOF\n".toList = sEOF ++ ['\n'] := String.toList_ofList

theorem familyLines_eq (P : Params) (fam : Family) (h : FamOK P fam) :
    OMExpo.familyLines fam = .ok ((textLines fam).map (· ++ ['\n'])) := by
  unfold OMExpo.familyLines
  have hm : fam.samples.mapM (OMExpo.sampleLine fam) = .ok (fam.samples.map (fun s => lineBody s ++ ['\n'])) :=
    mapM_ok _ _ _ (fun s hs => sampleLine_eq fam s (h.samples s hs).2.1)
  simp only [hm, bind, Except.bind, pure, Except.pure, help_lit, type_lit, unit_lit]
  unfold textLines metaLine Generated.OMParse.kwHelp Generated.OMParse.kwType Generated.OMParse.kwUnit
  by_cases hu : fam.unit.isEmpty = true <;> simp [hu]

theorem generateLatest_eq (P : Params) (fs : List Family) (h : ∀ fam ∈ fs, FamOK P fam) :
    OMExpo.generateLatest fs = .ok (((fs.flatMap textLines ++ [sEOF]).map (· ++ ['\n'])).flatten) := by
  unfold OMExpo.generateLatest
  have hm : fs.mapM OMExpo.familyLines = .ok (fs.map (fun fam => (textLines fam).map (· ++ ['\n']))) :=
    mapM_ok _ _ _ (fun fam hf => familyLines_eq P fam (h fam hf))
  simp only [hm, bind, Except.bind, pure, Except.pure, eof_lit]
  congr 1
  simp [List.flatMap, List.map_flatten]
  rfl

theorem nl_optTok (o : Option Str) (h : ∀ t, o = some t → NumTok t) : '\n' ∉ optTok o := by
  cases o with
  | none => simp [optTok]
  | some t => exact not_mem_cons (by decide) (newline_not_mem_numTok (h t rfl))

theorem nl_exBlock {legacy : Bool} (L : List (Str × Str)) (h : ∀ kv ∈ L, labelNameOK legacy kv.1 = true) : '\n' ∉ exBlock L := by
  cases L with
  | nil => simp [exBlock]
  | cons kv r =>
    exact not_mem_append (newline_not_mem_item (h kv (by simp))) (newline_not_mem_tail r (List.forall_mem_cons.mp h).2)

theorem nl_spTail {legacy : Bool} (L : List (Str × Str)) (h : ∀ kv ∈ L, labelNameOK legacy kv.1 = true) : '\n' ∉ spTail L := by
  cases L with
  | nil => simp [spTail]
  | cons kv r => simpa [spTail, exBlock] using nl_exBlock (kv :: r) h

theorem nl_lineRem (P : Params) (s : Sample) (h : SampleOKom P s) : '\n' ∉ lineRem s := by
  have htok := remTok_of_ok h
  have hv := newline_not_mem_numTok htok.v
  have hts := nl_optTok _ htok.ts
  unfold lineRem remText
  cases he : s.exemplar with
  | none => simp [hv, hts]
  | some e =>
    obtain ⟨hok, _⟩ := labelsOK_sortByKey (h.exemplar e he).labels
    have hev := newline_not_mem_numTok (htok.ev _ (by rw [he]; rfl))
    have hets := nl_optTok _ (htok.ets _ (by rw [he]; rfl))
    simp [exTail, hv, hts, hev, hets, nl_exBlock _ hok]

theorem nl_lineBody (P : Params) (s : Sample) (h : SampleOKom P s) : '\n' ∉ lineBody s := by
  obtain ⟨hok, _⟩ := labelsOK_sortByKey h.labels
  have hrem := nl_lineRem P s h
  have hleg : isValidLegacyMetricName s.name = true → '\n' ∉ s.name := fun hv =>
    newline_not_mem_legacy (legacyName_chars hv (legacyMetric_no_newline hv)).2
  rcases lineBody_cases s with ⟨hv, _, hb⟩ | ⟨hv, kv, r, hL, hb⟩ | ⟨_, hb⟩
  · simp [hb, hleg hv, hrem]
  · have hblock := nl_exBlock _ hok
    rw [hL] at hblock
    simpa [hb, hleg hv, hrem, exBlock] using hblock
  · have hq := newline_not_mem_quoted s.name
    simp only [List.mem_cons, List.mem_append, not_or] at hq
    simp [hb, qname, hq, nl_spTail _ hok, hrem]

theorem nl_metaLine {kw tok R : Str} (h1 : '\n' ∉ kw) (h2 : '\n' ∉ tok) (h3 : '\n' ∉ R) : '\n' ∉ metaLine kw tok R := by
  simp [metaLine, h1, h2, h3]

theorem typ_facts {t : Str} (h : t ∈ metricTypes) : '\n' ∉ t ∧ t ≠ untypedName :=
  (by decide : ∀ t ∈ metricTypes, '\n' ∉ t ∧ t ≠ untypedName) t h

theorem nl_textLines (P : Params) (fam : Family) (h : FamOK P fam) : ∀ c ∈ textLines fam, '\n' ∉ c := by
  intro c hc
  have hn := metricTok_no_newline fam.name
  unfold textLines at hc
  simp only [List.mem_append, List.mem_cons, List.not_mem_nil, or_false, List.mem_map] at hc
  rcases hc with ((rfl | rfl) | hc) | ⟨s, hs, rfl⟩
  · exact nl_metaLine (by decide) hn (newline_not_mem_escape fam.doc)
  · exact nl_metaLine (by decide) hn (typ_facts h.typ).1
  · by_cases hu : fam.unit.isEmpty = true
    · simp [hu] at hc
    · simp only [hu, Bool.false_eq_true, ↓reduceIte, List.mem_cons, List.not_mem_nil, or_false] at hc
      subst hc
      exact nl_metaLine (by decide) hn h.unit
  · exact nl_lineBody P s (h.samples s hs).1

/-- the tokenised lines of one family -/
def tokLines (P : Params) (fam : Family) : List Line :=
  metaLines fam ++ (fam.samples.map (parsedOf P)).map (fun o => Line.sample (.ok none) (.ok o))

theorem kwLegacy : (∀ c ∈ Generated.OMParse.kwHelp, isLegacyChar c = true) ∧ (∀ c ∈ Generated.OMParse.kwType, isLegacyChar c = true) ∧
    (∀ c ∈ Generated.OMParse.kwUnit, isLegacyChar c = true) := by decide

theorem parseLine_textLines (P : Params) (hI : IntLaw P.pyInt) (fam : Family) (h : FamOK P fam) :
    (textLines fam).map (parseLine P) = tokLines P fam := by
  unfold textLines tokLines metaLines
  simp only [List.map_append, List.map_cons, List.map_nil, List.map_map]
  have h1 := parseLine_meta P Generated.OMParse.kwHelp kwLegacy.1 fam.name (escape fam.doc) (by decide)
  have h2 := parseLine_meta P Generated.OMParse.kwType kwLegacy.2.1 fam.name fam.typ (by decide)
  have h3 := parseLine_meta P Generated.OMParse.kwUnit kwLegacy.2.2 fam.name fam.unit (by decide)
  rw [h1, h2]
  congr 1
  congr 1
  · by_cases hu : fam.unit.isEmpty = true
    · simp [hu]
    · simp [hu, h3]
  · apply List.map_congr_left
    intro s hs
    simp only [Function.comp]
    rw [parseLine_renderedSample P s (h.samples s hs).1, (parsedOf_spec P hI s (h.samples s hs).1).1]

theorem parseLine_eof (P : Params) : parseLine P sEOF = .eof := by
  unfold parseLine; rfl

/-- the parser's rule layer over a list of families: flush the previous family, then the per-sample checks -/
def runFams (P : Params) : St → List (Family × List OSample) → PyM St
  | st, [] => .ok st
  | st, (fam, os) :: rest =>
    match flush P st.glob st.hdr st.grp.samples with
    | .error e => .error e
    | .ok g =>
      match foldChecks P (famHdr fam) {} os with
      | .error e => .error e
      | .ok gr => runFams P ⟨famHdr fam, gr, g, false⟩ rest

/-- what the parser computes on the exposed VALUES: per family the rule layer, then `build_metric` -/
def rulesOnly (P : Params) (fs : List (Family × List OSample)) : PyM (List OFamily) :=
  match runFams P {} fs with
  | .error e => .error e
  | .ok st =>
    match flush P st.glob st.hdr st.grp.samples with
    | .ok g => .ok g.out
    | .error e => .error e

theorem runFams_eof (P : Params) : ∀ (fs : List (Family × List OSample)) (st st' : St), st.eof = false →
    runFams P st fs = .ok st' → st'.eof = false := by
  intro fs
  induction fs with
  | nil => intro st st' he h; cases h; exact he
  | cons x xs ih =>
    intro st st' he h
    simp only [runFams] at h
    split at h
    · cases h
    · split at h
      · cases h
      · exact ih _ st' rfl h

theorem adjDiffer_cons {a : Family} {l : List Family} (h : AdjDiffer (a :: l)) :
    (∀ b, l.head? = some b → a.name ≠ b.name) ∧ AdjDiffer l := by
  cases l with
  | nil => exact ⟨fun b hb => (by cases hb), trivial⟩
  | cons b r => exact ⟨fun b' hb => (by cases hb; exact h.1), h.2⟩

theorem run_tokLines (P : Params) (hI : IntLaw P.pyInt) : ∀ (fs : List Family) (st : St) (rest : List Line), st.eof = false →
    (∀ fam ∈ fs, FamOK P fam) → (∀ fam, fs.head? = some fam → st.hdr.name ≠ some fam.name) → AdjDiffer fs →
    OMParse.run P st (fs.flatMap (tokLines P) ++ rest) =
      (match runFams P st (fs.map (fun fam => (fam, fam.samples.map (parsedOf P)))) with
       | .ok st' => OMParse.run P st' rest
       | .error e => .error e) := by
  intro fs
  induction fs with
  | nil => intro st rest _ _ _ _; rfl
  | cons fam fs ih =>
    intro st rest heof hok hhead hadj
    have hf := hok fam (by simp)
    have hty := (typ_facts hf.typ).2
    simp only [List.flatMap_cons, List.map_cons, runFams, tokLines, List.append_assoc]
    rw [run_metaLines P st fam heof (hhead fam rfl) hty]
    cases flush P st.glob st.hdr st.grp.samples with
    | error e => rfl
    | ok g =>
      simp only []
      have hallow : ∀ o ∈ fam.samples.map (parsedOf P), (famHdr fam).allowed.contains o.name = true := by
        intro o ho
        obtain ⟨s, hs, rfl⟩ := List.mem_map.mp ho
        have hsm := (parsedOf_spec P hI s (hf.samples s hs).1).2
        rw [hsm.name]
        exact (hf.samples s hs).2.2
      rw [run_sampleLines P (famHdr fam) g _ {} _ hallow]
      cases foldChecks P (famHdr fam) {} (fam.samples.map (parsedOf P)) with
      | error e => rfl
      | ok gr =>
        simp only []
        obtain ⟨hne, hadj'⟩ := adjDiffer_cons hadj
        exact ih ⟨famHdr fam, gr, g, false⟩ rest rfl (List.forall_mem_cons.mp hok).2
          (fun f2 h2 => by simp only [famHdr, ne_eq, Option.some.injEq]; exact hne f2 h2) hadj'

/-- the tokenised lines of the whole exposition -/
def docTokens (P : Params) (fs : List Family) : List Line := fs.flatMap (tokLines P) ++ [Line.eof]

theorem assemble_docTokens (P : Params) (hI : IntLaw P.pyInt) (fs : List Family) (hok : ∀ fam ∈ fs, FamOK P fam) (hadj : AdjDiffer fs) :
    assemble P (docTokens P fs) = rulesOnly P (fs.map (fun fam => (fam, fam.samples.map (parsedOf P)))) := by
  unfold assemble rulesOnly docTokens
  rw [run_tokLines P hI fs {} [Line.eof] rfl hok (by intro fam _; simp) hadj]
  cases hr : runFams P {} (fs.map (fun fam => (fam, fam.samples.map (parsedOf P)))) with
  | error e => rfl
  | ok st' =>
    have he := runFams_eof P _ {} st' rfl hr
    obtain ⟨h, gr, g, e⟩ := st'
    simp only at he
    subst he
    simp only [OMParse.run, stepLine, Bool.false_eq_true, ↓reduceIte, finish, Bool.not_true]
    cases flush P g h gr.samples <;> rfl

/-- **`omParse ∘ generateLatest` = the rule layer on the exposed values**, for every list of expressible families whose
consecutive names differ; the tokenised lines of the exposition are `docTokens` -/
theorem doc_parse (P : Params) (hI : IntLaw P.pyInt) (fs : List Family) (hok : ∀ fam ∈ fs, FamOK P fam) (hadj : AdjDiffer fs) :
    ∃ text, OMExpo.generateLatest fs = .ok text ∧ (docLines text).map (parseLine P) = docTokens P fs ∧
      omParse P text = rulesOnly P (fs.map (fun fam => (fam, fam.samples.map (parsedOf P)))) := by
  have hnl : ∀ c ∈ fs.flatMap textLines ++ [sEOF], '\n' ∉ c := by
    intro c hc
    rcases List.mem_append.mp hc with h | h
    · obtain ⟨fam, hf, hc'⟩ := List.mem_flatMap.mp h
      exact nl_textLines P fam (hok fam hf) c hc'
    · simp only [List.mem_cons, List.not_mem_nil, or_false] at h
      subst h; decide
  have htok : (fs.flatMap textLines ++ [sEOF]).map (parseLine P) = docTokens P fs := by
    unfold docTokens
    rw [List.map_append, List.map_flatMap]
    simp only [List.map_cons, List.map_nil, parseLine_eof]
    congr 1
    rw [List.flatMap_def, List.flatMap_def, List.map_congr_left (fun fam hf => parseLine_textLines P hI fam (hok fam hf))]
  have hlines : (docLines (((fs.flatMap textLines ++ [sEOF]).map (· ++ ['\n'])).flatten)).map (parseLine P) = docTokens P fs := by
    rw [docLines_render _ hnl, htok]
  refine ⟨_, generateLatest_eq P fs hok, hlines, ?_⟩
  unfold omParse
  rw [hlines]
  exact assemble_docTokens P hI fs hok hadj

end PromVerif.Lemmas.OMRt
