/-
The quote-aware scanner `_next_unquoted_char` as an automaton over (in-quotes, odd-backslash-run), and its behaviour
on escaped text: scanning `escape v` from inside quotes never reports a position and ends inside quotes with even
parity; hence in `"escape(v)"rest` the first unquoted occurrence of a character of `chs` (with '"' ∉ chs) lies in rest.
-/
import PromVerif.Lemmas.Escape

namespace PromVerif.Lemmas.Scanner
open PromVerif.Py PromVerif.Model.Escape PromVerif.Model.ParseCore PromVerif.Lemmas.Escape

/-- in-quotes flag after looking at `c` -/
def qStep (inQ odd : Bool) (c : Char) : Bool := if c == '"' && !odd then !inQ else inQ

/-- scanner state after passing over a string -/
def run : Str → Bool → Bool → Bool × Bool
  | [], q, o => (q, o)
  | c :: cs, q, o => run cs (qStep q o c) (bsStep o c)

/-- the scanner reports no position inside the string -/
def noHit (chs : Char → Bool) : Str → Bool → Bool → Bool
  | [], _, _ => true
  | c :: cs, q, o => !(!(qStep q o c) && chs c) && noHit chs cs (qStep q o c) (bsStep o c)

/-- `_next_unquoted_char` relative to the current position, from an arbitrary scanner state -/
def scan (chs : Char → Bool) (t : Str) (inQ odd : Bool) : Option Nat := nextUnquotedAux chs 0 t 0 inQ odd

theorem aux_cons (chs : Char → Bool) (start : Nat) (c : Char) (cs : Str) (i : Nat) (inQ odd : Bool) :
    nextUnquotedAux chs start (c :: cs) i inQ odd =
      if i < start then nextUnquotedAux chs start cs (i + 1) inQ (bsStep odd c)
      else if !(qStep inQ odd c) && chs c then some i
      else nextUnquotedAux chs start cs (i + 1) (qStep inQ odd c) (bsStep odd c) := by
  rw [nextUnquotedAux]; rfl

theorem aux_shift (chs : Char → Bool) (t : Str) : ∀ (start i : Nat) (inQ odd : Bool), start ≤ i →
    nextUnquotedAux chs start t i inQ odd = (scan chs t inQ odd).map (· + i) := by
  induction t with
  | nil => intro start i inQ odd _; simp [scan, nextUnquotedAux]
  | cons c cs ih =>
    intro start i inQ odd h
    unfold scan
    rw [aux_cons, aux_cons]
    have h1 : ¬ i < start := by omega
    simp only [h1, ↓reduceIte, Nat.not_lt_zero]
    by_cases hh : (!(qStep inQ odd c) && chs c) = true
    · simp [hh]
    · simp only [hh, Bool.false_eq_true, ↓reduceIte]
      rw [ih start (i + 1) _ _ (by omega), ih 0 (0 + 1) _ _ (by omega), Option.map_map]
      congr 1
      funext n
      simp only [Function.comp]
      omega

theorem aux_skip (chs : Char → Bool) (start : Nat) (t : Str) (pre : Str) : ∀ (i : Nat) (inQ odd : Bool),
    i + pre.length ≤ start →
    nextUnquotedAux chs start (pre ++ t) i inQ odd =
      nextUnquotedAux chs start t (i + pre.length) inQ (pre.foldl bsStep odd) := by
  induction pre with
  | nil => intro i inQ odd _; simp
  | cons c cs ih =>
    intro i inQ odd h
    simp only [List.length_cons] at h
    rw [List.cons_append, aux_cons]
    have h1 : i < start := by omega
    simp only [h1, ↓reduceIte]
    rw [ih (i + 1) _ _ (by omega)]
    simp only [List.length_cons, List.foldl_cons]
    congr 1
    omega

theorem nextUnquotedChar_zero (text : Str) (chs : Char → Bool) : nextUnquotedChar text chs 0 = scan chs text false false := rfl

/-- scanning from `start = len(pre)` only tracks the backslash parity over `pre` -/
theorem nextUnquotedChar_from (pre t : Str) (chs : Char → Bool) :
    nextUnquotedChar (pre ++ t) chs pre.length = (scan chs t false (pre.foldl bsStep false)).map (· + pre.length) := by
  unfold nextUnquotedChar
  rw [aux_skip chs pre.length t pre 0 false false (by omega)]
  rw [aux_shift chs t pre.length (0 + pre.length) false _ (by omega)]
  simp

theorem noHit_cons_of_not {chs : Char → Bool} {c : Char} {cs : Str} {q o : Bool} (hc : (!(qStep q o c) && chs c) ≠ true)
    (h : noHit chs cs (qStep q o c) (bsStep o c) = true) : noHit chs (c :: cs) q o = true := by
  rw [noHit, h, Bool.eq_false_iff.mpr hc]; rfl

section
variable (chs : Char → Bool)

theorem scan_nil (q o : Bool) : scan chs [] q o = none := by simp [scan, nextUnquotedAux]

theorem scan_cons (c : Char) (cs : Str) (q o : Bool) :
    scan chs (c :: cs) q o =
      if !(qStep q o c) && chs c then some 0 else (scan chs cs (qStep q o c) (bsStep o c)).map (· + 1) := by
  unfold scan
  rw [aux_cons, if_neg (Nat.not_lt_zero 0)]
  split
  · rfl
  · rw [aux_shift chs cs 0 (0 + 1) _ _ (by omega)]; rfl

theorem run_append (a b : Str) : ∀ q o, run (a ++ b) q o = run b (run a q o).1 (run a q o).2 := by
  induction a with
  | nil => intro q o; rfl
  | cons c cs ih => intro q o; simp only [List.cons_append, run]; exact ih _ _

theorem run_snd (s : Str) : ∀ q o, (run s q o).2 = s.foldl bsStep o := by
  induction s with
  | nil => intro q o; rfl
  | cons c cs ih => intro q o; exact ih _ _

theorem run_fst_of_not_mem {s : Str} (h : '"' ∉ s) : ∀ q o, (run s q o).1 = q := by
  induction s with
  | nil => intro q o; rfl
  | cons c cs ih =>
    intro q o
    rw [List.mem_cons, not_or] at h
    have e : (c == '"') = false := by simpa using Ne.symm h.1
    rw [run, ih h.2, qStep, e]
    rfl

theorem noHit_append (a b : Str) : ∀ q o,
    noHit chs (a ++ b) q o = (noHit chs a q o && noHit chs b (run a q o).1 (run a q o).2) := by
  induction a with
  | nil => intro q o; simp [noHit, run]
  | cons c cs ih => intro q o; simp only [List.cons_append, noHit, run, ih, Bool.and_assoc]

theorem scan_append_of_noHit (p t : Str) : ∀ q o, noHit chs p q o = true →
    scan chs (p ++ t) q o = (scan chs t (run p q o).1 (run p q o).2).map (· + p.length) := by
  induction p with
  | nil => intro q o _; simp [run]
  | cons c cs ih =>
    intro q o h
    simp only [noHit, Bool.and_eq_true, Bool.not_eq_true'] at h
    rw [List.cons_append, scan_cons]
    simp only [h.1, Bool.false_eq_true, ↓reduceIte]
    rw [ih _ _ h.2]
    simp only [run, Option.map_map, List.length_cons]
    congr 1

theorem scan_none_of_noHit (p : Str) (q o : Bool) (h : noHit chs p q o = true) :
    scan chs p q o = none := by
  have := scan_append_of_noHit chs p [] q o h
  simpa [scan_nil] using this

theorem scan_hit (c : Char) (t : Str) (o : Bool) (hq : c ≠ '"') (hc : chs c = true) :
    scan chs (c :: t) false o = some 0 := by
  rw [scan_cons]
  have : (c == '"') = false := by simpa using hq
  simp [qStep, this, hc]

theorem scan_none_noHit : ∀ (t : Str) (q o : Bool), scan chs t q o = none → noHit chs t q o = true := by
  intro t
  induction t with
  | nil => intro q o _; rfl
  | cons c cs ih =>
    intro q o h
    rw [scan_cons] at h
    by_cases hh : (!(qStep q o c) && chs c) = true
    · rw [if_pos hh] at h; cases h
    · rw [if_neg hh, Option.map_eq_none_iff] at h
      exact noHit_cons_of_not hh (ih _ _ h)

theorem scan_some_split : ∀ (t : Str) (q o : Bool) (p : Nat), scan chs t q o = some p →
    ∃ a c b, t = a ++ c :: b ∧ a.length = p ∧ noHit chs a q o = true ∧
      (!(qStep (run a q o).1 (run a q o).2 c) && chs c) = true := by
  intro t
  induction t with
  | nil => intro q o p h; rw [scan_nil] at h; cases h
  | cons c cs ih =>
    intro q o p h
    rw [scan_cons] at h
    by_cases hh : (!(qStep q o c) && chs c) = true
    · rw [if_pos hh] at h
      exact ⟨[], c, cs, rfl, Option.some.inj h, rfl, hh⟩
    · rw [if_neg hh, Option.map_eq_some_iff] at h
      obtain ⟨p', hp', hpe⟩ := h
      obtain ⟨a, c', b, e, hl, hn, hc⟩ := ih _ _ _ hp'
      exact ⟨c :: a, c', b, by rw [e]; rfl, by rw [← hpe, ← hl]; rfl, noHit_cons_of_not hh hn, hc⟩

theorem plain_pass (p : Str) (h : ∀ c ∈ p, c ≠ '"' ∧ c ≠ '\\' ∧ chs c = false) :
    noHit chs p false false = true ∧ run p false false = (false, false) := by
  induction p with
  | nil => exact ⟨rfl, rfl⟩
  | cons c cs ih =>
    obtain ⟨h1, h2, h3⟩ := h c (by simp)
    have e1 : (c == '"') = false := by simpa using h1
    have e2 : (c == '\\') = false := by simpa using h2
    have ih' := ih (fun d hd => h d (by simp [hd]))
    simp only [noHit, run, qStep, bsStep, e1, e2, h3, Bool.false_and, Bool.and_false, Bool.false_eq_true, ↓reduceIte,
      Bool.not_false, Bool.true_and]
    exact ih'

theorem escChar_pass (c : Char) :
    noHit chs (escChar c) true false = true ∧ run (escChar c) true false = (true, false) := by
  rcases escChar_cases c with ⟨_, e⟩ | ⟨_, e⟩ | ⟨_, e⟩ | ⟨h1, _, h3, e⟩ <;> rw [e]
  · exact ⟨rfl, rfl⟩
  · exact ⟨rfl, rfl⟩
  · exact ⟨rfl, rfl⟩
  · have e1 : (c == '"') = false := by simpa using h3
    have e2 : (c == '\\') = false := by simpa using h1
    exact ⟨by simp [noHit, qStep, e1], by simp [run, qStep, bsStep, e1, e2]⟩

end

theorem scan_escape (chs : Char → Bool) (v : Str) :
    noHit chs (escape v) true false = true ∧ run (escape v) true false = (true, false) := by
  induction v with
  | nil => rw [escape_nil]; exact ⟨rfl, rfl⟩
  | cons c cs ih =>
    rw [escape_cons, noHit_append, run_append]
    have := escChar_pass chs c
    rw [this.1, this.2]
    simpa using ih

theorem quoted_pass (chs : Char → Bool) (hq : chs '"' = false) (v : Str) :
    noHit chs ('"' :: (escape v ++ ['"'])) false false = true ∧
      run ('"' :: (escape v ++ ['"'])) false false = (false, false) := by
  have h := scan_escape chs v
  have a1 : qStep false false '"' = true := rfl
  have a2 : bsStep false '"' = false := rfl
  refine ⟨?_, ?_⟩
  · rw [noHit, a1, a2, noHit_append, h.1, h.2]
    simp [noHit, qStep, hq]
  · rw [run, a1, a2, run_append, h.2]
    simp [run, qStep, bsStep]

theorem nextUnquoted_skips_quoted (chs : Char → Bool) (hq : chs '"' = false) (v rest : Str) :
    nextUnquotedChar ('"' :: (escape v ++ ['"']) ++ rest) chs 0 =
      (nextUnquotedChar rest chs 0).map (· + ((escape v).length + 2)) := by
  rw [nextUnquotedChar_zero, nextUnquotedChar_zero]
  have h := quoted_pass chs hq v
  rw [scan_append_of_noHit chs _ rest false false h.1, h.2]
  simp

end PromVerif.Lemmas.Scanner
