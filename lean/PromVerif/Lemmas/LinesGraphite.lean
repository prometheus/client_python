/-
C05 lemmas: the Graphite bridge — sanitised text stays in the whitelist, a line is `path SP value SP int`.
-/
import PromVerif.Lemmas.LinesBlocks
import PromVerif.Model.Graphite

namespace PromVerif.Lemmas.Lines
open PromVerif.Py PromVerif.Model PromVerif.Model.Validation
open PromVerif.Generated.Graphite
open PromVerif.Spec.LineGrammar hiding Str
open PromVerif.Model.Graphite (sanitize labelItem labelStr line lines push)

theorem sanitize_allowed (s : Str) : ∀ c ∈ sanitize s, inClass allowedClass c = true := by
  intro c hc
  simp only [sanitize, List.mem_flatMap] at hc
  obtain ⟨x, _, hx⟩ := hc
  split at hx
  · next h => simp at hx; subst hx; exact h
  · have : ∀ r ∈ replacement, inClass allowedClass r = true := by decide
    exact this c hx

theorem allowed_pathCh (c : Char) (h : inClass allowedClass c = true) : pathCh c = true := by
  simp [inClass, allowedClass] at h
  simp [pathCh, inRange]
  omega

theorem allowed_strict (c : Char) (h : inClass allowedClass c = true) :
    c ≠ ' ' ∧ c ≠ '\n' ∧ c ≠ '.' ∧ c ≠ ';' ∧ c ≠ '=' := by
  refine ⟨?_, ?_, ?_, ?_, ?_⟩ <;> (intro e; subst e; revert h; decide)

theorem sanitize_pathCh (s : Str) : (sanitize s).all pathCh = true :=
  List.all_eq_true.mpr fun c hc => allowed_pathCh c (sanitize_allowed s c hc)

theorem joinStr_all (p : Char → Bool) (sep : Str) (l : List Str) (hsep : sep.all p = true)
    (hl : ∀ x ∈ l, x.all p = true) : (joinStr sep l).all p = true := by
  fun_induction joinStr sep l with
  | case1 => rfl
  | case2 x => exact hl x List.mem_cons_self
  | case3 x xs _ ih =>
    rw [List.all_append, List.all_append, hl x List.mem_cons_self, hsep, ih (List.forall_mem_cons.mp hl).2]
    rfl

theorem labelStr_pathCh (tags : Bool) (ls : List (Str × Str)) : (labelStr tags ls).all pathCh = true := by
  have hsep : (if tags then tagsSep else plainSep).all pathCh = true := by cases tags <;> rfl
  have hmid : (if tags then tagsMid else plainMid).all pathCh = true := by cases tags <;> rfl
  rw [labelStr, List.all_append, hsep, joinStr_all pathCh _ _ hsep]
  · rfl
  · intro x hx
    obtain ⟨kv, _, rfl⟩ := List.mem_map.mp hx
    simp only [labelItem, show sanitizesLabelName = true from rfl, show sanitizesLabelValue = true from rfl, if_true,
      List.all_append, sanitize_pathCh, hmid, Bool.and_self]

/-- the line the f-string builds: `lineFormat` interpolates the five expressions `evalExpr` knows, in this order -/
theorem line_eq (tags : Bool) (prefixstr : Str) (now : Int) (s : Sample) :
    line tags prefixstr now s =
      prefixstr ++ sanitize s.name ++ (if s.labels.isEmpty then [] else labelStr tags s.labels) ++ [' '] ++ s.value ++
        [' '] ++ intStr now ++ ['\n'] := by
  -- nest the right side to the right, as `flatMap` does; with the expression names as character lists both sides compute
  simp only [List.append_assoc]
  unfold line lineFormat Graphite.evalExpr
  repeat rw [String.toList_ofList]
  rfl

/-- hypotheses for one Graphite line.  Known finding G2: the path is not empty (prefix or sample name non-empty).
Preconditions, not findings: the `prefix` argument of `push` — operator configuration, outside the property's
quantifier, inserted raw — is in the path alphabet; the value is a number token; the clock is not negative -/
def graphiteOK (prefixstr : Str) (now : Int) (s : Sample) : Bool :=
  prefixstr.all pathCh && (!prefixstr.isEmpty || !s.name.isEmpty) && floatTok s.value && decide (0 ≤ now)

theorem sanitize_ne_nil (s : Str) (h : s ≠ []) : sanitize s ≠ [] := by
  cases s with
  | nil => exact absurd rfl h
  | cons c cs =>
    have hr : replacement ≠ [] := by decide
    simp only [sanitize, List.flatMap_cons]
    split <;> simp [hr]

/-- neither the path alphabet, nor a number token, nor digits contain a space (so the line splits into exactly
these three) or an LF -/
theorem graphiteLine_parts (P V T : Str) (hP : P.all pathCh = true) (hPne : P ≠ []) (hV : floatTok V = true)
    (hT : T.all isDig = true) (hTne : T ≠ []) :
    graphiteLine (P ++ [' '] ++ V ++ [' '] ++ T) = true ∧ '\n' ∉ P ++ [' '] ++ V ++ [' '] ++ T := by
  have hVa : V.all numCh = true := ((Bool.and_eq_true _ _).mp hV).2
  constructor
  · unfold graphiteLine
    simp only [List.append_assoc, List.cons_append, List.nil_append]
    rw [splitOn_append_sep _ _ _ (not_mem_of_all pathCh P hP ' ' (by decide)),
      splitOn_append_sep _ _ _ (not_mem_of_all numCh V hVa ' ' (by decide)),
      splitOn_of_not_mem _ _ (not_mem_of_all isDig T hT ' ' (by decide))]
    simp only [Bool.and_eq_true, Bool.not_eq_true', hP, hV, hT, and_true, List.isEmpty_eq_false_iff.mpr hPne,
      List.isEmpty_eq_false_iff.mpr hTne]
  · simp only [List.mem_append, List.mem_singleton, not_mem_of_all pathCh P hP '\n' (by decide),
      not_mem_of_all numCh V hVa '\n' (by decide), not_mem_of_all isDig T hT '\n' (by decide), or_false, false_or]
    decide

theorem graphiteLine_spaces (b : Str) (h : graphiteLine b = true) : b.count ' ' = 2 := by
  have := count_sep_splitOn ' ' b
  unfold graphiteLine at h
  split at h
  · next p v t hs => rw [hs] at this; simp at this; omega
  · cases h

theorem graphite_line_ok (tags : Bool) (prefixstr : Str) (now : Int) (s : Sample)
    (h : graphiteOK prefixstr now s = true) :
    ∃ b, line tags prefixstr now s = b ++ ['\n'] ∧ graphiteLine b = true ∧ '\n' ∉ b := by
  simp only [graphiteOK, Bool.and_eq_true, Bool.or_eq_true, Bool.not_eq_true', decide_eq_true_eq] at h
  obtain ⟨⟨⟨hp, hne⟩, hv⟩, hnow⟩ := h
  obtain ⟨k, rfl⟩ := Int.eq_ofNat_of_zero_le hnow
  rw [line_eq]
  refine ⟨_, rfl, graphiteLine_parts _ s.value (decDigits k) ?_ ?_ hv (decDigits_isDig k) (decDigits_ne_nil k)⟩
  · rw [List.all_append, List.all_append, hp, sanitize_pathCh]
    split
    · rfl
    · exact labelStr_pathCh tags _
  · rcases hne with hne | hne
    · simp [List.isEmpty_eq_false_iff.mp hne]
    · simp [sanitize_ne_nil _ (List.isEmpty_eq_false_iff.mp hne)]

end PromVerif.Lemmas.Lines
