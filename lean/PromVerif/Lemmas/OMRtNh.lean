/-
C04: the native-histogram detector `_parse_nh_sample` declines every line the exposition writes for a float-valued
sample — also a bucket line with an exemplar, whose tail ` # {…} v` has a '{' after the value: the detector looks for an
unquoted '{' after the metric's own label block and returns `None` when an unquoted '#' comes before it.
-/
import PromVerif.Lemmas.OMRtSample

set_option autoImplicit false

namespace PromVerif.Lemmas.OMRt
open PromVerif.Py PromVerif.Model PromVerif.Model.Escape PromVerif.Model.ParseCore PromVerif.Model.Validation
open PromVerif.Model.OMParse PromVerif.Spec.OMRoundtrip PromVerif.Lemmas.Escape PromVerif.Lemmas.Scanner
open PromVerif.Lemmas.TextParse PromVerif.Model.TextExpo

theorem trailOdd_of_pass {chs : Char → Bool} {s : Str} (h : Pass chs s) : trailOdd s = false := by
  have := run_snd s false false
  rw [h.2] at this
  exact this.symm

theorem trailOdd_snoc_ne (x : Str) (c : Char) (hc : c ≠ '\\') : trailOdd (x ++ [c]) = false := by
  rw [trailOdd_append_singleton]
  have : (c == '\\') = false := by simpa using hc
  simp [bsStep, this]

theorem nextUnquoted_from_even (pre t : Str) (chs : Char → Bool) (h : trailOdd pre = false) :
    nextUnquotedChar (pre ++ t) chs pre.length = (scan chs t false false).map (· + pre.length) := by
  rw [nextUnquotedChar_from, foldl_bsStep_eq, h]

/-- what the last block of the detector sees once the end of the metric definition is known: in the text after it, `[ ]remainder`,
there is no unquoted '{', or one two places behind an unquoted '#' -/
theorem nh_tail (sp : Bool) (pre : Str) (hpre : trailOdd pre = false) {vtok : Str} {ts : Option Str}
    {ex : Option (List (Str × Str) × Str × Option Str)} (ht : RemTok vtok ts ex) :
    nextUnquotedChar (pre ++ ((if sp then [' '] else []) ++ remText vtok ts ex)) (· == '{') pre.length = none ∨
    ∃ k, nextUnquotedChar (pre ++ ((if sp then [' '] else []) ++ remText vtok ts ex)) (· == '#') pre.length = some k ∧
      nextUnquotedChar (pre ++ ((if sp then [' '] else []) ++ remText vtok ts ex)) (· == '{') pre.length = some (k + 2) := by
  rw [nextUnquoted_from_even _ _ _ hpre, nextUnquoted_from_even _ _ _ hpre]
  cases ex with
  | none =>
    have := scan_rem_none sp ht.v ts ht.ts
    unfold lbChs at this
    exact Or.inl (by rw [this]; rfl)
  | some x =>
    obtain ⟨L, etok, ets⟩ := x
    have := scan_rem_some sp ht.v ts ht.ts L etok ets
    unfold lbChs hashChs at this
    exact Or.inr ⟨_, by rw [this.1]; rfl, by rw [this.2]; simp only [Option.map_some]; congr 1; omega⟩

def spLbChs : Char → Bool := fun c => c == ' ' || c == '{'

theorem pass_spLb_legacy {n : Str} (hv : isValidLegacyMetricName n = true) : Pass spLbChs n :=
  pass_legacyName (fun c h => by
    simp [spLbChs, legacyChar_eq_false h (show isLegacyChar ' ' = false by decide),
      legacyChar_eq_false h (show isLegacyChar '{' = false by decide)]) hv

theorem nhDetect_bare {n : Str} (hv : isValidLegacyMetricName n = true) {vtok : Str} {ts : Option Str}
    {ex : Option (List (Str × Str) × Str × Option Str)} (ht : RemTok vtok ts ex) :
    nhDetect (n ++ ' ' :: remText vtok ts ex) = .ok none := by
  have h0 : nextUnquotedChar (n ++ ' ' :: remText vtok ts ex) (fun c => c == ' ' || c == '{') = some n.length :=
    scan_pass_hit (pass_spLb_legacy hv) ' ' _ (by decide) (by decide)
  have hget : (n ++ ' ' :: remText vtok ts ex)[n.length]? = some ' ' := by simp
  have htail := nh_tail false (n ++ [' ']) (trailOdd_snoc_ne n ' ' (by decide)) ht
  simp only [Bool.false_eq_true, ↓reduceIte, List.nil_append, List.append_assoc, List.singleton_append, List.length_append,
    List.length_cons, List.length_nil, Nat.zero_add] at htail
  unfold nhDetect
  simp only [h0, hget, show (some ' ' == some '{') = false from rfl, Bool.false_eq_true, ↓reduceIte]
  rcases htail with h | ⟨k, h1, h2⟩
  · simp only [h]
  · rw [h2, h1]
    simp

theorem nhDetect_braced (H0 B : Str) (hH : Pass spLbChs H0) (hB : Pass rbChs ('{' :: B)) {vtok : Str} {ts : Option Str}
    {ex : Option (List (Str × Str) × Str × Option Str)} (ht : RemTok vtok ts ex) :
    nhDetect (H0 ++ '{' :: (B ++ '}' :: ' ' :: remText vtok ts ex)) = .ok none := by
  have h0 : nextUnquotedChar (H0 ++ '{' :: (B ++ '}' :: ' ' :: remText vtok ts ex)) (fun c => c == ' ' || c == '{') = some H0.length :=
    scan_pass_hit hH '{' _ (by decide) (by decide)
  have hget : (H0 ++ '{' :: (B ++ '}' :: ' ' :: remText vtok ts ex))[H0.length]? = some '{' := by simp
  have he : nextUnquotedChar (H0 ++ '{' :: (B ++ '}' :: ' ' :: remText vtok ts ex)) (· == '}') H0.length =
      some (H0 ++ '{' :: B).length := by
    rw [nextUnquoted_from_even _ _ _ (trailOdd_of_pass hH), ← nextUnquotedChar_zero, ← List.cons_append]
    show (nextUnquotedChar _ rbChs).map _ = _
    rw [scan_pass_hit hB '}' _ (by decide) (by decide)]
    simp; omega
  have htail := nh_tail true (H0 ++ '{' :: B ++ ['}']) (trailOdd_snoc_ne _ '}' (by decide)) ht
  simp only [↓reduceIte, List.cons_append, List.nil_append, List.append_assoc] at htail
  have hlen : (H0 ++ '{' :: (B ++ ['}'])).length = (H0 ++ '{' :: B).length + 1 := by simp; omega
  rw [hlen] at htail
  unfold nhDetect
  simp only [h0, hget, beq_self_eq_true, ↓reduceIte, he]
  rcases htail with h | ⟨k, h1, h2⟩
  · simp only [h]
  · rw [h2, h1]
    simp

theorem parseNhSample_of_detect (P : Params) (text : Str) (suff : List Str) (h : nhDetect text = .ok none) :
    parseNhSample P text suff = .ok none := by
  unfold parseNhSample; rw [h]

end PromVerif.Lemmas.OMRt
