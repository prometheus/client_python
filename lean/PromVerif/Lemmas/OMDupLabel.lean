/-
"Duplicate label names are rejected", on TEXT, whatever the SPELLING of the name tokens.

The parser compares DECODED names (`if label_name in labels`), so one label written once bare and once quoted —
`a="1","a"="2"` — is a duplicate too.  Every item carries its own name token; the only requirements on a token (`TokOK`)
are what the loop needs: the scanner passes it, `_unquote_unescape` decodes it to the name, it does not start with a
blank or a comma.  The canonical spelling (a legacy name bare, any other name quoted and escaped) and the quoted spelling
of ANY accepted name satisfy them; a rendered block `k1="v1",k2="v2",…` is the case "every token canonical".
-/
import PromVerif.Lemmas.OMRtSample
import PromVerif.Lemmas.OMRtNh
import PromVerif.Lemmas.OMLabels

set_option autoImplicit false

namespace PromVerif.Lemmas.OMRt
open PromVerif.Py PromVerif.Model PromVerif.Model.Escape PromVerif.Model.ParseCore PromVerif.Model.Validation
open PromVerif.Model.OMParse PromVerif.Lemmas.Escape PromVerif.Lemmas.Scanner
open PromVerif.Lemmas.TextParse PromVerif.Model.TextExpo
open PromVerif.Lemmas.TextTotal (oneLabelBody)
open PromVerif.Lemmas.OM (parseOneLabel_om_eq omTail nextTerm_om_no_comma nextTerm_om_comma_cons)

/-- what the label loop needs of a name token `tok` that spells the label name `k` -/
structure TokOK (legacy : Bool) (k tok : Str) : Prop where
  ok : labelNameOK legacy k = true
  pass : ∀ chs, NameSafe chs → Pass chs tok
  dec : ∃ q, unquoteUnescape tok = .ok (k, q) ∧ (!q && !isValidLegacyMetricName k) = false
  head : ∃ a t, tok = a :: t ∧ a ≠ ',' ∧ isPySpace a = false

theorem tokOK_canonical {legacy : Bool} {k : Str} (h : labelNameOK legacy k = true) : TokOK legacy k (escapeLabelName k) := by
  refine ⟨h, fun chs hs => nameTok_pass hs h, unquote_nameTok h, ?_⟩
  rcases nameTok_cases h with ⟨e, hne, hc, _⟩ | e
  · rw [e]
    cases hk : k with
    | nil => exact absurd hk hne
    | cons c cs =>
      have hl := hc c (by rw [hk]; simp)
      exact ⟨c, _, rfl, legacyChar_ne hl (by decide), legacyChar_not_space hl⟩
  · rw [e]
    exact ⟨'"', _, rfl, by decide, by decide⟩

theorem tokOK_quoted {legacy : Bool} {k : Str} (h : labelNameOK legacy k = true) : TokOK legacy k (qname k) :=
  ⟨h, fun chs hs => quoted_pass chs hs.quote k, ⟨true, unquoteUnescape_quoted k, rfl⟩, ⟨'"', _, rfl, by decide, by decide⟩⟩

/-- an item with its own name token: (token, decoded name, value) -/
abbrev STerm := Str × Str × Str

def sItem (t : STerm) : Str := t.1 ++ '=' :: '"' :: (escape t.2.2 ++ ['"'])
def sDec (t : STerm) : Str × Str := (t.2.1, t.2.2)
def STermOK (legacy : Bool) (t : STerm) : Prop := TokOK legacy t.2.1 t.1
def tailS (l : List STerm) : Str := l.flatMap (fun t => ',' :: sItem t)

theorem tailS_cons (t : STerm) (l : List STerm) : tailS (t :: l) = ',' :: (sItem t ++ tailS l) := by
  simp [tailS]

theorem sitem_pass {chs : Char → Bool} (hs : NameSafe chs) (he : chs '=' = false) {legacy : Bool} {t : STerm}
    (h : STermOK legacy t) : Pass chs (sItem t) := by
  have hn := h.pass chs hs
  have hq : Pass chs ('"' :: (escape t.2.2 ++ ['"'])) := quoted_pass chs hs.quote t.2.2
  have h1 : Pass chs ['='] := pass_char (by decide) (by decide) he
  simpa [sItem] using pass_append hn (pass_append h1 hq)

theorem tailS_pass {chs : Char → Bool} (hs : NameSafe chs) (he : chs '=' = false) (hc : chs ',' = false) {legacy : Bool} :
    ∀ (l : List STerm), (∀ t ∈ l, STermOK legacy t) → Pass chs (tailS l) := by
  intro l
  induction l with
  | nil => intro _; exact ⟨rfl, rfl⟩
  | cons t r ih =>
    intro hok
    rw [tailS_cons]
    have h1 : Pass chs [','] := pass_char (by decide) (by decide) hc
    simpa using pass_append h1 (pass_append (sitem_pass hs he (hok t (by simp))) (ih (fun x hx => hok x (by simp [hx]))))

theorem sitem_head {legacy : Bool} {t : STerm} (h : STermOK legacy t) :
    ∃ a r, sItem t = a :: r ∧ a ≠ ',' ∧ isPySpace a = false := by
  obtain ⟨a, r, e, h1, h2⟩ := h.head
  exact ⟨a, r ++ '=' :: '"' :: (escape t.2.2 ++ ['"']), by simp [sItem, e], h1, h2⟩

theorem sitem_last (t : STerm) : (sItem t).getLast? = some '"' := by
  rw [List.getLast?_eq_some_iff]
  exact ⟨t.1 ++ ('=' :: '"' :: escape t.2.2), by simp [sItem]⟩

theorem sitem_nonempty (t : STerm) : (sItem t).isEmpty = false := by
  unfold sItem; cases t.1 <;> rfl

theorem strip_sitem {legacy : Bool} {t : STerm} (h : STermOK legacy t) : strip (sItem t) = sItem t := by
  obtain ⟨a, r, e, _, hs⟩ := sitem_head h
  exact strip_last_quote (a := a) (by rw [e]; rfl) hs (sitem_last t)

theorem tailS_last (l : List STerm) (h : l ≠ []) : (tailS l).getLast? = some '"' := by
  induction l with
  | nil => exact absurd rfl h
  | cons t r ih =>
    rw [tailS_cons, ← List.cons_append, List.getLast?_append]
    by_cases hr : r = []
    · subst hr
      simp only [tailS, List.flatMap_nil, List.getLast?_nil, Option.none_or]
      obtain ⟨ys, hys⟩ := List.getLast?_eq_some_iff.mp (sitem_last t)
      rw [List.getLast?_eq_some_iff]
      exact ⟨',' :: ys, by rw [hys]; rfl⟩
    · rw [ih hr]; rfl

theorem strip_tailS (l : List STerm) : strip (tailS l) = tailS l := by
  cases l with
  | nil => rfl
  | cons t r =>
    exact strip_eq_self (a := ',') (b := '"') (by rw [tailS_cons]; rfl) comma_not_space (tailS_last _ (by simp)) (by decide)

theorem tailS_length (r : List STerm) : r.length ≤ (tailS r).length := by
  induction r with
  | nil => simp
  | cons t r ih => rw [tailS_cons]; simp; omega

theorem scan_sitem_eq {legacy : Bool} {t : STerm} (h : STermOK legacy t) :
    nextUnquotedChar (sItem t) (· == '=') 0 = some t.1.length :=
  scan_pass_hit (h.pass eqChs eqChs_safe) '=' ('"' :: (escape t.2.2 ++ ['"'])) (by decide) (by decide)

theorem oneLabelBody_sitem {legacy : Bool} {t : STerm} (h : STermOK legacy t) (rest : Str) (acc : List (Str × Str)) :
    oneLabelBody legacy acc (sItem t) rest =
      if acc.any (fun x => x.1 == t.2.1) then .error .valueError else .ok (acc ++ [sDec t], rest) := by
  unfold oneLabelBody
  obtain ⟨q, hq1, hq2⟩ := h.dec
  have htake : List.take t.1.length (sItem t) = t.1 := by unfold sItem; exact List.take_left
  have hdrop : List.drop (t.1.length + 1) (sItem t) = '"' :: (escape t.2.2 ++ ['"']) := by
    unfold sItem; rw [← List.drop_drop, List.drop_left]; rfl
  have hname : (t.2.1 == "__name__".toList) = false := by simpa using labelNameOK_ne_name h.ok
  have hlen : ((escape t.2.2).length + 1 + 1 != ('"' :: (escape t.2.2 ++ ['"'])).length) = false := by simp
  have htk : List.take ((escape t.2.2).length + 1 + 1) ('"' :: (escape t.2.2 ++ ['"'])) = '"' :: (escape t.2.2 ++ ['"']) := by
    apply List.take_of_length_le; simp
  simp only [bind, Except.bind, pure, Except.pure, sitem_nonempty, Bool.false_eq_true, ↓reduceIte, scan_sitem_eq h, htake, hq1,
    hdrop, hq2, strip_quoted, findClosingQuote_quoted, hlen, htk, unquoteUnescape_quoted, hname,
    labelNameOK_validate h.ok]
  cases acc.any (fun x => x.1 == t.2.1) with
  | true => rfl
  | false => rfl

theorem scan_term_tailS {tm : Str} (hp : Pass termChs tm) (r : List STerm) :
    nextUnquotedChar (tm ++ tailS r) termChs 0 = if r = [] then none else some tm.length := by
  rw [nextUnquotedChar_zero]
  rw [scan_append_of_noHit _ _ _ _ _ hp.1, hp.2]
  cases r with
  | nil => simp [tailS, scan_nil]
  | cons t' r' =>
    rw [tailS_cons, scan_hit termChs ',' _ false (by decide) (by decide)]
    simp

theorem omTail_termS {tm : Str} (hp : Pass termChs tm) (hne : tm ≠ []) (r : List STerm) :
    omTail (tm ++ tailS r) = .ok (strip tm, tailS r) := by
  have he : tm.isEmpty = false := List.isEmpty_eq_false_iff.mpr hne
  have hsc := scan_term_tailS hp r
  unfold termChs at hsc
  unfold omTail
  by_cases hr : r = []
  · subst hr
    simp only [↓reduceIte] at hsc
    simp only [hsc]
    simp only [tailS, List.flatMap_nil, List.append_nil, List.take_length, List.drop_length, he, Bool.false_and,
      Bool.false_eq_true, ↓reduceIte, strip_nil]
  · simp only [hr, ↓reduceIte] at hsc
    simp only [hsc, List.take_left, List.drop_left, he, Bool.false_and, Bool.false_eq_true, ↓reduceIte, strip_tailS]

theorem parseOneLabel_om_sitem {legacy : Bool} {t : STerm} (h : STermOK legacy t) (r : List STerm) (lead : Bool)
    (acc : List (Str × Str)) :
    parseOneLabel legacy true ((if lead then [','] else []) ++ (sItem t ++ tailS r)) acc =
      if acc.any (fun x => x.1 == t.2.1) then .error .valueError else .ok (acc ++ [sDec t], tailS r) := by
  have hp : Pass termChs (sItem t) := sitem_pass termChs_safe (by decide) h
  obtain ⟨a, r', e, hac, _⟩ := sitem_head h
  have hne : sItem t ≠ [] := by rw [e]; exact List.cons_ne_nil _ _
  have ht := omTail_termS hp hne r
  rw [strip_sitem h] at ht
  have hnt : nextTerm ((if lead then [','] else []) ++ (sItem t ++ tailS r)) true = .ok (sItem t, tailS r) := by
    -- with or without the leading comma, `_next_term` is `omTail` on `item…`
    have e' : sItem t ++ tailS r = a :: (r' ++ tailS r) := by simp [e]
    rw [← ht, e']
    cases lead with
    | false => exact nextTerm_om_no_comma a _ hac
    | true => exact nextTerm_om_comma_cons a _ hac
  rw [parseOneLabel_om_eq, hnt]
  simp only [bind, Except.bind, sitem_nonempty, Bool.false_eq_true, ↓reduceIte]
  exact oneLabelBody_sitem h _ acc

theorem any_key_true {acc : List (Str × Str)} {k : Str} (h : k ∈ acc.map (·.1)) : acc.any (fun x => x.1 == k) = true := by
  obtain ⟨x, hx, he⟩ := List.mem_map.mp h
  exact List.any_eq_true.mpr ⟨x, hx, by simp [he]⟩

theorem loop_tailS {legacy : Bool} : ∀ (r : List STerm) (acc : List (Str × Str)) (fuel : Nat), r.length ≤ fuel →
    (∀ t ∈ r, STermOK legacy t) → (acc.map (·.1)).Nodup →
    parseLabelsLoop legacy true fuel (tailS r) acc =
      if ((acc ++ r.map sDec).map (·.1)).Nodup then .ok (acc ++ r.map sDec) else .error .valueError := by
  intro r
  induction r with
  | nil =>
    intro acc fuel _ _ hnd
    simp only [tailS, List.flatMap_nil, List.map_nil, List.append_nil, hnd, ↓reduceIte]
    exact loop_nil_om legacy fuel acc
  | cons t r ih =>
    intro acc fuel hf hok hnd
    cases fuel with
    | zero => simp at hf
    | succ f =>
      rw [tailS_cons, parseLabelsLoop]
      simp only [List.isEmpty_cons, Bool.false_eq_true, ↓reduceIte, bind, Except.bind]
      have hstep := parseOneLabel_om_sitem (hok t (by simp)) r true acc
      simp only [↓reduceIte, List.cons_append, List.nil_append] at hstep
      rw [hstep]
      by_cases hin : t.2.1 ∈ acc.map (·.1)
      · rw [any_key_true hin]
        have hnot : ¬ ((acc ++ (t :: r).map sDec).map (·.1)).Nodup := by
          intro hn
          rw [List.map_append, List.nodup_append] at hn
          exact hn.2.2 _ hin t.2.1 (by simp [sDec]) rfl
        simp only [↓reduceIte, hnot]
      · rw [any_key_false hin]
        simp only [Bool.false_eq_true, ↓reduceIte]
        have hnd' : ((acc ++ [sDec t]).map (·.1)).Nodup := OM.nodup_append_fresh acc t.2.1 t.2.2 hnd (any_key_false hin)
        rw [ih (acc ++ [sDec t]) f (by simp at hf; omega) (fun x hx => hok x (by simp [hx])) hnd']
        simp only [List.map_cons, List.append_assoc, List.cons_append, List.nil_append]

/-- a block `item,item,…` of items with their own name tokens -/
def sBlock : List STerm → Str
  | [] => []
  | t :: r => sItem t ++ tailS r

/-- **`parse_labels(block, True)` on items with arbitrary admissible name tokens**: the decoded pairs if the DECODED
names are pairwise distinct, ValueError if one decoded name occurs twice — whatever its two spellings -/
theorem parseLabels_om_sitems {legacy : Bool} (t : STerm) (r : List STerm) (hok : ∀ x ∈ t :: r, STermOK legacy x) :
    parseLabels legacy (sBlock (t :: r)) true =
      if ((t :: r).map (fun x => x.2.1)).Nodup then .ok ((t :: r).map sDec) else .error .valueError := by
  have ht := hok t (by simp)
  obtain ⟨a, r', e, hac, hs⟩ := sitem_head ht
  have hlast : (sItem t ++ tailS r).getLast? = some '"' := by
    rw [List.getLast?_append]
    by_cases hr : r = []
    · subst hr; simp [tailS, sitem_last]
    · rw [tailS_last r hr]; rfl
  have hstrip : strip (sItem t ++ tailS r) = sItem t ++ tailS r :=
    strip_last_quote (a := a) (by rw [e]; rfl) hs hlast
  have hhd : ((sItem t ++ tailS r).head? == some ',') = false := by
    rw [e]; simpa using hac
  unfold parseLabels sBlock
  simp only [hstrip, hhd, Bool.and_false, Bool.false_eq_true, ↓reduceIte]
  rw [parseLabelsLoop]
  have hne : (sItem t ++ tailS r).isEmpty = false := by rw [e]; rfl
  have hstep := parseOneLabel_om_sitem ht r false []
  simp only [Bool.false_eq_true, ↓reduceIte, List.nil_append, List.any_nil] at hstep
  simp only [hne, Bool.false_eq_true, ↓reduceIte, bind, Except.bind, hstep]
  rw [loop_tailS r [sDec t] _ (by have := tailS_length r; simp; omega) (fun x hx => hok x (by simp [hx])) (by simp)]
  have hmap : (([sDec t] ++ r.map sDec).map (·.1)) = (t :: r).map (fun x => x.2.1) := by
    simp [sDec, Function.comp_def]
  rw [hmap]
  rfl

theorem sBlock_pass {legacy : Bool} (t : STerm) (r : List STerm) (hok : ∀ x ∈ t :: r, STermOK legacy x) :
    Pass rbChs (sBlock (t :: r)) :=
  pass_append (sitem_pass rbChs_safe (by decide) (hok t (by simp)))
    (tailS_pass rbChs_safe (by decide) (by decide) r (fun x hx => hok x (by simp [hx])))

/-- a rendered item as an item with the canonical name token -/
def canonTerm (kv : Str × Str) : STerm := (escapeLabelName kv.1, kv.1, kv.2)

theorem exBlock_eq_sBlock (L : List (Str × Str)) : exBlock L = sBlock (L.map canonTerm) := by
  have hi : ∀ kv : Str × Str, labelItem kv = sItem (canonTerm kv) := fun kv => by rw [labelItem_eq]; rfl
  have ht : ∀ r : List (Str × Str), tailStr r = tailS (r.map canonTerm) := by
    intro r
    induction r with
    | nil => rfl
    | cons kv r ih => rw [tailStr_cons, List.map_cons, tailS_cons, ih, hi]
  cases L with
  | nil => rfl
  | cons kv r => simp only [exBlock, sBlock, List.map_cons, hi, ht]

/-- **a label block that names a label twice is rejected** (`parse_labels(block, True)` raises ValueError), for any
names accepted by `_validate_labelname` and any values -/
theorem parseLabels_om_dup {legacy : Bool} (kv : Str × Str) (r : List (Str × Str))
    (hok : ∀ x ∈ kv :: r, labelNameOK legacy x.1 = true) (hdup : ¬ ((kv :: r).map (·.1)).Nodup) :
    parseLabels legacy (labelItem kv ++ tailStr r) true = .error .valueError := by
  have hS : ∀ x ∈ canonTerm kv :: r.map canonTerm, STermOK legacy x := by
    intro x hx
    obtain ⟨y, hy, rfl⟩ := List.mem_map.mp (show x ∈ (kv :: r).map canonTerm from hx)
    exact tokOK_canonical (hok y hy)
  have := parseLabels_om_sitems (canonTerm kv) (r.map canonTerm) hS
  rw [← List.map_cons, ← exBlock_eq_sBlock, List.map_map] at this
  rw [show labelItem kv ++ tailStr r = exBlock (kv :: r) from rfl, this]
  exact if_neg hdup

/-- the sample line `name{block} rest`: when `parse_labels` rejects the block (which the scanner passes), `_parse_sample`
rejects the line -/
theorem parseSample_block_error (P : Params) {n : Str} (hv : isValidLegacyMetricName n = true) (B : Str) (hB : Pass rbChs B)
    (herr : parseLabels P.legacy B true = .error .valueError) (rem : Str) :
    parseSample P (n ++ '{' :: (B ++ '}' :: ' ' :: rem)) = .error .valueError := by
  have hinf : isInfix OMParse.sepHash n = false :=
    isInfix_of_not_mem (c := ' ') (by decide)
      (fun hm => legacyChar_ne ((legacyName_chars hv (legacyMetric_no_newline hv)).2 _ hm) (by decide) rfl)
  rw [parseSample_braced P n B rem (pass_legacyName (fun c h => legacyChar_eq_false h (by decide)) hv) hinf
    (pass_append (pass_legacyName (fun c h => legacyChar_eq_false h (by decide)) hv)
      (pass_append (a := ['{']) (pass_lbrace (by decide)) hB)), herr]

theorem parseSample_labels_dup (P : Params) {n : Str} (hv : isValidLegacyMetricName n = true) (kv : Str × Str) (r : List (Str × Str))
    (hok : ∀ x ∈ kv :: r, labelNameOK P.legacy x.1 = true) (hdup : ¬ ((kv :: r).map (·.1)).Nodup) (rem : Str) :
    parseSample P (n ++ '{' :: (labelItem kv ++ tailStr r ++ '}' :: ' ' :: rem)) = .error .valueError :=
  parseSample_block_error P hv _ (exPass_block (kv :: r) hok) (parseLabels_om_dup kv r hok hdup) rem

end PromVerif.Lemmas.OMRt
