/-
The Python `dict` of `Model/Registry.lean` is an insertion-ordered association list.  For each operation: what it does to
the key list, which pairs are in the result, and that distinct keys stay distinct.
-/
import PromVerif.Model.Registry

namespace PromVerif.Model.Registry

/-! #### `if x not in l: l.append(x)`

The shape of `appendNew`, of `setAdd`, of the key list after `d[k] = v` and of the reference registration list. -/

theorem mem_appendIfNew {α : Type} (a x : α) (l : List α) [Decidable (x ∈ l)] :
    a ∈ (if x ∈ l then l else l ++ [x]) ↔ a ∈ l ∨ a = x := by
  split
  · next h => exact ⟨Or.inl, fun h' => h'.elim id (fun e => e ▸ h)⟩
  · exact List.mem_append.trans (or_congr Iff.rfl List.mem_singleton)

theorem nodup_appendIfNew {α : Type} (x : α) {l : List α} [Decidable (x ∈ l)] (h : l.Nodup) :
    (if x ∈ l then l else l ++ [x]).Nodup := by
  split
  · exact h
  · next hx =>
    refine List.nodup_append.2 ⟨h, List.pairwise_singleton _ _, ?_⟩
    intro a ha b hb e
    rw [List.mem_singleton.1 hb] at e
    exact hx (e ▸ ha)

variable {κ : Type} {ν : Type} [DecidableEq κ]

theorem dHas_iff (k : κ) (d : List (κ × ν)) : dHas k d = true ↔ k ∈ d.map Prod.fst := by
  simp only [dHas, List.any_eq_true, decide_eq_true_eq, List.mem_map]

theorem dHas_of_mem {k : κ} {v : ν} {d : List (κ × ν)} (h : (k, v) ∈ d) : dHas k d = true :=
  (dHas_iff k d).2 (List.mem_map.2 ⟨(k, v), h, rfl⟩)

theorem dHas_false_iff (k : κ) (d : List (κ × ν)) : dHas k d = false ↔ k ∉ d.map Prod.fst := by
  rw [← dHas_iff, Bool.not_eq_true]

theorem dGet_none_iff (k : κ) (d : List (κ × ν)) : dGet k d = none ↔ k ∉ d.map Prod.fst := by
  induction d with
  | nil => exact ⟨fun _ h => (nomatch h), fun _ => rfl⟩
  | cons p r ih =>
    rw [dGet, List.map_cons, List.mem_cons, not_or]
    by_cases h : p.1 = k
    · rw [if_pos h]
      exact ⟨fun e => (nomatch e), fun e => absurd h.symm e.1⟩
    · rw [if_neg h, ih]
      exact ⟨fun e => ⟨fun e' => h e'.symm, e⟩, And.right⟩

theorem dGet_mem {k : κ} {v : ν} {d : List (κ × ν)} (h : dGet k d = some v) : (k, v) ∈ d := by
  induction d with
  | nil => exact nomatch h
  | cons p r ih =>
    rw [dGet] at h
    by_cases hk : p.1 = k
    · rw [if_pos hk, Option.some.injEq] at h
      rw [← hk, ← h]
      exact List.mem_cons_self
    · rw [if_neg hk] at h
      exact List.mem_cons_of_mem _ (ih h)

theorem dGet_of_mem {k : κ} {v : ν} {d : List (κ × ν)} (hn : (d.map Prod.fst).Nodup) (h : (k, v) ∈ d) :
    dGet k d = some v := by
  induction d with
  | nil => exact nomatch h
  | cons p r ih =>
    rw [List.map_cons, List.nodup_cons] at hn
    rw [dGet]
    rcases List.mem_cons.1 h with h | h
    · rw [← h, if_pos rfl]
    · have : p.1 ≠ k := fun e => hn.1 (e ▸ List.mem_map.2 ⟨(k, v), h, rfl⟩)
      rw [if_neg this]
      exact ih hn.2 h

theorem val_unique {k : κ} {v w : ν} {d : List (κ × ν)} (hn : (d.map Prod.fst).Nodup)
    (h1 : (k, v) ∈ d) (h2 : (k, w) ∈ d) : v = w :=
  Option.some.inj ((dGet_of_mem hn h1).symm.trans (dGet_of_mem hn h2))

theorem keys_dSet (k : κ) (v : ν) (d : List (κ × ν)) :
    (dSet k v d).map Prod.fst = if k ∈ d.map Prod.fst then d.map Prod.fst else d.map Prod.fst ++ [k] := by
  unfold dSet
  by_cases h : k ∈ d.map Prod.fst
  · rw [if_pos ((dHas_iff k d).2 h), if_pos h, List.map_map]
    apply List.map_congr_left
    intro p _
    by_cases hp : p.1 = k
    · simp only [Function.comp, hp, if_true]
    · simp only [Function.comp, hp, if_false]
  · rw [if_neg (mt (dHas_iff k d).1 h), if_neg h, List.map_append]
    rfl

theorem nodup_dSet (k : κ) (v : ν) {d : List (κ × ν)} (hn : (d.map Prod.fst).Nodup) :
    ((dSet k v d).map Prod.fst).Nodup := by
  rw [keys_dSet]
  exact nodup_appendIfNew k hn

theorem mem_keys_dSet (a k : κ) (v : ν) (d : List (κ × ν)) :
    a ∈ (dSet k v d).map Prod.fst ↔ a = k ∨ a ∈ d.map Prod.fst := by
  rw [keys_dSet, mem_appendIfNew, or_comm]

theorem mem_dSet (a k : κ) (b v : ν) (d : List (κ × ν)) :
    (a, b) ∈ dSet k v d ↔ (a = k ∧ b = v) ∨ (a ≠ k ∧ (a, b) ∈ d) := by
  unfold dSet
  split
  · next h =>
    obtain ⟨p, hp, hpk⟩ := List.mem_map.1 ((dHas_iff k d).1 h)
    rw [List.mem_map]
    constructor
    · rintro ⟨q, hq, e⟩
      by_cases hqk : q.1 = k
      · rw [if_pos hqk, Prod.mk.injEq] at e
        exact Or.inl ⟨e.1.symm.trans hqk, e.2.symm⟩
      · rw [if_neg hqk] at e
        subst e
        exact Or.inr ⟨hqk, hq⟩
    · rintro (⟨rfl, rfl⟩ | ⟨hne, hm⟩)
      · exact ⟨p, hp, by rw [if_pos hpk, hpk]⟩
      · exact ⟨(a, b), hm, if_neg hne⟩
  · next h =>
    have hne : (a, b) ∈ d → a ≠ k := fun hm e => h ((dHas_iff k d).2 (e ▸ List.mem_map.2 ⟨(a, b), hm, rfl⟩))
    rw [List.mem_append, List.mem_singleton, Prod.mk.injEq, and_iff_right_of_imp hne, or_comm]

theorem mem_dDel (a k : κ) (b : ν) (d : List (κ × ν)) : (a, b) ∈ dDel k d ↔ a ≠ k ∧ (a, b) ∈ d := by
  rw [dDel, List.mem_filter, decide_eq_true_eq, and_comm]

theorem keys_dDel (k : κ) (d : List (κ × ν)) :
    (dDel k d).map Prod.fst = (d.map Prod.fst).filter (fun a => decide (a ≠ k)) := by
  rw [dDel, List.filter_map]
  rfl

theorem nodup_dDel (k : κ) {d : List (κ × ν)} (hn : (d.map Prod.fst).Nodup) :
    ((dDel k d).map Prod.fst).Nodup := by
  rw [keys_dDel]
  exact hn.sublist List.filter_sublist

theorem mem_keys_dDel (a k : κ) (d : List (κ × ν)) :
    a ∈ (dDel k d).map Prod.fst ↔ a ≠ k ∧ a ∈ d.map Prod.fst := by
  rw [keys_dDel, List.mem_filter, decide_eq_true_eq, and_comm]

theorem dDel_eq_self {k : κ} {d : List (κ × ν)} (h : k ∉ d.map Prod.fst) : dDel k d = d :=
  List.filter_eq_self.2 fun p hp => decide_eq_true fun e => h (List.mem_map.2 ⟨p, hp, e⟩)

end PromVerif.Model.Registry
