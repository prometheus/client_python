/-
"Exemplars over 128 characters are rejected", on TEXT: the remainder `value[ ts] # {block} evalue[ ets]` whose exemplar
label block is rendered from a label list with Σ(len name + len value) > 128 (lengths of the UNESCAPED names and
values) makes `_parse_remaining_text` — hence `_parse_sample` — raise.  Uses the C04 lemmas that the exemplar state
machine reaches `remFinish` with exactly the rendered labels (Lemmas/OMRtRem.lean).

Also here: a tokenised line whose plain reading fails and whose native-histogram reading is `None` is rejected by the
family state machine wherever it stands, and the bridge from a line of the text to the tokenised list.
-/
import PromVerif.Lemmas.OMDupLabel
import PromVerif.Lemmas.OMRtRem
import PromVerif.Lemmas.OMRtSample
import PromVerif.Lemmas.OMRun

set_option autoImplicit false

namespace PromVerif.Lemmas.OMRt
open PromVerif.Py PromVerif.Model PromVerif.Model.Escape PromVerif.Model.ParseCore PromVerif.Model.Validation
open PromVerif.Model.OMParse PromVerif.Lemmas.Escape PromVerif.Lemmas.Scanner
open PromVerif.Lemmas.TextParse PromVerif.Model.TextExpo PromVerif.Generated.OMParse
open PromVerif.Spec.OMRules (isError)

theorem parseRemaining_ex_too_long (P : Params) (vtok : Str) (hv : NumTok vtok) (ts : Option Str) (hts : ∀ t, ts = some t → NumTok t)
    (kv : Str × Str) (r : List (Str × Str)) (hok : ∀ x ∈ kv :: r, labelNameOK P.legacy x.1 = true)
    (hnd : ((kv :: r).map (·.1)).Nodup) (etok : Str) (hetok : NumTok etok) (ets : Option Str) (hets : ∀ t, ets = some t → NumTok t)
    (hlen : 128 < labelsLen (kv :: r)) :
    isError (parseRemainingText P (remText vtok ts (some (kv :: r, etok, ets)))) = true := by
  have hlab : parseLabels P.legacy (exBlock (kv :: r)) true = .ok (kv :: r) := parseLabels_om_items kv r hok hnd
  rw [parseRemaining_ex P vtok hv ts hts (kv :: r) (kv :: r) (exPass_block _ hok) etok hetok ets hets hlab]
  cases P.parseValue vtok with
  | error e => rfl
  | ok val => exact OM.remFinish_too_long P val _ (kv :: r) rfl hlen

theorem sampleOf_isError (P : Params) (n : Str) (L : List (Str × Str)) (rem : Str)
    (h : isError (parseRemainingText P rem) = true) : isError (sampleOf P n L rem) = true := by
  unfold sampleOf
  obtain ⟨e, he⟩ := OM.error_of_isError h
  rw [he]; rfl

theorem stepLine_plain_error (P : Params) (st : St) (e : PyErr) : isError (stepLine P st (.sample (.ok none) (.error e))) = true := by
  have hp : pickSample st.hdr.typ (.ok none) (.error e : PyM OSample) = .error e := by
    unfold pickSample
    split <;> rfl
  unfold stepLine
  split
  · rfl
  · dsimp only
    rw [hp]
    rfl

theorem omParse_bad_line (P : Params) (text line : Str) (hmem : line ∈ docLines text)
    (h : ∀ st, isError (stepLine P st (parseLine P line)) = true) : isError (omParse P text) = true := by
  unfold omParse
  have : parseLine P line ∈ (docLines text).map (parseLine P) := List.mem_map_of_mem hmem
  obtain ⟨pre, post, hsplit⟩ := List.append_of_mem this
  rw [hsplit]
  apply PromVerif.Lemmas.OM.isError_of_suffix
  intro st
  exact PromVerif.Lemmas.OM.isError_of_bad_line P _ post h st

theorem parseLine_nonHash (P : Params) (c : Char) (t : Str) (hc : c ≠ '#') :
    parseLine P (c :: t) = .sample (parseNhLine P (c :: t)) (parseSample P (c :: t)) := by
  unfold parseLine
  have h1 : (c :: t).isEmpty = false := rfl
  have h2 : ((c :: t) == sEOF) = false := by
    have : sEOF = '#' :: cs!" EOF" := rfl
    rw [this]
    simp [hc]
  have h3 : ((c :: t).head? == some '#') = false := by simp [hc]
  simp only [h1, h2, h3, Bool.false_eq_true, if_false]

theorem parseNhLine_none (P : Params) (line : Str) (h : nhDetect line = .ok none) : parseNhLine P line = .ok none := by
  obtain ⟨suff, hs⟩ := OM.parseNhLine_eq P
  rw [hs]
  unfold parseNhSample
  rw [h]

end PromVerif.Lemmas.OMRt
