/-
C04: the line-level round trip assembled — for every combination of {legacy / quoted name} × labels × value ×
{no / int / float / Timestamp} timestamp × {no exemplar / exemplar}.
-/
import PromVerif.Lemmas.OMRtNh

set_option autoImplicit false

namespace PromVerif.Lemmas.OMRt
open PromVerif.Py PromVerif.Model PromVerif.Model.Escape PromVerif.Model.ParseCore PromVerif.Model.Validation
open PromVerif.Model.OMParse PromVerif.Spec.OMRoundtrip PromVerif.Lemmas.Escape PromVerif.Lemmas.Scanner
open PromVerif.Lemmas.TextParse PromVerif.Model.TextExpo

/-- the exemplars the line-level theorem is stated for -/
structure ExOK (P : Params) (e : Exemplar) : Prop where
  /-- label names accepted by `_validate_labelname` (what `_validate_exemplar` checks), unique keys -/
  labels : LabelsOK P.legacy e.labels
  /-- the 128-character limit of `_validate_exemplar` -/
  len : labelsLen e.labels ≤ 128
  value : ∃ b, ValTok P (Utils.floatToGoString e.value) b
  ts : ∀ t, e.ts = some t → TsOK P t

/-- the samples the line-level theorem is stated for -/
structure SampleOKom (P : Params) (s : Sample) : Prop where
  labels : LabelsOK P.legacy s.labels
  value : ∃ b, ValTok P (Utils.floatToGoString s.value) b
  ts : ∀ t, s.ts = some t → TsOK P t.ts
  exemplar : ∀ e, s.exemplar = some e → ExOK P e

theorem numTok_valTok {P : Params} {tok : Str} {b : Nat} (h : ValTok P tok b) : NumTok tok := ⟨h.ne, h.chars⟩

theorem parseValue_valTok {P : Params} {tok : Str} {b : Nat} (h : ValTok P tok b) : P.parseValue tok = .ok (.flt b) := by
  unfold Params.parseValue
  rw [parseValue_numTok _ _ (numTok_valTok h), h.notInt, h.flt]

theorem numTok_tsStr {P : Params} {t : Ts} (h : TsOK P t) : NumTok (OMExpo.tsStr t) := by
  cases t with
  | int n => exact intStr_numTok n
  | stamp s n =>
    show NumTok (OMExpo.stampStr s n)
    rw [stampStr_eq]
    exact numTok_dot (intStr_numTok s).2 (zpad_digits 9 _)
  | flt r =>
    rcases h with ⟨neg, a, b, rfl, _, had, _, hbd, _⟩ | ⟨_, hne, hc, _⟩
    · exact numTok_plain neg a b had hbd
    · exact ⟨hne, hc⟩

theorem parseTimestamp_nil (P : Params) : parseTimestamp P [] = .ok none := rfl

theorem ts_opt_roundtrip (P : Params) (hI : IntLaw P.pyInt) (ts : Option Ts) (h : ∀ t, ts = some t → TsOK P t) :
    ∃ o, parseTimestamp P ((ts.map OMExpo.tsStr).getD []) = .ok o ∧ tsMatches P ts o := by
  cases ts with
  | none => exact ⟨none, rfl, trivial⟩
  | some t =>
    obtain ⟨o, h1, h2⟩ := ts_roundtrip P hI t (h t rfl)
    exact ⟨some o, h1, h2⟩

theorem labelsLen_sort (ls : List (Str × Str)) : labelsLen (sortByKey ls) = labelsLen ls :=
  ((sortByKey_perm ls).map _).sum_nat

theorem remTok_of_ok {P : Params} {s : Sample} (h : SampleOKom P s) :
    RemTok (Utils.floatToGoString s.value) (s.ts.map (fun t => OMExpo.tsStr t.ts))
      (s.exemplar.map (fun e => (sortByKey e.labels, Utils.floatToGoString e.value, e.ts.map OMExpo.tsStr))) := by
  obtain ⟨vb, hv⟩ := h.value
  refine ⟨numTok_valTok hv, ?_, ?_, ?_⟩
  · intro t ht
    obtain ⟨t0, hs, rfl⟩ := Option.map_eq_some_iff.mp ht
    exact numTok_tsStr (h.ts t0 hs)
  · intro x hx
    obtain ⟨e, he, rfl⟩ := Option.map_eq_some_iff.mp hx
    obtain ⟨eb, hev⟩ := (h.exemplar e he).value
    exact numTok_valTok hev
  · intro x hx t ht
    obtain ⟨e, he, rfl⟩ := Option.map_eq_some_iff.mp hx
    obtain ⟨t0, hts, rfl⟩ := Option.map_eq_some_iff.mp ht
    exact numTok_tsStr ((h.exemplar e he).ts t0 hts)

/-- **`_parse_remaining_text` inverts the rendering of value, timestamp and exemplar** -/
theorem rem_roundtrip_exact (P : Params) (hI : IntLaw P.pyInt) (s : Sample) (h : SampleOKom P s) :
    ∃ vb ots oex, parseRemainingText P (lineRem s) = .ok (.flt vb, ots, oex) ∧
      P.pyFloat (Utils.floatToGoString s.value) = some vb ∧
      tsMatches P (s.ts.map (·.ts)) ots ∧ exemplarMatches P s.exemplar oex ∧
      parseTimestamp P ((s.ts.map (fun t => OMExpo.tsStr t.ts)).getD []) = .ok ots ∧
      (∀ e, s.exemplar = some e → ∃ oe, oex = some oe ∧ parseTimestamp P ((e.ts.map OMExpo.tsStr).getD []) = .ok oe.ts) := by
  obtain ⟨vb, hv⟩ := h.value
  have htok := remTok_of_ok h
  have hpv := parseValue_valTok hv
  obtain ⟨ots, hts1, hts2⟩ := ts_opt_roundtrip P hI (s.ts.map (·.ts)) (fun t ht => by
    obtain ⟨t0, hs, rfl⟩ := Option.map_eq_some_iff.mp ht
    exact h.ts t0 hs)
  simp only [Option.map_map, Function.comp_def] at hts1
  unfold lineRem
  cases he : s.exemplar with
  | none =>
    refine ⟨vb, ots, none, ?_, hv.flt, hts2, trivial, hts1, fun e he' => by cases he'⟩
    rw [Option.map_none, parseRemaining_noex P _ htok.v _ htok.ts, hpv]
    simp only []
    rw [hts1]
  | some e =>
    have hex := h.exemplar e he
    obtain ⟨eb, hev⟩ := hex.value
    obtain ⟨hok, hnd⟩ := labelsOK_sortByKey hex.labels
    have hpass := exPass_block (sortByKey e.labels) hok
    have hlab := parseLabels_block (sortByKey e.labels) hok hnd
    obtain ⟨oets, hets1, hets2⟩ := ts_opt_roundtrip P hI e.ts hex.ts
    have hnets : ∀ t, e.ts.map OMExpo.tsStr = some t → NumTok t := fun t ht =>
      htok.ets (sortByKey e.labels, Utils.floatToGoString e.value, e.ts.map OMExpo.tsStr) (by rw [he]; rfl) t ht
    refine ⟨vb, ots, some ⟨sortByKey e.labels, .flt eb, oets⟩, ?_, hv.flt, hts2, ⟨rfl, ⟨eb, hev.flt, rfl⟩, hets2⟩, hts1,
      fun e' he' => by cases he'; exact ⟨_, rfl, hets1⟩⟩
    rw [Option.map_some, parseRemaining_ex P _ htok.v _ htok.ts _ _ hpass _ (numTok_valTok hev) _ hnets hlab, hpv]
    simp only []
    rw [remFinish_ex P _ _ _ _ (fun t ht => (hnets t ht).1) _ (by rw [labelsLen_sort]; exact hex.len), hts1,
      parseValue_valTok hev, hets1]

theorem sampleOf_ok {P : Params} {n : Str} {L : List (Str × Str)} {rem : Str} {v : Num} {ts : Option OTs}
    {ex : Option OExemplar} (h : parseRemainingText P rem = .ok (v, ts, ex)) :
    sampleOf P n L rem = .ok ⟨n, some L, some v, ts, ex, none⟩ := by
  unfold sampleOf; rw [h]

theorem lineBody_cases (s : Sample) :
    (isValidLegacyMetricName s.name = true ∧ sortByKey s.labels = [] ∧ lineBody s = s.name ++ ' ' :: lineRem s) ∨
    (isValidLegacyMetricName s.name = true ∧ ∃ kv r, sortByKey s.labels = kv :: r ∧
      lineBody s = s.name ++ '{' :: (labelItem kv ++ tailStr r ++ '}' :: ' ' :: lineRem s)) ∨
    (isValidLegacyMetricName s.name = false ∧
      lineBody s = '{' :: (qname s.name ++ spTail (sortByKey s.labels) ++ '}' :: ' ' :: lineRem s)) := by
  unfold lineBody lineHead
  by_cases hv : isValidLegacyMetricName s.name = true
  · cases hL : sortByKey s.labels with
    | nil => left; simp [hv]
    | cons kv r => right; left; exact ⟨hv, kv, r, rfl, by simp [hv]⟩
  · right; right
    have : isValidLegacyMetricName s.name = false := by simpa using hv
    exact ⟨this, by simp [this]⟩

/-- **a rendered sample line parses back to the sample**, and the parsed timestamps are what `_parse_timestamp` makes of the
written tokens -/
theorem line_roundtrip_exact (P : Params) (hI : IntLaw P.pyInt) (s : Sample) (h : SampleOKom P s) :
    ∃ o, parseSample P (lineBody s) = .ok o ∧ SampleMatches P s o ∧
      parseTimestamp P ((s.ts.map (fun t => OMExpo.tsStr t.ts)).getD []) = .ok o.ts ∧
      (∀ e, s.exemplar = some e → ∃ oe, o.exemplar = some oe ∧ parseTimestamp P ((e.ts.map OMExpo.tsStr).getD []) = .ok oe.ts) := by
  obtain ⟨vb, ots, oex, hrem, hvf, hts, hex, hx1, hx2⟩ := rem_roundtrip_exact P hI s h
  obtain ⟨hok, hnd⟩ := labelsOK_sortByKey h.labels
  refine ⟨⟨s.name, some (sortByKey s.labels), some (.flt vb), ots, oex, none⟩, ?_, ⟨rfl, rfl, ⟨vb, hvf, rfl⟩, hts, hex, rfl⟩, hx1, hx2⟩
  rcases lineBody_cases s with ⟨hv, hL, hb⟩ | ⟨hv, kv, r, hL, hb⟩ | ⟨hv, hb⟩
  · rw [hb, hL]
    have := parseSample_bare P hv (remTok_of_ok h)
    unfold lineRem at hrem ⊢
    rw [this]; exact sampleOf_ok hrem
  · rw [hb, hL]
    rw [hL] at hok hnd
    rw [parseSample_labels P hv kv r hok hnd]; exact sampleOf_ok hrem
  · rw [hb, parseSample_quoted P s.name _ hok hnd]; exact sampleOf_ok hrem

theorem line_roundtrip (P : Params) (hI : IntLaw P.pyInt) (s : Sample) (h : SampleOKom P s) :
    ∃ o, parseSample P (lineBody s) = .ok o ∧ SampleMatches P s o := by
  obtain ⟨o, h1, h2, _⟩ := line_roundtrip_exact P hI s h
  exact ⟨o, h1, h2⟩

theorem line_not_nh (P : Params) (s : Sample) (h : SampleOKom P s) : nhDetect (lineBody s) = .ok none := by
  obtain ⟨hok, hnd⟩ := labelsOK_sortByKey h.labels
  have htok := remTok_of_ok h
  rcases lineBody_cases s with ⟨hv, hL, hb⟩ | ⟨hv, kv, r, hL, hb⟩ | ⟨hv, hb⟩
  · rw [hb]; unfold lineRem; exact nhDetect_bare hv htok
  · rw [hb]
    rw [hL] at hok
    simpa [lineRem] using nhDetect_braced s.name (labelItem kv ++ tailStr r) (pass_spLb_legacy hv) (pass_braceBlock (kv :: r) hok) htok
  · rw [hb]
    simpa [lineRem] using nhDetect_braced [] (qname s.name ++ spTail (sortByKey s.labels)) ⟨rfl, rfl⟩ (pass_braceNamed s.name _ hok) htok

end PromVerif.Lemmas.OMRt
