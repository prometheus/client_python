/-
The OpenMetrics line/family state machine (`Model/OMParse.lean`) is analysed through equations (`finishRun_cons`,
`finishRun_append`, `sampleChecks_false`, `groupForSample_eq`, `applyMeta_eq`) and inversions that say what an accepted
step did (`stepLine_ok`, `stepMeta_ok`, `stepSample_ok`, `applyMeta_ok`, `pickSample_inv`).  On them rest the "family
block" invariant (after `# TYPE n t` and lines of that family the header is (n, t, allowed names)) and the "doom"
principle (a header that can no longer be flushed makes every continuation fail); the last section takes the rule
vocabulary of `Spec/OMRules.lean` to the state machine.
-/
import PromVerif.Model.OMParse
import PromVerif.Spec.OMRules

namespace PromVerif.Lemmas.OM
open PromVerif.Py PromVerif.Model.ParseCore PromVerif.Model.OMParse PromVerif.Generated.OMParse
open PromVerif.Spec.OMRules (isError smp)

@[simp] theorem isError_error {α : Type} (e : PyErr) : isError (.error e : PyM α) = true := rfl
@[simp] theorem isError_ok {α : Type} (a : α) : isError (.ok a : PyM α) = false := rfl

theorem error_of_isError {α : Type} {x : PyM α} (h : isError x = true) : ∃ e, x = .error e := by
  cases x with
  | error e => exact ⟨e, rfl⟩
  | ok a => cases h

/-- run the loop from `st` over `ls`, then the tail of the parser -/
def finishRun (P : Params) (st : St) (ls : List Line) : PyM (List OFamily) :=
  match run P st ls with
  | .ok st' => finish P st'
  | .error e => .error e

theorem assemble_eq (P : Params) (ls : List Line) : assemble P ls = finishRun P {} ls := rfl

theorem finishRun_nil (P : Params) (st : St) : finishRun P st [] = finish P st := rfl

theorem finishRun_cons (P : Params) (st : St) (l : Line) (ls : List Line) :
    finishRun P st (l :: ls) = match stepLine P st l with
      | .ok st' => finishRun P st' ls
      | .error e => .error e := by
  simp only [finishRun, run]
  cases stepLine P st l <;> rfl

theorem run_append (P : Params) (st : St) (a b : List Line) :
    run P st (a ++ b) = match run P st a with
      | .ok st' => run P st' b
      | .error e => .error e := by
  induction a generalizing st with
  | nil => rfl
  | cons l a ih =>
    simp only [List.cons_append, run]
    cases stepLine P st l with
    | error e => rfl
    | ok st' => exact ih st'

theorem finishRun_append (P : Params) (st : St) (a b : List Line) :
    finishRun P st (a ++ b) = match run P st a with
      | .ok st' => finishRun P st' b
      | .error e => .error e := by
  simp only [finishRun, run_append]
  cases run P st a <;> rfl

theorem isError_of_suffix (P : Params) (pre suf : List Line) (h : ∀ st, isError (finishRun P st suf) = true) :
    isError (assemble P (pre ++ suf)) = true := by
  rw [assemble_eq, finishRun_append]
  cases run P {} pre with
  | error e => rfl
  | ok st => exact h st

theorem isError_of_step (P : Params) (l : Line) (post : List Line) (st : St) (h : isError (stepLine P st l) = true) :
    isError (finishRun P st (l :: post)) = true := by
  rw [finishRun_cons]
  obtain ⟨e, he⟩ := error_of_isError h
  rw [he]; rfl

theorem isError_of_bad_line (P : Params) (l : Line) (post : List Line) (h : ∀ st, isError (stepLine P st l) = true) (st : St) :
    isError (finishRun P st (l :: post)) = true :=
  isError_of_step P l post st (h st)

theorem run_invariant (P : Params) (Q : St → Prop) (ok : Line → Prop)
    (step : ∀ st l st', Q st → ok l → stepLine P st l = .ok st' → Q st')
    (ls : List Line) (hls : ∀ l ∈ ls, ok l) (st : St) (hst : Q st) :
    ∀ st', run P st ls = .ok st' → Q st' := by
  induction ls generalizing st with
  | nil => intro st' h; cases h; exact hst
  | cons l ls ih =>
    intro st'
    unfold run
    cases hs : stepLine P st l with
    | error e => intro h; cases h
    | ok st1 =>
      exact ih (fun l' hl' => hls l' (List.mem_cons_of_mem _ hl')) st1 (step st l st1 hst (hls l (List.mem_cons_self ..)) hs) st'

theorem runChecks_ok_mem (cs : List (PyM Unit)) (h : runChecks cs = .ok ()) : ∀ c ∈ cs, c = .ok () := by
  induction cs with
  | nil => intro c hc; cases hc
  | cons d cs ih =>
    revert h
    unfold runChecks
    cases d with
    | error e => intro h; cases h
    | ok u =>
      intro h c hc
      rcases List.mem_cons.mp hc with rfl | h'
      · rfl
      · exact ih h c h'

theorem runChecks_isError_of_mem (cs : List (PyM Unit)) (c : PyM Unit) (hc : c ∈ cs) (he : isError c = true) :
    isError (runChecks cs) = true := by
  cases h : runChecks cs with
  | error e => rfl
  | ok u => rw [runChecks_ok_mem cs h c hc] at he; cases he

theorem raiseIf_true : isError (raiseIf true) = true := rfl

theorem raiseIfM_ok_true : isError (raiseIfM (.ok true)) = true := rfl

theorem raiseIfM_error (e : PyErr) : isError (raiseIfM (.error e)) = true := rfl

theorem remFinish_too_long (P : Params) (val : Num) (a : RAcc) (ls : Labels) (hl : a.exLabels = some ls)
    (hlen : 128 < (ls.map (fun kv => kv.1.length + kv.2.length)).sum) : isError (remFinish P val a) = true := by
  unfold remFinish
  cases runChecks _ with
  | error e => rfl
  | ok u =>
    dsimp only
    cases parseTimestamp P a.timestamp.reverse with
    | error e => rfl
    | ok ts =>
      dsimp only
      rw [hl]
      dsimp only
      have : remExemplar P a ls = .error .valueError := by
        unfold remExemplar
        dsimp only
        have hc : natCmp exemplarLenCmp (ls.map (fun kv => kv.1.length + kv.2.length)).sum exemplarMaxLen = true := by
          show decide ((ls.map (fun kv => kv.1.length + kv.2.length)).sum > 128) = true
          exact decide_eq_true hlen
        rw [if_pos hc]
      rw [this]; rfl

/-- `type_suffixes['histogram']` is there: the native-histogram reading of a line is `_parse_nh_sample` with it -/
theorem parseNhLine_eq (P : Params) : ∃ suff, ∀ line, parseNhLine P line = parseNhSample P line suff := by
  have hs : (lookupTable tHistogram typeSuffixes).isSome = true := by decide
  obtain ⟨suff, h⟩ := Option.isSome_iff_exists.mp hs
  exact ⟨suff, fun line => by unfold parseNhLine; rw [h]⟩

theorem pickSample_smp (typ : Option Str) (s : OSample) : pickSample typ (.ok none) (.ok s) = .ok (s, false) := by
  unfold pickSample
  split <;> rfl

theorem stepLine_smp (P : Params) (st : St) (s : OSample) (h : st.eof = false) :
    stepLine P st (smp s) = stepSample P st s false := by
  simp only [stepLine, smp, h, pickSample_smp]
  rfl

theorem stepSample_allowed (P : Params) (st : St) (s : OSample) (isNh : Bool) (h : st.hdr.allowed.contains s.name = true) :
    stepSample P st s isNh = match sampleChecks P st.hdr st.grp s isNh with
      | .error e => .error e
      | .ok gr => .ok { st with grp := gr } := by
  simp only [stepSample, h, Bool.not_true, Bool.false_and]
  rfl

theorem sampleChecks_false (P : Params) (h : Hdr) (gr : Grp) (s : OSample) :
    sampleChecks P h gr s false = match h.name with
      | none => .error .typeError
      | some name =>
        match preChecks P name h.typ s with
        | .error e => .error e
        | .ok _ =>
          match groupStep P gr name (h.typ.getD []) s with
          | .error e => .error e
          | .ok gr' =>
            match postChecks P name h.typ s with
            | .error e => .error e
            | .ok _ => .ok gr' := by
  unfold sampleChecks
  simp only [Bool.false_and, Bool.false_eq_true, if_false, Bool.not_false, if_true]
  rfl

theorem sampleChecks_passed (P : Params) (h : Hdr) (gr gr' : Grp) (s : OSample) (n : Str) (hn : h.name = some n)
    (hs : sampleChecks P h gr s false = .ok gr') :
    preChecks P n h.typ s = .ok () ∧ groupStep P gr n (h.typ.getD []) s = .ok gr' ∧ postChecks P n h.typ s = .ok () := by
  revert hs
  rw [sampleChecks_false, hn]
  dsimp only
  cases preChecks P n h.typ s with
  | error e => intro hs; cases hs
  | ok u =>
    dsimp only
    cases groupStep P gr n (h.typ.getD []) s with
    | error e => intro hs; cases hs
    | ok g2 =>
      dsimp only
      cases postChecks P n h.typ s with
      | error e => intro hs; cases hs
      | ok u3 => exact fun hs => ⟨rfl, hs, rfl⟩

/-- a native-histogram sample is appended without any check (`if is_nh: samples.append(sample); continue`, 74e3eee) -/
theorem sampleChecks_nh (P : Params) (h : Hdr) (gr : Grp) (s : OSample) :
    sampleChecks P h gr s true = .ok { gr with samples := gr.samples ++ [s] } := by
  have hflag : nhSkipsChecks = true := by decide
  unfold sampleChecks
  rw [hflag]
  rfl

/-- `d = sample.labels.copy(); del d[k]`: AttributeError on `None`, KeyError when `k` is absent -/
def delKey (o : Option Labels) (k : Str) : PyM (Option Labels) :=
  match o with
  | none => .error .attributeError
  | some l => if dictHas l k then .ok (some (l.filter (fun kv => kv.1 != k))) else .error .keyError

/-- `_group_for_sample` returns the labels without the key that tells the samples of one group apart (`quantile` on a
summary's quantile samples, the state label of a stateset, `le` on buckets); an info family is one group -/
theorem groupForSample_eq (s : OSample) (n t : Str) :
    groupForSample s n t =
      if t == tInfo then .ok (some [])
      else if t == tSummary && s.name == n then delKey s.labels sQuantile
      else if t == tStateset then delKey s.labels n
      else if (t == tHistogram || t == tGaugeHistogram) && s.name == n ++ sBucket then delKey s.labels sLe
      else .ok s.labels := by
  have del : ∀ k, (do let d ← labelsCopy s; pure (some (← dictDel d k)) : PyM (Option Labels)) = delKey s.labels k := by
    intro k
    unfold labelsCopy delKey
    cases s.labels with
    | none => rfl
    | some l =>
      show dictDel l k >>= _ = if dictHas l k then _ else _
      unfold dictDel
      by_cases h : dictHas l k = true
      · rw [if_pos h, if_pos h]; rfl
      · rw [if_neg h, if_neg h]; rfl
  unfold groupForSample
  rw [del, del, del]

theorem delKey_some (l : Labels) (k : Str) (h : dictHas l k = true) :
    delKey (some l) k = .ok (some (l.filter (fun kv => kv.1 != k))) := by
  show (if dictHas l k then _ else _) = _
  rw [if_pos h]

theorem delKey_ok (o : Option Labels) (k : Str) (d : Labels) (h : delKey o k = .ok (some d)) :
    d = (o.getD []).filter (fun kv => kv.1 != k) := by
  cases o with
  | none => cases h
  | some l =>
    change (if dictHas l k then _ else _) = _ at h
    split at h
    · cases h; rfl
    · cases h

/-- the header after `# TYPE n t` -/
def HdrIs (n t : Str) (h : Hdr) : Prop := h.name = some n ∧ h.typ = some t ∧ h.allowed = allowedNames n t

/-- a line that belongs to family `n` of type `t`: one of its metadata lines, or a sample line whose plain reading
(if it parses) carries one of the family's sample names -/
def InFamM (n t : Str) : Line → Prop
  | .metadata _ name _ => name = n
  | .sample _ plain => ∀ s, plain = .ok s → (allowedNames n t).contains s.name = true
  | _ => False

/-- in the checked-out source the "More than one UNIT" test is `unit is not None` (`unitDupByNone`): every metadata
field that has been set, even to the empty string, makes a second line of its kind fail -/
theorem applyMeta_eq (h : Hdr) (kind cand rest : Str) : applyMeta h kind cand rest =
    (if kind == kwHelp then
      if h.doc.isSome then .error .valueError else .ok { h with doc := some (unescapeHelp rest) }
    else if kind == kwType then
      if h.typ.isSome then .error .valueError
      else if rest == untypedName then .error .valueError
      else .ok { h with typ := some rest, allowed := allowedNames cand rest }
    else if kind == kwUnit then
      if h.unit.isSome then .error .valueError else .ok { h with unit := some rest }
    else .error .valueError) := by
  unfold applyMeta
  cases h.unit <;> rfl

theorem kw_distinct : (kwType == kwHelp) = false ∧ (kwUnit == kwHelp) = false ∧ (kwUnit == kwType) = false := by decide

theorem applyMeta_ok (h h' : Hdr) (kind c rest : Str) (hm : applyMeta h kind c rest = .ok h') :
    (kind = kwHelp ∧ h.doc = none ∧ h' = { h with doc := some (unescapeHelp rest) })
    ∨ (kind = kwType ∧ h.typ = none ∧ h' = { h with typ := some rest, allowed := allowedNames c rest })
    ∨ (kind = kwUnit ∧ h.unit = none ∧ h' = { h with unit := some rest }) := by
  revert hm
  rw [applyMeta_eq]
  by_cases c1 : (kind == kwHelp) = true
  · rw [if_pos c1]
    cases h.doc with
    | some d => intro hm; cases hm
    | none => exact fun hm => Or.inl ⟨eq_of_beq c1, rfl, (Except.ok.inj hm).symm⟩
  · rw [if_neg c1]
    by_cases c2 : (kind == kwType) = true
    · rw [if_pos c2]
      cases h.typ with
      | some t => intro hm; cases hm
      | none =>
        by_cases c3 : (rest == untypedName) = true
        · rw [if_pos c3]; intro hm; cases hm
        · rw [if_neg c3]; exact fun hm => Or.inr (Or.inl ⟨eq_of_beq c2, rfl, (Except.ok.inj hm).symm⟩)
    · rw [if_neg c2]
      by_cases c4 : (kind == kwUnit) = true
      · rw [if_pos c4]
        cases h.unit with
        | some u => intro hm; cases hm
        | none => exact fun hm => Or.inr (Or.inr ⟨eq_of_beq c4, rfl, (Except.ok.inj hm).symm⟩)
      · rw [if_neg c4]; intro hm; cases hm

theorem applyMeta_keeps (h h' : Hdr) (n t kind rest : Str) (hh : HdrIs n t h) (hm : applyMeta h kind n rest = .ok h') :
    HdrIs n t h' := by
  obtain ⟨h1, h2, h3⟩ := hh
  rcases applyMeta_ok h h' kind n rest hm with ⟨_, _, rfl⟩ | ⟨_, ht, _⟩ | ⟨_, _, rfl⟩
  · exact ⟨h1, h2, h3⟩
  · rw [h2] at ht; cases ht
  · exact ⟨h1, h2, h3⟩

theorem applyMeta_type (h h' : Hdr) (n t : Str) (hn : h.name = some n) (hm : applyMeta h kwType n t = .ok h') :
    HdrIs n t h' := by
  rcases applyMeta_ok h h' kwType n t hm with ⟨hk, _⟩ | ⟨_, _, rfl⟩ | ⟨hk, _⟩
  · exact absurd hk (by decide)
  · exact ⟨hn, rfl, rfl⟩
  · exact absurd hk (by decide)

theorem stepMeta_ok (P : Params) (st st' : St) (kind cand rest : Str) (h : stepMeta P st kind cand rest = .ok st') :
    (st.hdr.name ≠ some cand ∧ ∃ g hd, flush P st.glob st.hdr st.grp.samples = .ok g ∧
        applyMeta { name := some cand, allowed := [cand] } kind cand rest = .ok hd ∧ st' = { st with hdr := hd, grp := {}, glob := g })
    ∨ (st.hdr.name = some cand ∧ ∃ hd, applyMeta st.hdr kind cand rest = .ok hd ∧ st' = { st with hdr := hd }) := by
  revert h
  unfold stepMeta
  by_cases c1 : (st.hdr.name == some cand && !st.grp.samples.isEmpty) = true
  · rw [if_pos c1]; intro h; cases h
  · rw [if_neg c1]
    by_cases c2 : (st.hdr.name != some cand) = true
    · rw [if_pos c2]
      cases hf : flush P st.glob st.hdr st.grp.samples with
      | error e => intro h; cases h
      | ok g =>
        dsimp only
        cases hm : applyMeta { name := some cand, allowed := [cand] } kind cand rest with
        | error e => intro h; cases h
        | ok hd => exact fun h => Or.inl ⟨by simpa using c2, g, hd, rfl, rfl, (Except.ok.inj h).symm⟩
    · rw [if_neg c2]
      cases hm : applyMeta st.hdr kind cand rest with
      | error e => intro h; cases h
      | ok hd => exact fun h => Or.inr ⟨by simpa using c2, hd, rfl, (Except.ok.inj h).symm⟩

theorem stepMeta_late (P : Params) (st : St) (kind cand rest : Str) (hn : st.hdr.name = some cand) (hs : st.grp.samples ≠ []) :
    stepMeta P st kind cand rest = .error .valueError := by
  unfold stepMeta
  have : (st.hdr.name == some cand && !st.grp.samples.isEmpty) = true := by
    rw [hn]
    cases hl : st.grp.samples with
    | nil => exact absurd hl hs
    | cons a b => simp
  rw [if_pos this]

theorem stepSample_ok (P : Params) (st st' : St) (s : OSample) (isNh : Bool) (h : stepSample P st s isNh = .ok st') :
    ((!st.hdr.allowed.contains s.name && !isNh) = true ∧ ∃ g hd gr, flush P st.glob st.hdr st.grp.samples = .ok g ∧
        unknownHdr s = .ok hd ∧ sampleChecks P hd {} s isNh = .ok gr ∧ st' = { st with hdr := hd, grp := gr, glob := g })
    ∨ ((!st.hdr.allowed.contains s.name && !isNh) = false ∧ ∃ gr, sampleChecks P st.hdr st.grp s isNh = .ok gr ∧
        st' = { st with grp := gr }) := by
  revert h
  unfold stepSample
  by_cases c1 : (!st.hdr.allowed.contains s.name && !isNh) = true
  · rw [if_pos c1]
    cases hf : flush P st.glob st.hdr st.grp.samples with
    | error e => intro h; cases h
    | ok g =>
      dsimp only
      cases hu : unknownHdr s with
      | error e => intro h; cases h
      | ok hd =>
        dsimp only
        cases hc : sampleChecks P hd {} s isNh with
        | error e => intro h; cases h
        | ok gr => exact fun h => Or.inl ⟨c1, g, hd, gr, rfl, rfl, hc, (Except.ok.inj h).symm⟩
  · rw [if_neg c1]
    cases hc : sampleChecks P st.hdr st.grp s isNh with
    | error e => intro h; cases h
    | ok gr => exact fun h => Or.inr ⟨by simpa using c1, gr, rfl, (Except.ok.inj h).symm⟩

theorem stepLine_ok (P : Params) (st st' : St) (l : Line) (h : stepLine P st l = .ok st') :
    st.eof = false ∧
    ((l = .eof ∧ st' = { st with eof := true })
     ∨ (∃ kind cand rest, l = .metadata kind cand rest ∧ stepMeta P st kind cand rest = .ok st')
     ∨ (∃ nh plain s isNh, l = .sample nh plain ∧ pickSample st.hdr.typ nh plain = .ok (s, isNh) ∧ stepSample P st s isNh = .ok st')) := by
  revert h
  unfold stepLine
  by_cases c : st.eof = true
  · rw [if_pos c]; intro h; cases h
  · rw [if_neg c]
    have heof : st.eof = false := by simpa using c
    cases l with
    | blank => intro h; cases h
    | eof => exact fun h => ⟨heof, Or.inl ⟨rfl, (Except.ok.inj h).symm⟩⟩
    | bad e => intro h; cases h
    | metadata kind cand rest => exact fun h => ⟨heof, Or.inr (Or.inl ⟨kind, cand, rest, rfl, h⟩)⟩
    | sample nh plain =>
      dsimp only
      cases hp : pickSample st.hdr.typ nh plain with
      | error e => intro h; cases h
      | ok p => exact fun h => ⟨heof, Or.inr (Or.inr ⟨nh, plain, p.1, p.2, rfl, hp, h⟩)⟩

theorem pickSample_inv (typ : Option Str) (nh : PyM (Option OSample)) (plain : PyM OSample) (s : OSample) (isNh : Bool)
    (h : pickSample typ nh plain = .ok (s, isNh)) : (isNh = true ∧ nh = .ok (some s)) ∨ (isNh = false ∧ plain = .ok s) := by
  unfold pickSample at h
  have hplain : plain.map (·, false) = .ok (s, isNh) → isNh = false ∧ plain = .ok s := by
    intro hx
    cases plain with
    | error e => cases hx
    | ok s' => cases hx; exact ⟨rfl, rfl⟩
  by_cases c : (typ == some tHistogram) = true
  · rw [if_pos c] at h
    cases nh with
    | error e => cases h
    | ok o =>
      cases o with
      | some s' => cases h; exact Or.inl ⟨rfl, rfl⟩
      | none => exact Or.inr (hplain h)
  · rw [if_neg c] at h
    exact Or.inr (hplain h)

theorem pickSample_ok (typ : Option Str) (nh : PyM (Option OSample)) (plain : PyM OSample) (s : OSample) (isNh : Bool)
    (h : pickSample typ nh plain = .ok (s, isNh)) : isNh = true ∨ (isNh = false ∧ plain = .ok s) :=
  (pickSample_inv typ nh plain s isNh h).imp_left And.left

theorem stepLine_type (P : Params) (st st' : St) (n t : Str) (h : stepLine P st (.metadata kwType n t) = .ok st') :
    HdrIs n t st'.hdr ∧ st'.eof = false := by
  obtain ⟨heof, hc⟩ := stepLine_ok P st st' _ h
  rcases hc with ⟨h0, _⟩ | ⟨kind, cand, rest, hl, hm⟩ | ⟨_, _, _, _, hl, _⟩
  · cases h0
  · cases hl
    rcases stepMeta_ok P st st' _ _ _ hm with ⟨_, g, hd, _, ha, rfl⟩ | ⟨hn, hd, ha, rfl⟩
    · exact ⟨applyMeta_type _ _ n t rfl ha, heof⟩
    · exact ⟨applyMeta_type _ _ n t hn ha, heof⟩
  · cases hl

theorem stepLine_inFam (P : Params) (st st' : St) (n t : Str) (l : Line) (hh : HdrIs n t st.hdr ∧ st.eof = false)
    (hl : InFamM n t l) (h : stepLine P st l = .ok st') : HdrIs n t st'.hdr ∧ st'.eof = false := by
  obtain ⟨hh, heof⟩ := hh
  obtain ⟨_, hc⟩ := stepLine_ok P st st' _ h
  rcases hc with ⟨h0, _⟩ | ⟨kind, cand, rest, hl', hm⟩ | ⟨nh, plain, s, isNh, hl', hp, hs⟩
  · subst h0; cases hl
  · subst hl'
    simp only [InFamM] at hl
    subst hl
    rcases stepMeta_ok P st st' _ _ _ hm with ⟨hne, _⟩ | ⟨hn, hd, ha, rfl⟩
    · exact absurd hh.1 hne
    · exact ⟨applyMeta_keeps _ _ cand t kind rest hh ha, heof⟩
  · subst hl'
    simp only [InFamM] at hl
    have hno : (!st.hdr.allowed.contains s.name && !isNh) = false := by
      rcases pickSample_ok _ _ _ _ _ hp with hnh | ⟨_, hpl⟩
      · simp [hnh]
      · have := hl s hpl
        rw [hh.2.2, this]; rfl
    rcases stepSample_ok P st st' s isNh hs with ⟨c, _⟩ | ⟨_, gr, _, rfl⟩
    · rw [hno] at c; cases c
    · exact ⟨hh, heof⟩

/-- `# TYPE n t`, then lines of the family, then `rest`: if `rest` fails from every state whose header is (n, t) — and
which satisfies `Q`, a property the `# TYPE` line establishes and the family's lines keep — the document fails -/
theorem block_prefix (P : Params) (n t : Str) (mid rest : List Line) (st : St) (Q : St → Prop) (okl : Line → Prop)
    (hmid : ∀ l ∈ mid, InFamM n t l ∧ okl l)
    (hQ0 : ∀ st1, stepLine P st (.metadata kwType n t) = .ok st1 → Q st1)
    (hQ : ∀ s l s', HdrIs n t s.hdr ∧ s.eof = false → Q s → InFamM n t l → okl l → stepLine P s l = .ok s' → Q s')
    (hrest : ∀ st2, HdrIs n t st2.hdr → st2.eof = false → Q st2 → isError (finishRun P st2 rest) = true) :
    isError (finishRun P st (.metadata kwType n t :: (mid ++ rest))) = true := by
  rw [finishRun_cons]
  cases h1 : stepLine P st (.metadata kwType n t) with
  | error e => rfl
  | ok st1 =>
    dsimp only
    rw [finishRun_append]
    cases h2 : run P st1 mid with
    | error e => rfl
    | ok st2 =>
      dsimp only
      obtain ⟨⟨hh, heof⟩, hq⟩ := run_invariant P (fun s => (HdrIs n t s.hdr ∧ s.eof = false) ∧ Q s) (fun l => InFamM n t l ∧ okl l)
        (fun s l s' hq hl hs => ⟨stepLine_inFam P s s' n t l hq.1 hl.1 hs, hQ s l s' hq.1 hq.2 hl.1 hl.2 hs⟩)
        mid hmid st1 ⟨stepLine_type P st st1 n t h1, hQ0 st1 h1⟩ st2 h2
      exact hrest st2 hh heof hq

/-- `Doomed P h g`: flushing header `h` with globals `g` fails whatever the samples -/
def Doomed (P : Params) (h : Hdr) (g : Glob) : Prop := ∀ samples, isError (flush P g h samples) = true

/-- a property of the state under which the pending family cannot be flushed, and which every accepted line keeps:
every continuation of the document fails (at the latest when the loop ends and the family is flushed) -/
theorem doom_state (P : Params) (Q : St → Prop)
    (hflush : ∀ st, Q st → isError (flush P st.glob st.hdr st.grp.samples) = true)
    (hstep : ∀ st st' l, Q st → stepLine P st l = .ok st' → Q st') :
    ∀ (ls : List Line) (st : St), Q st → isError (finishRun P st ls) = true := by
  intro ls st hq
  unfold finishRun
  cases hr : run P st ls with
  | error e => rfl
  | ok st' =>
    have hq' := run_invariant P Q (fun _ => True) (fun st l st' h _ hs => hstep st st' l h hs) ls (fun _ _ => trivial) st hq st' hr
    obtain ⟨e, he⟩ := error_of_isError (hflush st' hq')
    dsimp only
    unfold finish
    rw [he]; rfl

/-- if a doomed header stays doomed under its own metadata lines, every continuation of the document fails: a line
that would replace the header flushes it first -/
theorem doom (P : Params) (D : Hdr → Glob → Prop)
    (hflush : ∀ h g, D h g → Doomed P h g)
    (hmeta : ∀ h g h' kind c rest, D h g → h.name = some c → applyMeta h kind c rest = .ok h' → D h' g)
    (ls : List Line) (st : St) (hd : D st.hdr st.glob) : isError (finishRun P st ls) = true := by
  refine doom_state P (fun st => D st.hdr st.glob) (fun st hd => hflush _ _ hd st.grp.samples) ?_ ls st hd
  intro st st' l hd hs
  have hfl := hflush _ _ hd st.grp.samples
  obtain ⟨_, hc⟩ := stepLine_ok P st st' _ hs
  rcases hc with ⟨_, rfl⟩ | ⟨kind, cand, rest, _, hm⟩ | ⟨nh, plain, s, isNh, _, _, hss⟩
  · exact hd
  · rcases stepMeta_ok P st st' _ _ _ hm with ⟨_, g, _, hf, _, _⟩ | ⟨hn, hd', ha, rfl⟩
    · rw [hf] at hfl; cases hfl
    · exact hmeta _ _ _ kind cand rest hd hn ha
  · rcases stepSample_ok P st st' s isNh hss with ⟨_, g, _, _, hf, _, _, _⟩ | ⟨_, gr, _, rfl⟩
    · rw [hf] at hfl; cases hfl
    · exact hd

open PromVerif.Spec.OMRules

theorem lookupTable_cons (t k : Str) (v : List Str) (l : List (Str × List Str)) :
    lookupTable t ((k, v) :: l) = if t = k then some v else lookupTable t l := by
  unfold lookupTable
  by_cases h : t = k
  · subst h; simp
  · have : (k == t) = false := by simpa using Ne.symm h
    simp [List.find?, this, h]

/-- the suffix table of the rules' wording is the `type_suffixes` table extracted from the source: the same chain of
tests, key by key -/
theorem lookup_spec (t : Str) : (lookupTable t typeSuffixes).getD [[]] = specSuffixes t := by
  unfold specSuffixes typeSuffixes
  simp only [lookupTable_cons, apply_ite (Option.getD · [[]]), Option.getD_some]
  rfl

theorem familyNames_eq (n t : Str) : familyNames n t = allowedNames n t := by
  unfold familyNames allowedNames
  rw [lookup_spec]

theorem kwType_eq : kwType = cs!"TYPE" := by decide
theorem kwHelp_eq : kwHelp = cs!"HELP" := by decide
theorem kwUnit_eq : kwUnit = cs!"UNIT" := by decide

theorem inFam_bridge (n t : Str) (l : Line) (h : InFam n t l) : InFamM n t l := by
  cases l with
  | sample nh plain =>
    intro s hs
    have := h s hs
    rw [familyNames_eq] at this
    simpa using this
  | _ => exact h

theorem contains_of_mem {l : List Str} {a : Str} (h : a ∈ l) : l.contains a = true := by simpa using h

theorem stepLine_smp_fam (P : Params) (st : St) (n t : Str) (s : OSample) (hh : HdrIs n t st.hdr) (heof : st.eof = false)
    (hallowed : s.name ∈ familyNames n t) :
    stepLine P st (smp s) = match sampleChecks P st.hdr st.grp s false with
      | .error e => .error e
      | .ok gr => .ok { st with grp := gr } := by
  rw [stepLine_smp P st s heof,
    stepSample_allowed P st s false (by rw [hh.2.2, ← familyNames_eq]; exact contains_of_mem hallowed)]

theorem smp_fails (P : Params) (st : St) (n t : Str) (s : OSample) (hh : HdrIs n t st.hdr) (heof : st.eof = false)
    (hallowed : s.name ∈ familyNames n t)
    (hchk : isError (preChecks P n (some t) s) = true ∨ isError (groupStep P st.grp n t s) = true
      ∨ isError (postChecks P n (some t) s) = true) :
    isError (stepLine P st (smp s)) = true := by
  rw [stepLine_smp_fam P st n t s hh heof hallowed]
  cases hs : sampleChecks P st.hdr st.grp s false with
  | error e => rfl
  | ok gr' =>
    obtain ⟨h1, h2, h3⟩ := sampleChecks_passed P st.hdr st.grp gr' s n hh.1 hs
    rw [hh.2.1] at h1 h2 h3
    rcases hchk with h | h | h
    · rw [h1] at h; cases h
    · rw [show groupStep P st.grp n t s = .ok gr' from h2] at h; cases h
    · rw [h3] at h; cases h

theorem smp_step (P : Params) (st st' : St) (n t : Str) (s : OSample) (hh : HdrIs n t st.hdr) (heof : st.eof = false)
    (hallowed : s.name ∈ familyNames n t) (h : stepLine P st (smp s) = .ok st') :
    ∃ gr, groupStep P st.grp n t s = .ok gr ∧ st' = { st with grp := gr } := by
  revert h
  rw [stepLine_smp_fam P st n t s hh heof hallowed]
  cases hc : sampleChecks P st.hdr st.grp s false with
  | error e => intro h; cases h
  | ok gr =>
    have hg := (sampleChecks_passed P st.hdr st.grp gr s n hh.1 hc).2.1
    rw [hh.2.1] at hg
    exact fun h => ⟨gr, hg, (Except.ok.inj h).symm⟩

theorem block_of_InBlock' (P : Params) (ls : List Line) (n t : Str) (bad : List Line)
    (hb : InBlock ls n t bad)
    (hbad : ∀ st post, HdrIs n t st.hdr → st.eof = false → isError (finishRun P st (bad ++ post)) = true) :
    isError (assemble P ls) = true := by
  obtain ⟨pre, mid, post, rfl, hmid⟩ := hb
  apply isError_of_suffix
  intro st
  rw [← kwType_eq, List.append_assoc]
  exact block_prefix P n t mid (bad ++ post) st (fun _ => True) (fun _ => True)
    (fun l hl => ⟨inFam_bridge n t l (hmid l hl), trivial⟩) (fun _ _ => trivial) (fun _ _ _ _ _ _ _ _ => trivial)
    (fun st2 hh heof _ => hbad st2 post hh heof)

theorem block_of_InBlock (P : Params) (ls : List Line) (n t : Str) (bad : Line)
    (hb : InBlock ls n t [bad])
    (hbad : ∀ st, HdrIs n t st.hdr → st.eof = false → isError (stepLine P st bad) = true) :
    isError (assemble P ls) = true :=
  block_of_InBlock' P ls n t [bad] hb fun st post hh heof => isError_of_step P bad post st (hbad st hh heof)

theorem block_of_InBlock2 (P : Params) (ls : List Line) (n t : Str) (l1 l2 : Line)
    (hb : InBlock ls n t [l1, l2])
    (hbad : ∀ st st', HdrIs n t st.hdr → st.eof = false → stepLine P st l1 = .ok st' → isError (stepLine P st' l2) = true) :
    isError (assemble P ls) = true := by
  refine block_of_InBlock' P ls n t [l1, l2] hb fun st post hh heof => ?_
  show isError (finishRun P st (l1 :: l2 :: post)) = true
  rw [finishRun_cons]
  cases h3 : stepLine P st l1 with
  | error e => rfl
  | ok st3 => exact isError_of_step P l2 post st3 (hbad st st3 hh heof h3)

theorem drop_append_left (n suf : Str) : (n ++ suf).drop n.length = suf := by simp

end PromVerif.Lemmas.OM
