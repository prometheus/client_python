/-
C10/C11: the representation invariant `Rep` of an open store and the single operations on it: `_init_value` with its
explicit effect list, the spec view of an entry list, value updates and value reads, ensure / store / load, the
constructor on an empty, an all-zero and a represented file, and the readers.
-/
import PromVerif.Lemmas.MmapIndex
import PromVerif.Lemmas.MmapSpec
namespace PromVerif.Lemmas.Mmap
open PromVerif.Py PromVerif.Model.MmapDict PromVerif.Generated.Mmap
open PromVerif.Spec.MmapDict (Store)

structure Rep (d : MmapedDict) (es : List Entry) (tail : Bytes) : Prop where
  file : FileRep d.file d.used es tail
  cap : d.capacity = d.file.length
  pos : d.positions = posOf 8 es
  nodup : (keys es).Nodup

theorem Rep.cap_eq {d es tail} (h : Rep d es tail) : d.capacity = d.used + tail.length := by
  rw [h.cap, h.file.length]

theorem Rep.keys_eq {d es tail} (h : Rep d es tail) : d.positions.map (·.1) = keys es := by
  rw [h.pos, posOf_keys]

/-- the entry of a fresh key -/
def fresh (k : Key) : Entry := ⟨k, 0, 0⟩

/-- the state after `_init_value(k)` that grew the file to `cap` bytes: zero bytes appended by growth, the entry written
at `used`, the header published -/
def afterInit (d : MmapedDict) (es : List Entry) (k : Key) (cap : Nat) : MmapedDict :=
  ⟨sliceWrite (sliceWrite (d.file ++ zeros (cap - d.capacity)) d.used (encEntry (fresh k))) 0 (le 4 (d.used + entryLen k)),
   cap, d.used + entryLen k, posOf 8 (es ++ [fresh k])⟩

/-- the effects of `_init_value(k)` on a store with `used` bytes in use, growing through `caps` -/
def initTrace (used : Nat) (k : Key) (caps : List Nat) : List Effect :=
  caps.map Effect.truncate ++ [.sliceWrite used (encEntry (fresh k))] ++ [.sliceWrite 0 (le 4 (used + entryLen k))]

theorem initValue_ok {d es tail} (h : Rep d es tail) (k : Key) (hk : k ∉ keys es)
    (hb : d.used + entryLen k < 2147483648) :
    ∃ caps, List.Pairwise (· ≤ ·) (d.capacity :: caps) ∧ d.used + entryLen k ≤ lastCap d.capacity caps ∧
      initValue d k = .ok (afterInit d es k (lastCap d.capacity caps), initTrace d.used k caps) := by
  have hlen : entryLen k = 4 + klen k + padLen (klen k) + 16 := rfl
  have har : klen k < 2147483648 ∧ 1 ≤ d.capacity := by
    have := h.file.used_eq; have := h.cap_eq; omega
  obtain ⟨caps, hg, hpw, hneed⟩ :=
    growCaps_ok (d.used + entryLen k) d.capacity (d.used + entryLen k) har.2 (Nat.le_add_right _ _)
  refine ⟨caps, hpw, hneed, ?_⟩
  have hfold := foldl_truncate_chain caps d.file d.capacity h.cap hpw
  have hroom : 0 + (le 4 (d.used + entryLen k)).length ≤ lastCap d.capacity caps := by
    have := h.file.used_eq; rw [le_length]; omega
  have hpack : packInt (d.used + entryLen k) = .ok (le 4 (d.used + entryLen k)) := by simp [packInt, hb, intWidth]
  have hpos : setPos (posOf 8 es) k (d.used + entryLen k - positionBack) = posOf 8 (es ++ [fresh k]) := by
    rw [setPos_fresh _ _ _ (by rw [posOf_keys]; exact hk), posOf_append, ← h.file.used_eq, ← valuePos_add_16]
    rfl
  unfold initValue
  simp only [entryBytes_eq k har.1, bind, Except.bind, initValueEffects, List.foldlM_cons, List.foldlM_nil,
    initValueStep, growKind, encEntry_length, entryReserve, Nat.add_zero, hg, foldl_Fx_truncate, hfold, Fx.sliceWrite, pure, Except.pure]
  simp only [hneed, if_true, hpack, headerPos, h.pos, hpos, List.nil_append, fresh, hroom,
    List.append_assoc, List.cons_append, afterInit, initTrace]

theorem afterInit_rep {d es tail} (h : Rep d es tail) (k : Key) (hk : k ∉ keys es) (cap : Nat)
    (hb : d.used + entryLen k < 2147483648) (hcap : d.used + entryLen k ≤ cap) (hge : d.capacity ≤ cap) :
    Rep (afterInit d es k cap) (es ++ [fresh k]) ((tail ++ zeros (cap - d.capacity)).drop (entryLen k)) := by
  have hc := h.cap_eq
  have hroom : entryLen k ≤ tail.length + (cap - d.capacity) := by omega
  have hp := (h.file.write_entry (fresh k) (cap - d.capacity) hroom).publish hb
  refine ⟨hp, ?_, rfl, ?_⟩
  · have hl := hp.length
    rw [List.length_drop, List.length_append, zeros_length] at hl
    refine Eq.trans ?_ hl.symm
    show cap = d.used + entryLen k + (tail.length + (cap - d.capacity) - entryLen k)
    rw [Nat.add_assoc, Nat.add_sub_of_le hroom, ← Nat.add_assoc, ← hc, Nat.add_sub_of_le hge]
  · simp only [keys_append, keys_cons, keys_nil, fresh]
    exact nodup_snoc h.nodup hk

/-- the spec view of an entry list -/
def triples (es : List Entry) : Store := es.map fun e => (e.key, e.v, e.t)

@[simp] theorem triples_nil : triples [] = [] := rfl
@[simp] theorem triples_cons (e : Entry) (es : List Entry) : triples (e :: es) = (e.key, e.v, e.t) :: triples es := rfl
@[simp] theorem triples_append (a b : List Entry) : triples (a ++ b) = triples a ++ triples b := by simp [triples]

theorem triples_keys (es : List Entry) : (triples es).map (·.1) = keys es := List.map_map

theorem scanOut_triples (es : List Entry) (p : Nat) :
    (scanOut p es).map (fun (x : Item) => (x.1, x.2.1, x.2.2.1)) = triples es := by
  induction es generalizing p with
  | nil => simp [scanOut]
  | cons e es ih => simp [scanOut, ih]

theorem has_triples (es : List Entry) (k : Key) : (triples es).has k = true ↔ k ∈ keys es := by
  rw [has_iff, triples_keys]

theorem write_triples_fresh (es : List Entry) (k : Key) (v t : UInt64) (h : k ∉ keys es) :
    (triples es).write k v t = triples (es ++ [⟨k, v, t⟩]) := by
  induction es with
  | nil => simp [Store.write]
  | cons e es ih =>
    simp only [keys_cons, List.mem_cons, not_or] at h
    have : ¬ e.key = k := fun x => h.1 x.symm
    simp [Store.write, this, ih h.2]

theorem write_triples_present (es1 es2 : List Entry) (e : Entry) (v t : UInt64) (h : e.key ∉ keys es1) :
    (triples (es1 ++ e :: es2)).write e.key v t = triples (es1 ++ ⟨e.key, v, t⟩ :: es2) := by
  induction es1 with
  | nil => simp [Store.write]
  | cons x es1 ih =>
    simp only [keys_cons, List.mem_cons, not_or] at h
    have : ¬ x.key = e.key := fun y => h.1 y.symm
    have ih' := ih h.2
    simp only [triples_append, triples_cons] at ih'
    simp [Store.write, this, ih']

theorem write_triples_same (es : List Entry) (e : Entry) : (triples es ++ [(e.key, 0, 0)]) = triples (es ++ [fresh e.key]) := by
  simp [fresh]

theorem value_write_rep {file used es1 e es2 tail} (h : FileRep file used (es1 ++ e :: es2) tail) (v t : UInt64) :
    FileRep (sliceWrite file (valuePos (8 + (encEntries es1).length) e.key) (le64 v ++ le64 t)) used
      (es1 ++ ⟨e.key, v, t⟩ :: es2) tail := by
  refine ⟨?_, ?_, h.used_lt⟩
  · rw [sliceWrite_of_eq (data := file) (a := hdr used ++ (encEntries es1 ++ entryHead e.key))
      (b := le64 e.v ++ le64 e.t) (b' := le64 v ++ le64 t) (c := encEntries es2 ++ tail)
      (by rw [h.file_eq]; simp [encEntry_eq]) (by simp [valuePos, klen, entryHead]; omega) (by simp)]
    simp [encEntry_eq]
  · rw [h.used_eq]; congr 1
    exact encEntries_length_congr _ _ (by simp)

theorem value_read {file used es1 e es2 tail} (h : FileRep file used (es1 ++ e :: es2) tail) :
    unpackTwoDoubles file (valuePos (8 + (encEntries es1).length) e.key) = .ok (e.v, e.t) := by
  have := unpackTwoDoubles_entry (data := file) (pre := hdr used ++ encEntries es1) (rest := encEntries es2 ++ tail)
    (pos := 8 + (encEntries es1).length) (e := e) (by rw [h.file_eq]; simp) (by simp)
  simpa [valuePos] using this

/-- the index view of an open store: what `read_value` returns for every indexed key, in index order -/
def absOf (d : MmapedDict) : Store :=
  d.positions.filterMap fun (k, p) =>
    match unpackTwoDoubles d.file p with
    | .ok (v, t) => some (k, v, t)
    | .error _ => none

theorem absOf_aux (data : Bytes) : ∀ (es : List Entry) (pre rest : Bytes), data = pre ++ (encEntries es ++ rest) →
    (posOf pre.length es).filterMap (fun (x : Key × Nat) =>
      match unpackTwoDoubles data x.2 with
      | .ok (v, t) => some (x.1, v, t)
      | .error _ => none) = triples es := by
  intro es
  induction es with
  | nil => intro pre rest _; simp [posOf]
  | cons e es ih =>
    intro pre rest hd
    have h1 := unpackTwoDoubles_entry (data := data) (pre := pre) (rest := encEntries es ++ rest) (pos := pre.length)
      (e := e) (by rw [hd]; simp) rfl
    have h2 := ih (pre ++ encEntry e) rest (by rw [hd]; simp)
    simp only [List.length_append, encEntry_length] at h2
    simp [posOf, valuePos, h1, h2]

theorem Rep.absOf_eq {d es tail} (h : Rep d es tail) : absOf d = triples es := by
  unfold absOf
  rw [h.pos]
  have := absOf_aux d.file es (hdr d.used) tail h.file.file_eq
  simpa using this

theorem lookup_posOf_split (es1 es2 : List Entry) (e : Entry) (p : Nat) (h : e.key ∉ keys es1) :
    (posOf p (es1 ++ e :: es2)).lookup e.key = some (valuePos (p + (encEntries es1).length) e.key) := by
  rw [posOf_append, List.lookup_append, (lookup_posOf_none es1 p e.key).mpr h]
  simp [posOf]

theorem ensure_present {d es tail} (h : Rep d es tail) (k : Key) (hk : k ∈ keys es) : ensure d k = .ok (d, []) := by
  unfold ensure
  cases hq : d.positions.lookup k with
  | none => rw [h.pos] at hq; exact absurd hk ((lookup_posOf_none es 8 k).mp hq)
  | some q => simp

theorem ensure_absent {d es tail} (h : Rep d es tail) (k : Key) (hk : k ∉ keys es) : ensure d k = initValue d k := by
  unfold ensure
  rw [h.pos, (lookup_posOf_none es 8 k).mpr hk]
  simp

def ZeroTail (tail : Bytes) : Prop := ∀ b ∈ tail, b = 0

theorem zeroTail_zeros (n : Nat) : ZeroTail (zeros n) := by
  intro b hb; simp [zeros] at hb; exact hb.2

theorem zeroTail_grow {tail : Bytes} (h : ZeroTail tail) (z n : Nat) : ZeroTail ((tail ++ zeros z).drop n) := by
  intro b hb
  have := List.mem_of_mem_drop hb
  rcases List.mem_append.mp this with h1 | h1
  · exact h b h1
  · exact zeroTail_zeros z b h1

theorem storeValue_ok {d es1 e es2 tail} (h : Rep d (es1 ++ e :: es2) tail) (hk : e.key ∉ keys es1) (v t : UInt64) :
    ∃ q, storeValue d e.key v t = .ok
        ({ d with file := sliceWrite d.file q (le64 v ++ le64 t) }, [.sliceWrite q (le64 v ++ le64 t)]) ∧
      Rep { d with file := sliceWrite d.file q (le64 v ++ le64 t) } (es1 ++ ⟨e.key, v, t⟩ :: es2) tail := by
  have hc := h.cap_eq
  refine ⟨valuePos (8 + (encEntries es1).length) e.key, ?_, ?_⟩
  · unfold storeValue
    rw [h.pos, lookup_posOf_split es1 es2 e 8 hk]
    have : valuePos (8 + (encEntries es1).length) e.key + (le64 v ++ le64 t).length ≤ d.capacity := by
      have hu := h.file.used_eq
      rw [encEntries_append, encEntries_cons, List.length_append, List.length_append, encEntry_length] at hu
      rw [List.length_append, le64_length, le64_length, valuePos_add_16]
      omega
    simp only [this, if_true]
  · have hr := value_write_rep h.file v t
    refine ⟨hr, ?_, ?_, ?_⟩
    · show d.capacity = _
      rw [hr.length, hc]
    · show d.positions = _
      rw [h.pos]; simp [posOf_append, posOf]
    · have := h.nodup; simpa using this

theorem loadValue_ok {d es1 e es2 tail} (h : Rep d (es1 ++ e :: es2) tail) (hk : e.key ∉ keys es1) :
    loadValue d e.key = .ok (e.v, e.t) := by
  unfold loadValue
  rw [h.pos, lookup_posOf_split es1 es2 e 8 hk]
  exact value_read h.file

theorem init_reopen {d es tail} (h : Rep d es tail) (initSize : Nat) : init initSize (close d) = .ok (d, []) := by
  have hle := h.file.used_pos
  obtain ⟨hne, h0⟩ : ¬ d.file.length = 0 ∧ ¬ ((d.used : Int) = 0) := by
    have := h.file.length; omega
  unfold init close
  simp only [ctorEffects, List.foldlM_cons, List.foldlM_nil, ctorStep, bind, Except.bind, hne, if_false,
    h.file.unpack_header, h0, pure, Except.pure, hle, h.file.raw_ok, Int.toNat_natCast]
  have := rebuild_positions es 8 [] h.nodup (by simp)
  simp only [List.nil_append] at this
  rw [this, ← h.pos, ← h.cap]

/-- the constructor on an all-zero file (the state after the initial truncate): header written, empty store -/
def freshStore (n : Nat) : MmapedDict := ⟨hdr 8 ++ zeros (n - 8), n, 8, []⟩

theorem freshStore_rep (n : Nat) (h : 8 ≤ n) : Rep (freshStore n) [] (zeros (n - 8)) :=
  ⟨⟨by simp [freshStore], by simp [freshStore], by simp [freshStore]⟩, by simp [freshStore]; omega, rfl, by simp⟩

theorem sliceWrite_header_zeros (n : Nat) (h : 8 ≤ n) {u : Nat} : sliceWrite (zeros n) 0 (le 4 u) = hdr u ++ zeros (n - 8) := by
  have : zeros n = hdr 0 ++ zeros (n - 8) := by rw [show hdr 0 = zeros 8 from rfl, zeros_append, Nat.add_sub_cancel' h]
  rw [this, sliceWrite_hdr]

theorem init_sized (initSize : Nat) (file : Bytes) {n : Nat} (h : 8 ≤ n) {t0 : List Effect}
    (hs : [Eff.openFile, .truncateInitial].foldlM (ctorStep initSize) ⟨file, file.length, []⟩ = .ok ⟨zeros n, n, t0⟩) :
    init initSize file = .ok (freshStore n, t0 ++ [.sliceWrite 0 (le 4 8)]) := by
  obtain ⟨hne, hfit⟩ : ¬ n = 0 ∧ 4 ≤ n := by omega
  have hr := freshStore_rep n h
  have hz : unpackInt (zeros n) 0 = .ok 0 := unpackInt_zeros n hfit
  have hraw := hr.file.raw_ok
  have hhd := hr.file.unpack_header
  simp only [freshStore, headerPos] at hraw hhd
  unfold init
  rw [show ctorEffects = [Eff.openFile, .truncateInitial] ++ [.remap, .writeHeader] from rfl, List.foldlM_append, hs]
  simp only [List.foldlM_cons, List.foldlM_nil, ctorStep, bind, Except.bind, hne, if_false,
    if_true, packInt, freshUsed, intWidth, headerPos, Fx.sliceWrite, le_length, Nat.zero_add, hz, hfit,
    sliceWrite_header_zeros n h, pure, Except.pure, show (8 : Nat) < 2147483648 from by decide, hhd, hraw,
    scanOut, Int.toNat_natCast, List.foldl_nil, freshStore]
  rfl

theorem init_zeros (initSize n : Nat) (h : 8 ≤ n) :
    init initSize (zeros n) = .ok (freshStore n, [.sliceWrite 0 (le 4 8)]) :=
  init_sized initSize (zeros n) h (t0 := [])
    (by simp [ctorStep, bind, Except.bind, pure, Except.pure, show ¬ n = 0 by omega])

theorem init_fresh (initSize : Nat) (h : 8 ≤ initSize) :
    init initSize [] = .ok (freshStore initSize, [.truncate initSize, .sliceWrite 0 (le 4 8)]) :=
  init_sized initSize [] h (t0 := [.truncate initSize])
    (by simp [ctorStep, bind, Except.bind, pure, Except.pure, Fx.truncate, truncate, zeros])

theorem Rep.readers {d es tail} (h : Rep d es tail) (page : Nat) (hp : 4 ≤ page) :
    readAllValues d = .ok (absOf d) ∧
    (readAllValuesFromFile page (close d)).map (fun items => items.map fun (x : Item) => (x.1, x.2.1, x.2.2.1))
      = .ok (absOf d) := by
  constructor
  · unfold readAllValues
    simp only [h.file.raw_ok, bind, Except.bind, h.absOf_eq]
    exact congrArg _ (scanOut_triples es 8)
  · simp only [close, h.file.fromFile_ok page hp, Except.map, h.absOf_eq]
    exact congrArg _ (scanOut_triples es 8)

/-- an entry that was written but not yet published leaves NON-zero bytes beyond `used` (its padding is spaces): the
zero-tail clause of C10's `WF` does not hold at such a cut, and nothing below needs it -/
theorem orphan_tail_not_zero (e : Entry) (rest : Bytes) : ¬ ZeroTail (encEntry e ++ rest) := by
  intro h
  have hp := (layout (klen e.key)).2.1
  have hm : (32 : UInt8) ∈ encEntry e ++ rest := by
    obtain ⟨m, hm⟩ : ∃ m, padLen (klen e.key) = m + 1 := ⟨padLen (klen e.key) - 1, by omega⟩
    simp [encEntry, hm, List.replicate_succ]
  exact absurd (h 32 hm) (by decide)

end PromVerif.Lemmas.Mmap
