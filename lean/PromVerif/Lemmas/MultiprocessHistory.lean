/-
One public call of a `MmapedValue` (or an identity change): the state invariant it preserves, what it does to every cell
of the directory (`step_cell`) and which files it may touch (`step_files`).  `inc` and `set` are one operation — store a
pair through object `i` of the state the identity check leaves — and differ only in the pair (`writeAt`).
Then whole histories: invariants along `run`, the cell of every identity as a fold of that identity's own updates
(`run_cell`), and the commutative-monoid algebra behind conservation.
-/
import PromVerif.Lemmas.MultiprocessValues
import PromVerif.Spec.Multiprocess

namespace PromVerif.Model.Values
open PromVerif.Py PromVerif.Generated.Multiprocess PromVerif.Model.Multiprocess
open PromVerif.Spec.Multiprocess (Upd ownCell incTotal aggSum)
set_option autoImplicit false

variable {V : Type}

theorem nodup_getElem?_ne {α : Type} (l : List α) (h : l.Nodup) (i j : Nat) (a b : α)
    (hi : l[i]? = some a) (hj : l[j]? = some b) (hne : i ≠ j) : a ≠ b := by
  intro e
  subst e
  exact hne ((List.getElem?_inj (List.getElem?_eq_some_iff.mp hi).1 h).mp (hi.trans hj.symm))

theorem set_getElem?_self' {α : Type} (l : List α) (i : Nat) (a : α) (h : l[i]? = some a) : l.set i a = l := by
  obtain ⟨hi, rfl⟩ := List.getElem?_eq_some_iff.mp h
  exact List.set_getElem_self hi

/-- (prefix, key) of every value object of the acting worker, in construction order -/
def idsOf (st : St V) : List (Str × Key) := st.values.map (fun v => idOf v.params)

theorem idsOf_eq (st : St V) : idsOf st = (st.values.map (·.params)).map idOf :=
  (List.map_map (g := idOf)).symm

/-- index `i` holds the YOUNGEST value object on its (prefix, key): no object constructed later shares it.
    (After `remove()`/`clear()` + `labels()` the re-created child is the youngest; the dropped one is stale.) -/
def IsLast (ids : List (Str × Key)) (i : Nat) : Prop := ∀ j a, i < j → ids[j]? = some a → ids[i]? ≠ some a

/-- the value objects whose index satisfies `P` cache what their cells hold.  Which objects can be relied on is a matter of
    discipline: the youngest on each (prefix, key) (`CachedL`), or those flagged fresh (`MultiprocessFresh`); what a call
    does to this property is the same for both and is proved once, about `P`. -/
def CachedAt (vo : VOps V) (st : St V) (P : Nat → Prop) : Prop :=
  ∀ i v, st.values[i]? = some v → P i → cellVal vo st.disk v.file v.key = (v.value, v.ts)

theorem cachedAt_no_values (vo : VOps V) (pid actual : Str) (files : List (Str × Str)) (disk : List (Str × Store V))
    (P : Nat → Prop) : CachedAt vo ⟨pid, files, [], disk, actual⟩ P :=
  fun i v hv _ => by simp at hv

/-- the youngest object on each (prefix, key) caches what its file holds (stale objects may not) -/
def CachedL (vo : VOps V) (st : St V) : Prop :=
  ∀ i v, st.values[i]? = some v → IsLast (idsOf st) i → cellVal vo st.disk v.file v.key = (v.value, v.ts)

/-- the state invariant: bindings, and coherent caches of the youngest object on every key -/
structure Inv (vo : VOps V) (st : St V) : Prop where
  bound : Bound st
  cached : CachedL vo st

/-- what a history must respect: only the youngest value object on a (prefix, key) is ever UPDATED.  A stale object
    (dropped child, shadowed metric) may stay in `values` and is re-bound on identity changes — it re-reads, never writes. -/
def OpOK (ids : List (Str × Key)) : Op V → Prop
  | .inc i _ => IsLast ids i
  | .set i _ _ => IsLast ids i
  | _ => True

theorem isLast_of_append (l : List (Str × Key)) (a : Str × Key) (j : Nat) (h : IsLast (l ++ [a]) j) : IsLast l j := by
  intro k b hk hb
  have hk' : k < l.length := (List.getElem?_eq_some_iff.mp hb).1
  have := h k b hk (by rw [List.getElem?_append_left hk']; exact hb)
  rwa [List.getElem?_append_left (by omega)] at this

theorem inv_init (vo : VOps V) (actual : Str) : Inv vo (St.init (V := V) actual) :=
  ⟨bound_init actual, cachedAt_no_values vo _ _ _ _ _⟩

/-- parameters appended by an op -/
def newParams : Op V → List Params
  | .construct p => [p]
  | _ => []

/-- store the pair `w v` through object `i` (`v`, if there is one): into its cache and into its cell -/
def writeAt (st : St V) (i : Nat) (w : ValueObj V → V × V) : St V :=
  match st.values[i]? with
  | none => st
  | some v => ⟨st.pid, st.files, st.values.set i ⟨v.params, (w v).1, (w v).2, v.file, v.key⟩,
      writeValue st.disk v.file v.key (w v).1 (w v).2, st.actual⟩

theorem step_inc (vo : VOps V) (st : St V) (i : Nat) (a : V) :
    (step vo st (.inc i a)).1 = writeAt (checkPid vo st) i (fun v => (vo.add v.value a, vo.zero)) := by
  simp only [step, writeAt]
  cases (checkPid vo st).values[i]? <;> rfl

theorem step_set (vo : VOps V) (st : St V) (i : Nat) (x : V) (t : Option V) :
    (step vo st (.set i x t)).1 = writeAt (checkPid vo st) i (fun _ => (x, tsOr0 vo t)) := by
  simp only [step, writeAt]
  cases (checkPid vo st).values[i]? <;> rfl

theorem writeAt_ids (st : St V) (i : Nat) (w : ValueObj V → V × V) :
    (writeAt st i w).pid = st.pid ∧ (writeAt st i w).actual = st.actual ∧ (writeAt st i w).files = st.files := by
  unfold writeAt
  split <;> exact ⟨rfl, rfl, rfl⟩

theorem writeAt_params (st : St V) (i : Nat) (w : ValueObj V → V × V) :
    (writeAt st i w).values.map (·.params) = st.values.map (·.params) := by
  unfold writeAt
  cases hv : st.values[i]? with
  | none => rfl
  | some v =>
    simp only [List.map_set]
    exact set_getElem?_self' _ _ _ (by rw [List.getElem?_map, hv]; rfl)

theorem writeAt_cell (vo : VOps V) (st : St V) (i : Nat) (w : ValueObj V → V × V) (fn : Str) (k : Key) :
    cellVal vo (writeAt st i w).disk fn k =
      match st.values[i]? with
      | some v => if v.file = fn ∧ v.key = k then w v else cellVal vo st.disk fn k
      | none => cellVal vo st.disk fn k := by
  unfold writeAt
  cases st.values[i]? with
  | none => rfl
  | some v => exact cellVal_writeValue vo st.disk v.file v.key _ _ fn k

theorem writeAt_foreign (st : St V) (hb : Bound st) (i : Nat) (w : ValueObj V → V × V) (fn : Str)
    (hne : ∀ pre, fn ≠ fileName pre st.pid) : AL.get? (writeAt st i w).disk fn = AL.get? st.disk fn := by
  unfold writeAt
  cases hv : st.values[i]? with
  | none => rfl
  | some v =>
    have hbv := hb.bound v (List.mem_of_getElem? hv)
    exact file_writeValue _ _ fn _ _ _ (by rw [hbv.2]; exact Ne.symm (hne _))

theorem writeAt_bound (st : St V) (hb : Bound st) (i : Nat) (w : ValueObj V → V × V) : Bound (writeAt st i w) := by
  unfold writeAt
  cases hv : st.values[i]? with
  | none => exact hb
  | some v =>
    have hmv : v ∈ st.values := List.mem_of_getElem? hv
    refine ⟨hb.files, ?_, ?_⟩
    · intro u hu
      rcases List.mem_or_eq_of_mem_set hu with e | e
      · exact hb.bound u e
      · subst e; exact hb.bound v hmv
    · intro u hu
      show (cellGet (writeValue _ v.file v.key _ _) u.file u.key).isSome = true
      rw [cellGet_writeValue]
      split
      · rfl
      · rcases List.mem_or_eq_of_mem_set hu with e | e
        · exact hb.exist u e
        · subst e; exact hb.exist v hmv

theorem writeAt_getElem? (st : St V) (i : Nat) (w : ValueObj V → V × V) (j : Nat) (u : ValueObj V)
    (hj : (writeAt st i w).values[j]? = some u) :
    (j = i ∧ ∃ v, st.values[i]? = some v ∧ u = ⟨v.params, (w v).1, (w v).2, v.file, v.key⟩) ∨
    (j ≠ i ∧ st.values[j]? = some u) := by
  unfold writeAt at hj
  cases hv : st.values[i]? with
  | none =>
    rw [hv] at hj
    exact Or.inr ⟨(fun e => by rw [e, hv] at hj; cases hj), hj⟩
  | some v =>
    simp only [hv, List.getElem?_set] at hj
    split at hj
    · next hij =>
      split at hj
      · exact Or.inl ⟨hij.symm, v, rfl, (Option.some.inj hj).symm⟩
      · cases hj
    · next hij => exact Or.inr ⟨fun e => hij e.symm, hj⟩

theorem same_cell_ids (st : St V) (hb : Bound st) (i j : Nat) (v u : ValueObj V) (hv : st.values[i]? = some v)
    (hu : st.values[j]? = some u) (h : v.file = u.file ∧ v.key = u.key) : (idsOf st)[j]? = (idsOf st)[i]? := by
  have hbv := hb.bound v (List.mem_of_getElem? hv)
  have hbu := hb.bound u (List.mem_of_getElem? hu)
  obtain ⟨e1, e2⟩ := h
  rw [hbv.2, hbu.2] at e1
  rw [hbv.1, hbu.1] at e2
  unfold idsOf idOf
  rw [List.getElem?_map, List.getElem?_map, hv, hu, Option.map_some, Option.map_some,
    fileName_inj_prefix _ _ _ e1, e2]

theorem cachedAt_writeAt (vo : VOps V) (st : St V) (hb : Bound st) {P Q : Nat → Prop} (h : CachedAt vo st P) (i : Nat)
    (w : ValueObj V → V × V)
    (hQ : ∀ j a, Q j → j ≠ i → (idsOf st)[j]? = some a → P j ∧ (idsOf st)[i]? ≠ some a) :
    CachedAt vo (writeAt st i w) Q := by
  intro j u hj hq
  rw [writeAt_cell]
  rcases writeAt_getElem? st i w j u hj with ⟨_, v, hv, rfl⟩ | ⟨hji, hj'⟩
  · rw [hv]; simp
  · have hidu : (idsOf st)[j]? = some (idOf u.params) := by unfold idsOf; rw [List.getElem?_map, hj']; rfl
    obtain ⟨hpj, hne⟩ := hQ j _ hq hji hidu
    cases hv : st.values[i]? with
    | none => exact h j u hj' hpj
    | some v =>
      simp only
      rw [if_neg (fun e => hne (same_cell_ids st hb i j v u hv hj' e ▸ hidu))]
      exact h j u hj' hpj

/-- no other youngest object shares the cell of the youngest object on its key -/
theorem writeAt_inv (vo : VOps V) (st : St V) (h : Inv vo st) (i : Nat) (w : ValueObj V → V × V)
    (hlast : IsLast (idsOf st) i) : Inv vo (writeAt st i w) := by
  have hids : idsOf (writeAt st i w) = idsOf st := by rw [idsOf_eq, idsOf_eq, writeAt_params]
  refine ⟨writeAt_bound st h.bound i w, cachedAt_writeAt vo st h.bound h.cached i w ?_⟩
  intro j a hl hji hja
  rw [hids] at hl
  refine ⟨hl, ?_⟩
  rcases Nat.lt_or_gt_of_ne hji with hlt | hgt
  · exact fun hia => hl i a hlt hia hja
  · exact hlast j a hgt hja

theorem step_params (vo : VOps V) (st : St V) (op : Op V) (hb : Bound st) :
    (step vo st op).1.values.map (·.params) = st.values.map (·.params) ++ newParams op := by
  have hc := checkPid_post vo st hb
  cases op with
  | setPid p => exact (List.append_nil _).symm
  | construct p =>
    simp only [step, newParams, List.map_append, hc.params, List.map_cons, List.map_nil]
    rw [(reset_post vo _ _ _ p hc.bound.files).params]
  | inc i a => rw [step_inc, writeAt_params, hc.params]; exact (List.append_nil _).symm
  | set i x t => rw [step_set, writeAt_params, hc.params]; exact (List.append_nil _).symm
  | get i => simp only [step, newParams, List.append_nil]; exact hc.params

theorem step_pid (vo : VOps V) (st : St V) (op : Op V) (hb : Bound st) :
    (step vo st op).1.actual = (match op with | .setPid p => p | _ => st.actual) ∧
    (step vo st op).1.pid = (match op with | .setPid _ => st.pid | _ => st.actual) := by
  have hc := checkPid_post vo st hb
  cases op with
  | setPid p => exact ⟨rfl, rfl⟩
  | inc i a => rw [step_inc, (writeAt_ids _ _ _).1, (writeAt_ids _ _ _).2.1]; exact ⟨hc.actual, hc.pid⟩
  | set i x t => rw [step_set, (writeAt_ids _ _ _).1, (writeAt_ids _ _ _).2.1]; exact ⟨hc.actual, hc.pid⟩
  | _ => exact ⟨hc.actual, hc.pid⟩

/-- a value object with parameters `p` constructed (`__reset` run for it) in a state the identity check has left -/
def constructAt (vo : VOps V) (st1 : St V) (p : Params) : St V :=
  ⟨st1.pid, (reset vo st1.pid st1.files st1.disk p).2.1, st1.values ++ [(reset vo st1.pid st1.files st1.disk p).1],
    (reset vo st1.pid st1.files st1.disk p).2.2, st1.actual⟩

theorem step_construct (vo : VOps V) (st : St V) (p : Params) :
    (step vo st (.construct p)).1 = constructAt vo (checkPid vo st) p := by
  simp only [step, constructAt]

theorem construct_bound (vo : VOps V) (st1 : St V) (hb1 : Bound st1) (p : Params) : Bound (constructAt vo st1 p) := by
  have hr := reset_post vo st1.pid st1.files st1.disk p hb1.files
  unfold constructAt
  refine ⟨hr.files, ?_, ?_⟩
  · exact List.forall_mem_append.mpr
      ⟨hb1.bound, List.forall_mem_singleton.mpr ⟨by rw [hr.key, hr.params], by rw [hr.file, hr.params]⟩⟩
  · refine List.forall_mem_append.mpr ⟨fun u hu => hr.persists _ _ (hb1.exist u hu), List.forall_mem_singleton.mpr ?_⟩
    rw [hr.cached]; rfl

theorem cachedAt_construct (vo : VOps V) (st1 : St V) (hb1 : Bound st1) (p : Params) {P Q : Nat → Prop}
    (h : CachedAt vo st1 P) (hQ : ∀ j, j < st1.values.length → Q j → P j) : CachedAt vo (constructAt vo st1 p) Q := by
  have hr := reset_post vo st1.pid st1.files st1.disk p hb1.files
  intro j u hj hq
  show cellVal vo (reset vo _ _ _ p).2.2 u.file u.key = _
  simp only [constructAt, List.getElem?_append] at hj
  split at hj
  · next hlt =>
    rw [hr.cellval]
    exact h j u hj (hQ j hlt hq)
  · rw [List.mem_singleton.mp (List.mem_of_getElem? hj)]
    unfold cellVal
    rw [hr.cached]; rfl

/-- `Bound` needs no uniqueness assumption -/
theorem step_bound (vo : VOps V) (st : St V) (op : Op V) (hb : Bound st) : Bound (step vo st op).1 := by
  have h1 := (checkPid_post vo st hb).bound
  cases op with
  | setPid p => exact ⟨hb.files, hb.bound, hb.exist⟩
  | get i => exact h1
  | inc i a => rw [step_inc]; exact writeAt_bound _ h1 i _
  | set i x t => rw [step_set]; exact writeAt_bound _ h1 i _
  | construct p => rw [step_construct]; exact construct_bound vo _ h1 p

theorem idsOf_check (vo : VOps V) (st : St V) (hb : Bound st) : idsOf (checkPid vo st) = idsOf st := by
  rw [idsOf_eq, idsOf_eq, (checkPid_post vo st hb).params]

/-- after the identity check every cache was re-read if the identity changed; otherwise nothing moved -/
theorem cachedAt_check (vo : VOps V) (st : St V) (hb : Bound st) {P Q : Nat → Prop} (h : CachedAt vo st P)
    (hQ : st.pid = st.actual → ∀ i, Q i → P i) : CachedAt vo (checkPid vo st) Q := by
  by_cases hp : st.pid = st.actual
  · rw [checkPid_same vo st hp]
    exact fun i v hv hq => h i v hv (hQ hp i hq)
  · intro i v hv _
    exact (checkPid_post vo st hb).cached (Or.inl hp) v (List.mem_of_getElem? hv)

theorem check_inv (vo : VOps V) (st : St V) (h : Inv vo st) : Inv vo (checkPid vo st) :=
  ⟨(checkPid_post vo st h.bound).bound,
    cachedAt_check vo st h.bound h.cached (fun _ _ hq => idsOf_check vo st h.bound ▸ hq)⟩

theorem step_inv (vo : VOps V) (st : St V) (op : Op V) (h : Inv vo st) (hok : OpOK (idsOf st) op) :
    Inv vo (step vo st op).1 := by
  have h1 := check_inv vo st h
  have hids := idsOf_check vo st h.bound
  cases op with
  | setPid p => exact ⟨⟨h.bound.files, h.bound.bound, h.bound.exist⟩, h.cached⟩
  | get i => exact h1
  | inc i a => rw [step_inc]; exact writeAt_inv vo _ h1 i _ (hids ▸ hok)
  | set i x t => rw [step_set]; exact writeAt_inv vo _ h1 i _ (hids ▸ hok)
  | construct p =>
    rw [step_construct]
    refine ⟨construct_bound vo _ h1.bound p, cachedAt_construct vo _ h1.bound p h1.cached ?_⟩
    intro j _ hl
    simp only [idsOf, constructAt, List.map_append] at hl
    exact isLast_of_append _ _ j hl

/-- the cell `(fn, k)` after a write through object `i` that stores `g` of what the object's own cell holds: it is the
    cell `(file of the object's prefix under the CURRENT identity, the object's key)` that moves, no other -/
def cellAfter (vo : VOps V) (st : St V) (i : Nat) (g : V × V → V × V) (fn : Str) (k : Key) : V × V :=
  match st.values[i]? with
  | some v =>
    if fileName (filePrefix v.params) st.actual = fn ∧ mmapKey v.params = k
    then g (cellVal vo st.disk fn k) else cellVal vo st.disk fn k
  | none => cellVal vo st.disk fn k

/-- the cell `(fn, k)` after the op: only `inc`/`set` move a cell; an increment continues from what the cell already
    holds -/
def cellFormula (vo : VOps V) (st : St V) (op : Op V) (fn : Str) (k : Key) : V × V :=
  match op with
  | .inc i a => cellAfter vo st i (fun c => (vo.add c.1 a, vo.zero)) fn k
  | .set i x t => cellAfter vo st i (fun _ => (x, tsOr0 vo t)) fn k
  | _ => cellVal vo st.disk fn k

/-- the pair stored is a function `g` of what the object's own cell holds (`set`: a constant; `inc`: provided the object's
    cache is what its cell holds) -/
theorem check_writeAt_cell (vo : VOps V) (st : St V) (hb : Bound st) (i : Nat) (w : ValueObj V → V × V)
    (g : V × V → V × V)
    (hw : ∀ v1, (checkPid vo st).values[i]? = some v1 → w v1 = g (cellVal vo (checkPid vo st).disk v1.file v1.key))
    (fn : Str) (k : Key) :
    cellVal vo (writeAt (checkPid vo st) i w).disk fn k = cellAfter vo st i g fn k := by
  have hc := checkPid_post vo st hb
  have hp : (checkPid vo st).values[i]?.map (·.params) = st.values[i]?.map (·.params) := by
    rw [← List.getElem?_map, ← List.getElem?_map, hc.params]
  rw [writeAt_cell, cellAfter]
  cases hs : st.values[i]? with
  | none =>
    rw [hs, Option.map_none, Option.map_eq_none_iff] at hp
    rw [hp]
    exact hc.cellval fn k
  | some v =>
    rw [hs, Option.map_some, Option.map_eq_some_iff] at hp
    obtain ⟨v1, hv, hpar⟩ := hp
    have hbv := hc.bound.bound v1 (List.mem_of_getElem? hv)
    rw [hv]
    simp only
    rw [hw v1 hv, hbv.1, hbv.2, hc.pid, hpar]
    split
    · next e => rw [e.1, e.2, hc.cellval]
    · exact hc.cellval fn k

theorem step_cell_sem (vo : VOps V) (st : St V) (op : Op V) (hb : Bound st)
    (hsem : ∀ i a, op = .inc i a → ∀ v, (checkPid vo st).values[i]? = some v →
      cellVal vo (checkPid vo st).disk v.file v.key = (v.value, v.ts))
    (fn : Str) (k : Key) : cellVal vo (step vo st op).1.disk fn k = cellFormula vo st op fn k := by
  have hc := checkPid_post vo st hb
  cases op with
  | setPid p => rfl
  | get i => exact hc.cellval fn k
  | construct p =>
    show cellVal vo (reset vo _ _ _ p).2.2 fn k = _
    rw [(reset_post vo _ _ _ p hc.bound.files).cellval, hc.cellval]; rfl
  | inc i a =>
    rw [step_inc]
    exact check_writeAt_cell vo st hb i _ (fun c => (vo.add c.1 a, vo.zero))
      (fun v1 hv => by rw [hsem i a rfl v1 hv]) fn k
  | set i x t =>
    rw [step_set]
    exact check_writeAt_cell vo st hb i _ (fun _ => (x, tsOr0 vo t)) (fun _ _ => rfl) fn k

theorem step_cell_inv (vo : VOps V) (st : St V) (op : Op V) (h : Inv vo st) (hok : OpOK (idsOf st) op) (fn : Str) (k : Key) :
    cellVal vo (step vo st op).1.disk fn k = cellFormula vo st op fn k := by
  apply step_cell_sem vo st op h.bound
  intro i a e v hv
  subst e
  exact (check_inv vo st h).cached i v hv (idsOf_check vo st h.bound ▸ hok)

theorem step_cell (vo : VOps V) (st : St V) (op : Op V) (h : Inv vo st) (hok : OpOK (idsOf st) op) (fn : Str) (k : Key) :
    cellVal vo (step vo st op).1.disk fn k =
      match op with
      | .inc i a =>
        match st.values[i]? with
        | some v =>
          if fileName (filePrefix v.params) st.actual = fn ∧ mmapKey v.params = k
          then (vo.add (cellVal vo st.disk fn k).1 a, vo.zero) else cellVal vo st.disk fn k
        | none => cellVal vo st.disk fn k
      | .set i x t =>
        match st.values[i]? with
        | some v =>
          if fileName (filePrefix v.params) st.actual = fn ∧ mmapKey v.params = k
          then (x, tsOr0 vo t) else cellVal vo st.disk fn k
        | none => cellVal vo st.disk fn k
      | _ => cellVal vo st.disk fn k := by
  have := step_cell_inv vo st op h hok fn k
  cases op <;> exact this

/-- one op touches only files of the identity it runs under (`…_<pid>.db`).  Needs no uniqueness assumption. -/
theorem step_files (vo : VOps V) (st : St V) (op : Op V) (hb : Bound st) (fn : Str)
    (hne : ∀ pre, fn ≠ fileName pre (step vo st op).1.pid) :
    AL.get? (step vo st op).1.disk fn = AL.get? st.disk fn := by
  have hc := checkPid_post vo st hb
  rw [(step_pid vo st op hb).2] at hne
  cases op with
  | setPid p => rfl
  | get i => exact hc.foreign fn hne
  | construct p =>
    show AL.get? (reset vo _ _ _ p).2.2 fn = _
    rw [(reset_post vo _ _ _ p hc.bound.files).foreign fn (by rw [hc.pid]; exact hne _), hc.foreign fn hne]
  | inc i a => rw [step_inc, writeAt_foreign _ hc.bound i _ fn (by rw [hc.pid]; exact hne), hc.foreign fn hne]
  | set i x t => rw [step_set, writeAt_foreign _ hc.bound i _ fn (by rw [hc.pid]; exact hne), hc.foreign fn hne]

theorem run_cons (vo : VOps V) (st : St V) (op : Op V) (ops : List (Op V)) :
    run vo st (op :: ops) = run vo (step vo st op).1 ops := rfl

theorem run_bound (vo : VOps V) (ops : List (Op V)) (st : St V) (hb : Bound st) : Bound (run vo st ops) :=
  foldl_inv (fun s op => (step vo s op).1) Bound (fun s op => step_bound vo s op) ops st hb

theorem run_params (vo : VOps V) (ops : List (Op V)) (st : St V) (hb : Bound st) :
    (run vo st ops).values.map (·.params) = st.values.map (·.params) ++ ops.flatMap newParams := by
  induction ops generalizing st with
  | nil => exact (List.append_nil _).symm
  | cons op r ih =>
    rw [run_cons, ih _ (step_bound vo st op hb), step_params vo st op hb]
    simp [List.append_assoc]

/-- every update of the history goes through the youngest value object on its (prefix, key); `ids` = the (prefix, key)
    of the value objects constructed so far -/
def OpsOK : List (Str × Key) → List (Op V) → Prop
  | _, [] => True
  | ids, o :: r => OpOK ids o ∧ OpsOK (ids ++ (newParams o).map idOf) r

theorem idsOf_step (vo : VOps V) (st : St V) (op : Op V) (hb : Bound st) :
    idsOf (step vo st op).1 = idsOf st ++ (newParams op).map idOf := by
  rw [idsOf_eq, idsOf_eq, step_params vo st op hb, List.map_append]

theorem run_inv (vo : VOps V) (ops : List (Op V)) (st : St V) (h : Inv vo st)
    (hok : OpsOK (idsOf st) ops) : Inv vo (run vo st ops) := by
  induction ops generalizing st with
  | nil => exact h
  | cons op r ih =>
    rw [run_cons]
    apply ih _ (step_inv vo st op h hok.1)
    rw [idsOf_step vo st op h.bound]
    exact hok.2

/-- the updates a history issues to the series owned by `(pre, k)` (file prefix and key), each tagged with the identity
    it ran under.  `cur` = current identity, `ps` = parameters of the value objects constructed so far. -/
def updLog (vo : VOps V) (pre : Str) (k : Key) : Str → List Params → List (Op V) → List (Upd V)
  | _, _, [] => []
  | _, ps, .setPid p :: r => updLog vo pre k p ps r
  | cur, ps, .construct p :: r => updLog vo pre k cur (ps ++ [p]) r
  | cur, ps, .inc i a :: r =>
    (match ps[i]? with
      | some p => if idOf p = (pre, k) then [Upd.inc cur a] else []
      | none => []) ++ updLog vo pre k cur ps r
  | cur, ps, .set i x t :: r =>
    (match ps[i]? with
      | some p => if idOf p = (pre, k) then [Upd.set cur x (tsOr0 vo t)] else []
      | none => []) ++ updLog vo pre k cur ps r
  | cur, ps, .get _ :: r => updLog vo pre k cur ps r

/-- one update seen from identity `p`'s own cell -/
def ownStep (vo : VOps V) (p : Str) (cell : V × V) : Upd V → V × V
  | .inc q a => if q = p then (vo.add cell.1 a, vo.zero) else cell
  | .set q v t => if q = p then (v, t) else cell

theorem ownCell_eq (vo : VOps V) (p : Str) (us : List (Upd V)) :
    ownCell vo p us = us.foldl (ownStep vo p) (vo.zero, vo.zero) := by
  unfold ownCell
  congr 1

/-- identities without `_` (so that `<prefix>_<pid>.db` determines both parts) -/
def IdsOK (pid0 : Str) (ops : List (Op V)) : Prop := '_' ∉ pid0 ∧ ∀ p, Op.setPid p ∈ ops → '_' ∉ p

/-- what `process_identifier()` returns after the op -/
def nextActual (pid0 : Str) : Op V → Str
  | .setPid p => p
  | _ => pid0

theorem step_actual (vo : VOps V) (st : St V) (op : Op V) (hb : Bound st) :
    (step vo st op).1.actual = nextActual st.actual op := by
  have := (step_pid vo st op hb).1
  cases op <;> exact this

theorem idsOK_tail (pid0 : Str) (op : Op V) (ops : List (Op V)) (h : IdsOK pid0 (op :: ops)) :
    IdsOK (nextActual pid0 op) ops := by
  constructor
  · cases op with
    | setPid p => exact h.2 p List.mem_cons_self
    | _ => exact h.1
  · intro p hp; exact h.2 p (List.mem_cons_of_mem _ hp)

theorem updLog_cons (vo : VOps V) (pre : Str) (k : Key) (cur : Str) (ps : List Params) (op : Op V) (r : List (Op V)) :
    updLog vo pre k cur ps (op :: r)
      = updLog vo pre k cur ps [op] ++ updLog vo pre k (nextActual cur op) (ps ++ newParams op) r := by
  cases op <;> simp only [updLog, nextActual, newParams, List.append_nil, List.nil_append]

/-- file names determine prefix and identity, identities being free of `_` -/
theorem owns_iff (cur pre p : Str) (k : Key) (q : Params) (hc : '_' ∉ cur) (hp : '_' ∉ p) :
    (fileName (filePrefix q) cur = fileName pre p ∧ mmapKey q = k) ↔ (cur = p ∧ idOf q = (pre, k)) := by
  unfold idOf
  constructor
  · rintro ⟨e1, e2⟩
    obtain ⟨h1, h2⟩ := fileName_inj _ _ _ _ hc hp e1
    exact ⟨h2, by rw [h1, e2]⟩
  · rintro ⟨rfl, e⟩
    rw [(Prod.mk.inj e).1, (Prod.mk.inj e).2]
    exact ⟨rfl, rfl⟩

/-- the right side is what `updLog … [op]` unfolds to -/
theorem upd_cell_log (vo : VOps V) (pre : Str) (k : Key) (p : Str) (hp : '_' ∉ p) (st : St V) (hact : '_' ∉ st.actual)
    (i : Nat) (u : Upd V) (g : V × V → V × V)
    (hu : ∀ c, ownStep vo p c u = if st.actual = p then g c else c) :
    cellAfter vo st i g (fileName pre p) k
    = ((match (st.values.map (·.params))[i]? with
        | some q => if idOf q = (pre, k) then [u] else []
        | none => []) ++ []).foldl (ownStep vo p) (cellVal vo st.disk (fileName pre p) k) := by
  rw [List.getElem?_map, cellAfter]
  cases st.values[i]? with
  | none => rfl
  | some v =>
    simp only [Option.map_some, List.append_nil, owns_iff st.actual pre p k v.params hact hp]
    by_cases hid : idOf v.params = (pre, k)
    · rw [if_pos hid, List.foldl_cons, List.foldl_nil, hu]
      by_cases hq : st.actual = p
      · rw [if_pos ⟨hq, hid⟩, if_pos hq]
      · rw [if_neg (fun e => hq e.1), if_neg hq]
    · rw [if_neg hid, if_neg (fun e => hid e.2)]
      rfl

theorem op_cell_log (vo : VOps V) (pre : Str) (k : Key) (p : Str) (hp : '_' ∉ p) (st : St V) (op : Op V)
    (hact : '_' ∉ st.actual) :
    cellFormula vo st op (fileName pre p) k
      = (updLog vo pre k st.actual (st.values.map (·.params)) [op]).foldl (ownStep vo p)
          (cellVal vo st.disk (fileName pre p) k) := by
  cases op with
  | inc i a =>
    exact upd_cell_log vo pre k p hp st hact i (Upd.inc st.actual a) (fun c => (vo.add c.1 a, vo.zero)) (fun _ => rfl)
  | set i x t =>
    exact upd_cell_log vo pre k p hp st hact i (Upd.set st.actual x (tsOr0 vo t)) (fun _ => (x, tsOr0 vo t)) (fun _ => rfl)
  | _ => rfl

theorem run_cell (vo : VOps V) (pre : Str) (k : Key) (p : Str) (hp : '_' ∉ p) (ops : List (Op V)) (st : St V)
    (h : Inv vo st) (hok : OpsOK (idsOf st) ops) (hids : IdsOK st.actual ops) :
    cellVal vo (run vo st ops).disk (fileName pre p) k
      = (updLog vo pre k st.actual (st.values.map (·.params)) ops).foldl (ownStep vo p)
          (cellVal vo st.disk (fileName pre p) k) := by
  induction ops generalizing st with
  | nil => rfl
  | cons op r ih =>
    have hok1 : OpsOK (idsOf (step vo st op).1) r := by rw [idsOf_step vo st op h.bound]; exact hok.2
    have hact := step_actual vo st op h.bound
    have hids1 : IdsOK (step vo st op).1.actual r := by rw [hact]; exact idsOK_tail _ op r hids
    rw [run_cons, ih _ (step_inv vo st op h hok.1) hok1 hids1, step_params vo st op h.bound, hact,
      step_cell_inv vo st op h hok.1,
      op_cell_log vo pre k p hp st op hids.1, updLog_cons vo pre k st.actual _ op r, List.foldl_append]

section Algebra
variable (vo : VOps V) (hcomm : ∀ a b, vo.add a b = vo.add b a)
  (hassoc : ∀ a b c, vo.add (vo.add a b) c = vo.add a (vo.add b c))
include hcomm hassoc

theorem foldl_add_shift (l : List V) (y a : V) :
    l.foldl vo.add (vo.add y a) = vo.add (l.foldl vo.add y) a := by
  induction l generalizing y with
  | nil => rfl
  | cons x r ih =>
    simp only [List.foldl_cons]
    rw [← ih (vo.add y x)]
    congr 1
    rw [hassoc, hassoc, hcomm a x]

theorem sum_point_update (pids : List Str) (hnd : pids.Nodup) (q : Str) (hq : q ∈ pids) (f : Str → V) (a : V) (z : V) :
    (pids.map (fun p => if q = p then vo.add (f p) a else f p)).foldl vo.add z
      = vo.add ((pids.map f).foldl vo.add z) a := by
  induction pids generalizing z with
  | nil => cases hq
  | cons x r ih =>
    rw [List.nodup_cons] at hnd
    simp only [List.map_cons, List.foldl_cons]
    by_cases hx : q = x
    · subst hx
      simp only [if_true]
      have hsame : r.map (fun p => if q = p then vo.add (f p) a else f p) = r.map f :=
        List.map_congr_left (fun p hp => if_neg (fun (e : q = p) => hnd.1 (e ▸ hp)))
      rw [hsame, ← hassoc, foldl_add_shift vo hcomm hassoc]
    · simp only [hx, if_false]
      exact ih hnd.2 ((List.mem_cons.mp hq).resolve_left hx) _

theorem sum_ownCells (pids : List Str) (hnd : pids.Nodup) (us : List (Upd V))
    (hinc : ∀ u ∈ us, ∃ q a, u = Upd.inc q a ∧ q ∈ pids) (c0 : Str → V × V) :
    (pids.map (fun p => (us.foldl (ownStep vo p) (c0 p)).1)).foldl vo.add vo.zero
      = us.foldl (fun acc u => match u with | .inc _ a => vo.add acc a | .set _ _ _ => acc)
          ((pids.map (fun p => (c0 p).1)).foldl vo.add vo.zero) := by
  induction us generalizing c0 with
  | nil => rfl
  | cons u r ih =>
    obtain ⟨⟨q, a, rfl, hq⟩, hinc'⟩ := List.forall_mem_cons.mp hinc
    simp only [List.foldl_cons]
    rw [ih hinc' (fun p => ownStep vo p (c0 p) (Upd.inc q a))]
    congr 1
    have := sum_point_update vo hcomm hassoc pids hnd q hq (fun p => (c0 p).1) a vo.zero
    rw [← this]
    congr 1
    apply List.map_congr_left
    intro p _
    simp only [ownStep]
    split <;> rfl

/-- conservation, given that every identity's cell is the fold of its own updates from zero (`run_cell`, `wrun_cell_fresh`) -/
theorem aggSum_cells (pids : List Str) (hnd : pids.Nodup) (us : List (Upd V))
    (hinc : ∀ u ∈ us, ∃ q a, u = Upd.inc q a ∧ q ∈ pids) (cell : Str → V × V)
    (hcell : ∀ p ∈ pids, cell p = us.foldl (ownStep vo p) (vo.zero, vo.zero)) :
    aggSum vo (pids.map (fun p => (cell p).1))
      = us.foldl (fun acc u => match u with | .inc _ a => vo.add acc a | .set _ _ _ => acc)
          (aggSum vo (pids.map (fun _ => vo.zero))) := by
  rw [List.map_congr_left (fun p hp => congrArg Prod.fst (hcell p hp))]
  exact sum_ownCells vo hcomm hassoc pids hnd us hinc (fun _ => (vo.zero, vo.zero))

end Algebra

theorem aggSum_zeros {α : Type} (vo : VOps V) (hzero : ∀ a, vo.add vo.zero a = a) (l : List α) :
    aggSum vo (l.map (fun _ => vo.zero)) = vo.zero := by
  unfold aggSum
  induction l with
  | nil => rfl
  | cons x r ih => simp only [List.map_cons, List.foldl_cons, hzero]; exact ih

end PromVerif.Model.Values
