/-
C12: the directory of a single-process run meets the input conditions of C08's main theorem (`WFInput`, distinct
rendered bucket keys), so the collector model returns, family by family, exactly the spec's values.
-/
import PromVerif.Lemmas.BackendsValue
import PromVerif.Lemmas.MultiprocessOutput
import PromVerif.Lemmas.MultiprocessCollect

namespace PromVerif.Lemmas.Backends
open PromVerif.Py PromVerif.Generated.Multiprocess
open PromVerif.Model.Metrics (Val Decl Kind Child Action)
open PromVerif.Model.Multiprocess
open PromVerif.Model.Values
open PromVerif.Model.Backends
open PromVerif.Spec.Metrics (Hist)
open PromVerif.Spec.Multiprocess
open PromVerif.Props.C08 (WFInput)
set_option autoImplicit false
set_option linter.unusedSectionVars false

variable {V : Type} [Val V] {B : Type} [DecidableEq B]

/-- the declarations of a history: names pairwise different, each well formed (collector side included), no gauge
label named `pid` (C08's known finding is excluded, not repaired) -/
structure WFAllB (bo : BOps B) (ds : List (MDecl V)) (bsOf : MDecl V → List B) : Prop where
  names : (ds.map (fun d => d.decl.name)).Nodup
  decls : ∀ d ∈ ds, WFDeclB bo (bsOf d) d
  noPid : ∀ d ∈ ds, isGauge d = true → pidLabel ∉ d.decl.labelnames

theorem WFAllB.toWFAll {bo : BOps B} {ds : List (MDecl V)} {bsOf : MDecl V → List B} (h : WFAllB bo ds bsOf) : WFAll ds :=
  ⟨h.names, fun d hd => (h.decls d hd).wf⟩

theorem hist_index (ds : List (MDecl V)) (hs : List (Hist V)) (hlen : hs.length = ds.length) (d : MDecl V) (hd : d ∈ ds) :
    ∃ (i : Nat) (h : Hist V), ds[i]? = some d ∧ hs[i]? = some h := by
  obtain ⟨i, hi⟩ := List.mem_iff_getElem?.mp hd
  have hi' := (List.getElem?_eq_some_iff.mp hi).1
  exact ⟨i, hs[i]'(by omega), hi, List.getElem?_eq_getElem (by omega)⟩

section coupled
variable (ds : List (MDecl V)) (hwf : WFAll ds) (pid : Str) (hs : List (Hist V)) (ps : List Params) (st : St V)
    (hc : Core ds pid hs ps st) (hlen : hs.length = ds.length)
include hwf hc hlen

theorem contrib_origin (c : Contrib V) (hcm : c ∈ allContribs (sfilesOf ps pid st)) :
    ∃ (i : Nat) (d : MDecl V) (h : Hist V), ds[i]? = some d ∧ hs[i]? = some h ∧ c.key.metric = d.decl.name ∧
      c ∈ expContribs d pid st.disk h := by
  have hcm0 := hcm
  unfold allContribs sfilesOf at hcm
  rw [List.flatMap_map] at hcm
  obtain ⟨f, hf, hcf⟩ := List.mem_flatMap.mp hcm
  unfold contribsOf at hcf
  obtain ⟨e, he, rfl⟩ := List.mem_map.mp hcf
  -- the entry's key is the key of a constructed object
  have hv := hc.vinv
  have hstore : f.2 = storeOf st.disk f.1 := by
    unfold storeOf
    rw [AL.getD_eq, AL.get?_of_mem _ hv.nodupFiles f.1 f.2 hf]
    rfl
  have hent : e ∈ storeOf st.disk f.1 := by
    rw [← hstore]
    unfold sfileOf at he
    split at he <;> exact he
  have hkey : e.1 ∈ AL.keys (storeOf st.disk f.1) := List.mem_map.mpr ⟨e, hent, rfl⟩
  rw [hv.keys f.1, hc.psEq] at hkey
  obtain ⟨p, hp, ep⟩ := List.mem_map.mp hkey
  have hpps := (List.mem_filter.mp hp).1
  obtain ⟨d, hd, hpm⟩ := hc.known p hpps
  obtain ⟨i, h, hi, hh⟩ := hist_index ds hs hlen d hd
  have hmetric : e.1.metric = d.decl.name := by rw [← ep]; exact hpm
  refine ⟨i, d, h, hi, hh, hmetric, ?_⟩
  rw [← contribs_eq ds hwf pid hs ps st hc hlen i d h hi hh]
  unfold contribs
  exact List.mem_filter.mpr ⟨hcm0, by simpa using hmetric⟩

theorem contrib_cell (c : Contrib V) (hcm : c ∈ allContribs (sfilesOf ps pid st)) :
    ∃ (i : Nat) (d : MDecl V) (h : Hist V), ds[i]? = some d ∧ hs[i]? = some h ∧
      ∃ ka ∈ childList d h, ∃ p ∈ cellParams d ka.1, c = contribOf d pid st.disk p := by
  obtain ⟨i, d, h, hi, hh, _, hin⟩ := contrib_origin ds hwf pid hs ps st hc hlen c hcm
  exact ⟨i, d, h, hi, hh, (mem_expContribs d pid st.disk h c).mp hin⟩

end coupled

/-- one of the four types of the property -/
def FourKinds (k : Kind V) : Prop :=
  match k with
  | .counter => True
  | .gauge => True
  | .summary => True
  | .histogram _ => True
  | _ => False

theorem typStr_gauge (k : Kind V) (hs : FourKinds k) (h : typStr k = gaugeType) : k = .gauge := by
  cases k with
  | gauge => rfl
  | counter => exact absurd h typ_counter_ne.1
  | summary => exact absurd h typ_summary_ne.1
  | histogram bs => exact absurd h (by show "histogram".toList ≠ gaugeType; decide +kernel)
  | info => exact absurd hs id
  | enum s => exact absurd hs id

theorem typStr_histogram (k : Kind V) (hs : FourKinds k) (h : typStr k = histogramType) : ∃ bs, k = .histogram bs := by
  cases k with
  | histogram bs => exact ⟨bs, rfl⟩
  | counter => exact absurd h typ_counter_ne.2
  | summary => exact absurd h typ_summary_ne.2
  | gauge => exact absurd h (by show "gauge".toList ≠ histogramType; decide +kernel)
  | info => exact absurd hs id
  | enum s => exact absurd hs id

theorem typStr_worker (k : Kind V) (hs : FourKinds k) : typStr k ∈ PromVerif.Props.C08.workerTypes := by
  cases k with
  | counter => exact List.mem_cons_self
  | gauge => exact List.mem_cons_of_mem _ List.mem_cons_self
  | summary => exact List.mem_cons_of_mem _ (List.mem_cons_of_mem _ List.mem_cons_self)
  | histogram bs => exact List.mem_cons_of_mem _ (List.mem_cons_of_mem _ (List.mem_cons_of_mem _ List.mem_cons_self))
  | info => exact absurd hs id
  | enum s => exact absurd hs id

theorem typStr_known (k : Kind V) (hs : FourKinds k) : metricTypes.contains (typStr k) = true ∧ '_' ∉ typStr k :=
  PromVerif.Props.C08.workerTypes_facts _ (typStr_worker k hs)

section coupled
variable (bo : BOps B) (ds : List (MDecl V)) (bsOf : MDecl V → List B) (hwf : WFAllB bo ds bsOf) (pid : Str)
    (hpid : '_' ∉ pid) (hs : List (Hist V)) (ps : List Params) (st : St V) (hc : Core ds pid hs ps st)
    (hlen : hs.length = ds.length)
include hwf hc hlen

theorem hk_input :
    ∀ mn, typOf (sfilesOf ps pid st) mn = histogramType →
      (AL.keys (bucketSeries (voOf V) bo mn (contribs (sfilesOf ps pid st) mn))).Nodup := by
  intro mn hty
  have hwf' := hwf.toWFAll
  -- the family has a contribution, hence a declaration
  cases hcs : contribs (sfilesOf ps pid st) mn with
  | nil =>
    unfold typOf at hty
    rw [hcs] at hty
    simp only [List.head?_nil, Option.map_none, Option.getD_none] at hty
    exact absurd hty (by decide +kernel)
  | cons c cs =>
    have hcm : c ∈ contribs (sfilesOf ps pid st) mn := by rw [hcs]; exact List.mem_cons_self
    have hc2 := PromVerif.Props.C08.mem_contribs hcm
    obtain ⟨i, d, h, hi, hh, hm, hin⟩ := contrib_origin ds hwf' pid hs ps st hc hlen c hc2.1
    have hmn : mn = d.decl.name := by rw [← hc2.2, hm]
    subst hmn
    have hd : d ∈ ds := List.mem_of_getElem? hi
    have hwd := hwf.decls d hd
    have hce := contribs_eq ds hwf' pid hs ps st hc hlen i d h hi hh
    have hne : expContribs d pid st.disk h ≠ [] := by rw [← hce, hcs]; simp
    have htyp := (typOf_exp d pid st.disk h _ hce hne).1
    obtain ⟨bs, hk⟩ := typStr_histogram d.decl.kind hwd.wf.sup (htyp ▸ hty)
    rw [← hcs, hce]
    exact bucketKeys_nodup_decl bo (bsOf d) d hwd bs hk pid st.disk h (hc.metric i d h hi hh).childKeys

include hpid

theorem files_wf : ∀ sf ∈ sfilesOf ps pid st, WFFile sf := by
  intro sf hsf
  unfold sfilesOf at hsf
  obtain ⟨f, hf, rfl⟩ := List.mem_map.mp hsf
  have hk : f.1 ∈ AL.keys st.disk := List.mem_map.mpr ⟨f, hf, rfl⟩
  obtain ⟨p0, hp0, e0⟩ := hc.vinv.origin f.1 hk
  obtain ⟨q, hq, e1, e2⟩ := sfileOf_found ps pid f ⟨p0, hc.psEq ▸ hp0, e0⟩
  -- the object the file is named after is a cell of a declared metric
  obtain ⟨d, hd, hqm⟩ := hc.known q hq
  obtain ⟨i, h, hi, hh⟩ := hist_index ds hs hlen d hd
  have hq2 : q ∈ ps.filter (fun p => decide (p.metric = d.decl.name)) := List.mem_filter.mpr ⟨hq, by simpa using hqm⟩
  rw [(hc.metric i d h hi hh).order] at hq2
  obtain ⟨ka, _, hqc⟩ := List.mem_flatMap.mp hq2
  have g2 := (cellParams_metric d ka.1 q hqc).2.2.2
  have hsup := (hwf.decls d hd).wf.sup
  rw [e2]
  refine ⟨?_, ?_, ?_, hpid⟩
  · simp only; rw [g2.1]; exact (typStr_known d.decl.kind hsup).1
  · simp only; rw [g2.1]; exact (typStr_known d.decl.kind hsup).2
  · simp only; rw [g2.2]
    unfold modeOfDecl
    split
    · next hg => exact PromVerif.Props.C08.gaugeModes_no_sep _ ((hwf.decls d hd).mode hg)
    · simp

theorem wfinput : WFInput bo (sfilesOf ps pid st) := by
  have horigin := contrib_cell ds hwf.toWFAll pid hs ps st hc hlen
  -- contributions to one metric name come from one declaration: declared names are pairwise different
  have hone : ∀ c ∈ allContribs (sfilesOf ps pid st), ∀ c' ∈ allContribs (sfilesOf ps pid st),
      c.key.metric = c'.key.metric → c'.typ = c.typ ∧ c'.mode = c.mode := by
    intro c hc1 c' hc2 e
    obtain ⟨i, d, h, hi, hh, ka, hka, p, hp, rfl⟩ := horigin c hc1
    obtain ⟨j, d', h', hj, hh', ka', hka', p', hp', rfl⟩ := horigin c' hc2
    have e' : p.metric = p'.metric := e
    rw [(cellParams_metric d _ p hp).1, (cellParams_metric d' _ p' hp').1] at e'
    by_cases hij : i = j
    · subst hij; rw [hi] at hj; cases hj; exact ⟨rfl, rfl⟩
    · exact absurd e' (names_ne hwf.names i j d d' hi hj hij)
  refine ⟨files_wf bo ds bsOf hwf pid hpid hs ps st hc hlen, fun c h1 c' h2 e => (hone c h1 c' h2 e).1,
    fun c h1 c' h2 e _ => (hone c h1 c' h2 e).2, ?_, ?_, ?_, ?_⟩
  · -- gauge modes
    intro c hc1 hg
    obtain ⟨i, d, h, hi, hh, ka, hka, p, hp, rfl⟩ := horigin c hc1
    have hd : d ∈ ds := List.mem_of_getElem? hi
    have hk := typStr_gauge d.decl.kind (hwf.decls d hd).wf.sup hg
    have hgd : isGauge d = true := by simp [isGauge, hk]
    show modeOfDecl d ∈ gaugeModes
    simp only [modeOfDecl, hgd, if_true]
    exact (hwf.decls d hd).mode hgd
  · -- no gauge label named pid
    intro c hc1 hg l hl
    obtain ⟨i, d, h, hi, hh, ka, hka, p, hp, rfl⟩ := horigin c hc1
    have hd : d ∈ ds := List.mem_of_getElem? hi
    have hk := typStr_gauge d.decl.kind (hwf.decls d hd).wf.sup hg
    have hgd : isGauge d = true := by simp [isGauge, hk]
    rw [gauge_params d hk, List.mem_singleton] at hp
    subst hp
    simp only [contribOf] at hl
    rw [plain_labels d (hwf.decls d hd).wf.lnNodup] at hl
    intro e
    exact plainLabels_no_key d _ _ (hwf.noPid d hd hgd) (List.mem_map.mpr ⟨l, hl, e⟩)
  · -- histogram le texts parse
    intro c hc1 hh t ht
    obtain ⟨i, d, h, hi, hh', ka, hka, p, hp, rfl⟩ := horigin c hc1
    have hwd := hwf.decls d (List.mem_of_getElem? hi)
    obtain ⟨bs, hk⟩ := typStr_histogram d.decl.kind hwd.wf.sup hh
    have hkl := (hc.metric i d h hi hh').keylen ka hka
    rw [cellParams_eq] at hp
    simp only [hk, List.mem_cons, List.mem_map] at hp
    rcases hp with rfl | ⟨t', ht', rfl⟩
    · rw [leText_plain d hwd.wf] at ht; cases ht
    · rw [leText_bucket d hwd.wf pid st.disk ka.1 hkl t'] at ht
      cases ht
      rw [hwd.bounds.texts] at ht'
      obtain ⟨b, hb, rfl⟩ := List.mem_map.mp ht'
      rw [hwd.bounds.parse b hb]; rfl
  · -- label names inside one key are pairwise different: the key is a `mmap_key`
    intro c hc1
    obtain ⟨i, d, h, hi, hh', ka, hka, p, hp, rfl⟩ := horigin c hc1
    exact mmapKey_labels_nodup p

end coupled

end PromVerif.Lemmas.Backends
