/-
Lemmas for C16, protocol part: what one wrapper, a stack of wrappers, a sequence of nested calls and a
recursion do to outcome, observations, counters and gauges, as a function of what the wrapped piece does.
Every lemma about `timerExit` / `inprogressExit` / `excExit` unfolds the flags extracted from the current
source, so an edit of context_managers.py that changes one of them breaks the corresponding lemma.
-/
import PromVerif.Model.Wrappers
import PromVerif.Spec.Wrappers

namespace PromVerif.Lemmas.Wrappers
open PromVerif.Model.Wrappers PromVerif.Spec.Wrappers PromVerif.Generated.Wrappers

/-- observations on `(m, k)` in a log -/
def countObs (m : Nat) (k : TimeKind) (l : List Obs) : Nat :=
  l.countP (fun x => decide (x.metric = m ∧ x.kind = k))

theorem countObs_cons (m k x l) :
    countObs m k (x :: l) = countObs m k l + if x.metric = m ∧ x.kind = k then 1 else 0 := by
  simp [countObs, List.countP_cons]

theorem countObs_append (m k a b) : countObs m k (a ++ b) = countObs m k a + countObs m k b :=
  List.countP_append

/-- what a piece of program does, whatever state it starts in: outcome `o`; counter `c` up by `E c`;
`T m k` new observations on `(m, k)`, all non-negative; gauges not in `S` back at their value -/
def Sound (f : St → Outcome × St) (o : Outcome) (T : Nat → TimeKind → Nat) (E : Nat → Nat) (S : Nat → Bool) : Prop :=
  ∀ s, (f s).1 = o ∧
    (∀ c, (f s).2.counter c = s.counter c + E c) ∧
    (∃ new, (f s).2.obs = new ++ s.obs ∧ (∀ x ∈ new, 0 ≤ x.dur) ∧ ∀ m k, countObs m k new = T m k) ∧
    (∀ g, S g = false → (f s).2.gauge g = s.gauge g)

theorem Sound.mono {f o T E S T' E' S'} (h : Sound f o T E S) (hT : ∀ m k, T m k = T' m k)
    (hE : ∀ c, E c = E' c) (hS : ∀ g, S' g = false → S g = false) : Sound f o T' E' S' := by
  intro s
  obtain ⟨h1, h2, ⟨new, h3, h4, h5⟩, h6⟩ := h s
  exact ⟨h1, fun c => by rw [h2 c, hE c], ⟨new, h3, h4, fun m k => by rw [h5 m k, hT m k]⟩,
    fun g hg => h6 g (hS g hg)⟩

theorem Sound.weaken {f o T E S S'} (h : Sound f o T E S) (hS : ∀ g, S' g = false → S g = false) :
    Sound f o T E S' :=
  h.mono (fun _ _ => rfl) (fun _ => rfl) hS

theorem sound_pure (o : Outcome) : Sound (fun s => (o, s)) o (fun _ _ => 0) (fun _ => 0) (fun _ => false) := by
  intro s
  exact ⟨rfl, fun _ => rfl, ⟨[], rfl, by simp, fun _ _ => rfl⟩, fun _ _ => rfl⟩

theorem duration_eq_ideal (now start : Int) : duration now start = idealDuration start now := by
  simp [duration, timerClampFn, timerClampLit, timerNowMinusStart, idealDuration]

theorem duration_nonneg (now start : Int) : 0 ≤ duration now start := by
  rw [duration_eq_ideal]
  exact Int.le_max_right _ _

/-- `Timer.__enter__` touches the clock (and `_start`) only -/
@[simp] theorem timerEnter_frame (mode s) :
    (timerEnter mode s).obs = s.obs ∧ (timerEnter mode s).counter = s.counter ∧ (timerEnter mode s).gauge = s.gauge := by
  unfold timerEnter
  split <;> exact ⟨rfl, rfl, rfl⟩

theorem timerExit_eq (m k mode s0) (r : Outcome × St) :
    timerExit m k mode s0 r =
      (r.1, callback { r.2 with clock := r.2.clock.tick.2 } m k (duration r.2.clock.tick.1 (timerStart mode s0 r.2))) := by
  simp [timerExit, suppress, timerExitSuppresses, whenHolds, timerCallbackWhen]

@[simp] theorem callback_frame (s m k d) :
    (callback s m k d).obs = ⟨m, k, d⟩ :: s.obs ∧ (callback s m k d).counter = s.counter := by
  cases k <;> exact ⟨rfl, rfl⟩

/-- only `gauge.time()` on `g` itself writes gauge `g` -/
theorem callback_gauge {s m k d g mode} (h : setsOn g [.time m k mode] = false) :
    (callback s m k d).gauge g = s.gauge g := by
  cases k
  · have : g ≠ m := fun e => by simp [setsOn, e] at h
    simp [callback, upd, this]
  · rfl

theorem inprogressExit_eq (g) (r : Outcome × St) :
    inprogressExit g r = (r.1, { r.2 with gauge := upd r.2.gauge g (r.2.gauge g - 1) }) := by
  simp [inprogressExit, suppress, inprogressExitSuppresses, whenHolds, inprogressDecWhen]

theorem inprogressEnter_eq (g s) :
    inprogressEnter g s = { s with gauge := upd s.gauge g (s.gauge g + 1) } := by
  simp [inprogressEnter, whenHolds, inprogressIncWhen]

theorem counts_eq (classes o) : counts classes o = escapes classes o := by
  cases o <;> rfl

/-- the `__mro__` table is closed: it lists the bases of every class it lists.  This is what makes `isinstance`
transitive. -/
theorem mro_closed (c : ExcClass) : ∀ d ∈ c.mro, ∀ e ∈ d.mro, e ∈ c.mro := by
  cases c <;> decide

theorem escapes_singleton (d : ExcClass) (i : Nat) (c : ExcClass) : escapes [d] (.raise ⟨i, c⟩) = isSubclass c d :=
  Bool.or_false _

theorem excExit_eq (c classes) (r : Outcome × St) :
    excExit c classes r =
      (r.1, if escapes classes r.1 then { r.2 with counter := upd r.2.counter c (r.2.counter c + 1) } else r.2) := by
  simp [excExit, suppress, excSuppressWhenCounted, excSuppressOtherwise, counts_eq]

theorem wrapOne_sound {body o T E S} (w : Wrapper) (h : Sound body o T E S) :
    Sound (wrapOne w body) o (fun m k => timeOn m k [w] + T m k) (fun c => escOn c o [w] + E c)
      (fun g => setsOn g [w] || S g) := by
  intro s
  cases w with
  | time m k mode =>
    obtain ⟨h1, h2, ⟨new, h3, h4, h5⟩, h6⟩ := h (timerEnter mode s)
    simp only [wrapOne, timerExit_eq]
    refine ⟨h1, fun c => by simp [h2 c, escOn],
      ⟨⟨m, k, duration (body (timerEnter mode s)).2.clock.tick.1 (timerStart mode s (body (timerEnter mode s)).2)⟩ :: new,
        by simp [h3], List.forall_mem_cons.mpr ⟨duration_nonneg _ _, h4⟩, fun m' k' => ?_⟩,
      fun g hg => ?_⟩
    · rw [countObs_cons, h5 m' k']
      simp [timeOn, Nat.add_comm]
    · simp only [Bool.or_eq_false_iff] at hg
      rw [callback_gauge hg.1]
      simpa using h6 g hg.2
  | inprogress g' =>
    obtain ⟨h1, h2, ⟨new, h3, h4, h5⟩, h6⟩ := h (inprogressEnter g' s)
    simp only [inprogressEnter_eq] at h1 h2 h3 h6
    simp only [wrapOne, inprogressExit_eq, inprogressEnter_eq]
    refine ⟨h1, fun c => by simp [h2 c, escOn], ⟨new, by simp [h3], h4, fun m k => by simp [h5 m k, timeOn]⟩,
      fun g hg => ?_⟩
    -- one up on entry, one down on exit
    simp only [setsOn, Bool.false_or] at hg
    have := h6 g hg
    by_cases e : g = g'
    · subst e
      simp [upd] at this ⊢
      omega
    · simpa [upd, e] using this
  | countExc c' classes =>
    obtain ⟨h1, h2, ⟨new, h3, h4, h5⟩, h6⟩ := h s
    simp only [wrapOne, excExit_eq]
    refine ⟨h1, fun c => ?_, ⟨new, by split <;> simp [h3], h4, fun m k => by simp [h5 m k, timeOn]⟩, fun g hg => ?_⟩
    · rw [h1]
      by_cases he : escapes classes o = true
      · by_cases hc : c = c'
        · subst hc; simp [he, upd, h2, escOn]; omega
        · have : ¬ c' = c := fun e => hc e.symm
          simp [he, upd, hc, this, h2, escOn]
      · simp [he, h2, escOn]
    · simp only [setsOn, Bool.false_or] at hg
      split <;> simp [h6 g hg]

theorem timeOn_cons (m k w ws) : timeOn m k (w :: ws) = timeOn m k [w] + timeOn m k ws := by
  cases w <;> simp [timeOn]
theorem escOn_cons (c o w ws) : escOn c o (w :: ws) = escOn c o [w] + escOn c o ws := by
  cases w <;> simp [escOn]
theorem setsOn_cons (g w ws) : setsOn g (w :: ws) = (setsOn g [w] || setsOn g ws) := by
  cases w with
  | time m k mode => cases k <;> simp [setsOn]
  | _ => simp [setsOn]

theorem wrapAll_sound {body o T E S} (ws : List Wrapper) (h : Sound body o T E S) :
    Sound (wrapAll ws body) o (fun m k => timeOn m k ws + T m k) (fun c => escOn c o ws + E c)
      (fun g => setsOn g ws || S g) := by
  induction ws with
  | nil => exact h.mono (by simp [timeOn]) (by simp [escOn]) (by simp [setsOn])
  | cons w ws ih =>
    refine (wrapOne_sound w ih).mono ?_ ?_ ?_
    · intro m k; rw [timeOn_cons m k w ws]; omega
    · intro c; rw [escOn_cons c o w ws]; omega
    · intro g; rw [setsOn_cons g w ws]; simp [Bool.or_assoc]

theorem seq_sound {f g o1 o2 T1 T2 E1 E2 S1 S2} (sw : Bool) (hf : Sound f o1 T1 E1 S1) (hg : Sound g o2 T2 E2 S2) :
    Sound (fun s => if continues (f s).1 sw then g (f s).2 else f s)
      (if continues o1 sw then o2 else o1)
      (fun m k => T1 m k + (if continues o1 sw then T2 m k else 0))
      (fun c => E1 c + (if continues o1 sw then E2 c else 0))
      (fun x => S1 x || S2 x) := by
  intro s
  simp only [(hf s).1]
  by_cases hc : continues o1 sw = true
  · simp only [hc, if_true]
    obtain ⟨-, h2, ⟨new, h3, h4, h5⟩, h6⟩ := hf s
    obtain ⟨k1, k2, ⟨new', k3, k4, k5⟩, k6⟩ := hg (f s).2
    refine ⟨k1, fun c => by rw [k2 c, h2 c]; omega,
      ⟨new' ++ new, by rw [k3, h3]; simp, List.forall_mem_append.mpr ⟨k4, h4⟩, ?_⟩, ?_⟩
    · intro m k
      rw [countObs_append, k5 m k, h5 m k, Nat.add_comm]
    · intro x hx
      simp only [Bool.or_eq_false_iff] at hx
      rw [k6 x hx.2, h6 x hx.1]
  · -- nothing of `g` runs
    simp only [hc, if_false, Bool.false_eq_true]
    exact hf.mono (fun _ _ => rfl) (fun _ => rfl) (fun x hx => (Bool.or_eq_false_iff.mp hx).1) s

theorem recN_sound (ws : List Wrapper) (o : Outcome) (n : Nat) :
    Sound (recN ws o n) o (fun m k => n * timeOn m k ws) (fun c => n * escOn c o ws) (fun g => decide (0 < n) && setsOn g ws) := by
  induction n with
  | zero => exact (sound_pure o).mono (by simp) (by simp) (by simp)
  | succ n ih =>
    refine (wrapAll_sound ws ih).mono ?_ ?_ ?_
    · intro m k; simp [Nat.succ_mul]; omega
    · intro c; simp [Nat.succ_mul]; omega
    · intro g; simp; intro h; simp [h]

mutual
  theorem call_sound : ∀ c : Call, Sound (execCall c) (outcomeCall c) (fun m k => timedCall m k c)
      (fun k => escCall k c) (fun g => setsCall g c)
    | .mk ws b => (wrapAll_sound ws (body_sound ws b)).weaken fun g hg => by
      simp only [setsCall, Bool.or_eq_false_iff] at hg ⊢
      exact ⟨hg.1, hg⟩
  /-- inside a body whose own stack is `ws`; a gauge set by `ws` is excluded only when the body recurses -/
  theorem body_sound : ∀ (ws : List Wrapper) (b : Body), Sound (execBody ws b) (outcomeBody b)
      (fun m k => timedBody m k ws b) (fun k => escBody k ws b) (fun g => setsOn g ws || setsBody g b)
    | _, .out o => (sound_pure o).weaken fun _ _ => rfl
    | _, .nest cs sw o => (seq_sound' cs sw o).weaken fun g hg => by
      simp only [setsBody, Bool.or_eq_false_iff] at hg
      exact hg.2
    | ws, .recurse n o => (recN_sound ws o n).weaken fun g hg => by
      simp only [setsBody, Bool.or_false] at hg
      simp [hg]
  theorem seq_sound' : ∀ (cs : Calls) (sw : Bool) (o : Outcome), Sound (execSeq cs sw o) (outcomeSeq cs sw o)
      (fun m k => timedSeq m k cs sw) (fun k => escSeq k cs sw) (fun g => setsSeq g cs)
    | .nil, _, o => (sound_pure o).weaken fun _ _ => rfl
    | .cons c cs, sw, o => seq_sound sw (call_sound c) (seq_sound' cs sw o)
end

end PromVerif.Lemmas.Wrappers
