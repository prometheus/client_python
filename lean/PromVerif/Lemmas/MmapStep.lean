/-
C10/C11: what one operation, and a whole history, does to a represented store.  `step` is `ensure` (which refines the
spec's `touch`) followed by a store or a load on a key that is then present; `step_ok` and `runFrom_ok` collect, for C10,
the refinement of the spec and, for C11, the chain of files the effects lead through and what each of them represents.
-/
import PromVerif.Lemmas.MmapCuts
namespace PromVerif.Lemmas.Mmap
open PromVerif.Py PromVerif.Model.MmapDict PromVerif.Generated.Mmap
open PromVerif.Spec.MmapDict (Store PrefixFrom)

def toSpec : Op → Spec.MmapDict.Op
  | .write k v t => .write k v t
  | .read k => .read k
  | .reopen => .reopen

def opKey? : Op → Option Key
  | .write k _ _ => some k
  | .read k => some k
  | .reopen => none

/-- bytes an operation adds, given the keys already stored -/
def opNeed (seen : List Key) (op : Op) : Nat :=
  match opKey? op with
  | some k => if k ∈ seen then 0 else entryLen k
  | none => 0

def opSeen (seen : List Key) (op : Op) : List Key :=
  match opKey? op with
  | some k => if k ∈ seen then seen else seen ++ [k]
  | none => seen

/-- bytes a history adds: one entry per distinct new key -/
def need : List Key → List Op → Nat
  | _, [] => 0
  | seen, op :: ops => opNeed seen op + need (opSeen seen op) ops

theorem keys_step (s : Store) (op : Op) : (Spec.MmapDict.step s (toSpec op)).map (·.1) = opSeen (s.map (·.1)) op := by
  cases op with
  | write k v t => exact keys_write s k v t
  | read k => exact keys_touch s k
  | reopen => rfl

theorem opSeen_nodup {seen : List Key} (h : seen.Nodup) (op : Op) : (opSeen seen op).Nodup := by
  unfold opSeen
  split
  · split
    · exact h
    · exact nodup_snoc h (by assumption)
  · exact h

theorem keys_run (ops : List Op) (s : Store) :
    (Spec.MmapDict.run s (ops.map toSpec)).map (·.1) = ops.foldl opSeen (s.map (·.1)) := by
  induction ops generalizing s with
  | nil => rfl
  | cons op ops ih => exact (ih _).trans (by rw [keys_step]; rfl)

theorem toSpec_key (op : Op) : (toSpec op).key? = opKey? op := by cases op <;> rfl

theorem need_append (a b : List Op) (seen : List Key) :
    need seen (a ++ b) = need seen a + need (a.foldl opSeen seen) b := by
  induction a generalizing seen with
  | nil => simp [need]
  | cons op a ih => simp [need, ih, Nat.add_assoc]

theorem readValue_present {d es1 e es2 tail} (h : Rep d (es1 ++ e :: es2) tail) (hk : e.key ∉ keys es1) :
    readValue d e.key = .ok ((e.v, e.t), d, []) := by
  unfold readValue
  rw [ensure_present h e.key (by simp)]
  simp [bind, Except.bind, loadValue_ok h hk]

/-- the entries after `ensure k`: an absent key is appended at (0, 0) -/
def touched (es : List Entry) (k : Key) : List Entry := if k ∈ keys es then es else es ++ [fresh k]

theorem triples_touched (es : List Entry) (k : Key) : triples (touched es k) = (triples es).touch k := by
  unfold touched Store.touch
  by_cases h : k ∈ keys es
  · rw [if_pos h, if_pos ((has_triples es k).mpr h)]
  · rw [if_neg h, if_neg (mt (has_triples es k).mp h), triples_append]
    rfl

theorem mem_keys_touched (es : List Entry) (k : Key) : k ∈ keys (touched es k) := by
  unfold touched
  by_cases h : k ∈ keys es <;> simp [h, fresh]

/-- `ensure` refines `touch`: nothing happens for a key that is present; an absent one is created by `_init_value`, whose
effects lead from the old entries to the old entries plus the new key -/
theorem ensure_ok {d es tail} (h : Rep d es tail) (k : Key) (hb : k ∉ keys es → d.used + entryLen k < 2147483648) :
    ∃ d1 tr1 tail1, ensure d k = .ok (d1, tr1) ∧ Rep d1 (touched es k) tail1 ∧ (ZeroTail tail → ZeroTail tail1) ∧
      d1.used = d.used + (if k ∈ keys es then 0 else entryLen k) ∧
      Mono d.file es tr1 d1.file (touched es k) ∧
      AllCuts d.file tr1 fun g => CutRep g es ∨ (k ∉ keys es ∧ CutRep g (es ++ [fresh k])) := by
  unfold touched
  by_cases hk : k ∈ keys es
  · simp only [if_pos hk]
    exact ⟨d, [], tail, ensure_present h k hk, h, id, rfl, Mono.nil h.cutRep, AllCuts.nil (Or.inl h.cutRep)⟩
  · simp only [if_neg hk]
    obtain ⟨caps, hpw, hneed, hiv⟩ := initValue_ok h k hk (hb hk)
    have hnew := afterInit_rep h k hk _ (hb hk) hneed (le_lastCap _ _ hpw)
    -- the file represents the old entries while it grows and when the entry is written but not yet published, and the
    -- old entries plus the new key once the header is written
    have hw : CutRep (sliceWrite (d.file ++ zeros (lastCap d.capacity caps - d.capacity)) d.used (encEntry (fresh k))) es :=
      ⟨_, _, h.file.write_entry (fresh k) _ (by have := h.cap_eq; show entryLen k ≤ _; omega), h.nodup⟩
    have h1 : applyEffects (some d.file) (caps.map Effect.truncate)
        = some (d.file ++ zeros (lastCap d.capacity caps - d.capacity)) := by
      rw [applyEffects_truncates, foldl_truncate_chain caps d.file d.capacity h.cap hpw]
    have hpre : AllCuts d.file (caps.map Effect.truncate ++ [.sliceWrite d.used (encEntry (fresh k))]) (CutRep · es) :=
      ((allCuts_truncates caps d.file d.capacity h.cap hpw).imp fun g hg =>
        let ⟨z, hz⟩ := hg; hz ▸ ⟨_, _, h.file.append_zeros z, h.nodup⟩).snoc h1 rfl hw
    have hmid : applyEffects (some d.file) (caps.map Effect.truncate ++ [.sliceWrite d.used (encEntry (fresh k))])
        = some (sliceWrite (d.file ++ zeros (lastCap d.capacity caps - d.capacity)) d.used (encEntry (fresh k))) := by
      rw [applyEffects_append, h1]; rfl
    exact ⟨_, _, _, (ensure_absent h k hk).trans hiv, hnew, fun hz => zeroTail_grow hz _ _, rfl,
      (Mono.const _ hpre hmid).append (Mono.cons hw rfl (Ext.snoc es _) (Mono.nil hnew.cutRep)),
      (hpre.imp fun _ => Or.inl).snoc hmid rfl (Or.inr ⟨hk, hnew.cutRep⟩)⟩

/-- everything about one operation on a represented store with room for the entry it may create: it succeeds, the result
is represented, it refines the spec step; its effects lead through files that represent the old entries, the old entries
plus the operation's new key at (0, 0), or the new entries, in this order -/
theorem step_ok {d es tail} (h : Rep d es tail) (op : Op) (initSize : Nat)
    (hf : d.used + opNeed (keys es) op < 2147483648) :
    ∃ d' tr es' tail', step initSize d op = .ok (d', tr) ∧ Rep d' es' tail' ∧ (ZeroTail tail → ZeroTail tail') ∧
      triples es' = Spec.MmapDict.step (triples es) (toSpec op) ∧ d'.used = d.used + opNeed (keys es) op ∧
      Mono d.file es tr d'.file es' ∧
      AllCuts d.file tr fun file =>
        CutRep file es ∨ CutRep file es' ∨ ∃ k, opKey? op = some k ∧ k ∉ keys es ∧ CutRep file (es ++ [fresh k]) := by
  cases op with
  | write k v t =>
    obtain ⟨d1, tr1, tail1, he, hr1, hz, hu, hm, hcl⟩ :=
      ensure_ok h k (fun hk => by simpa [opNeed, opKey?, hk] using hf)
    obtain ⟨a, e, b, hsplit, rfl, hn⟩ := split_first _ k (mem_keys_touched es k)
    rw [hsplit] at hr1 hm
    obtain ⟨q, hst, hr'⟩ := storeValue_ok hr1 hn v t
    refine ⟨_, tr1 ++ [.sliceWrite q (le64 v ++ le64 t)], a ++ ⟨e.key, v, t⟩ :: b, tail1, ?_, hr', hz, ?_, hu,
      hm.append (Mono.cons hr1.cutRep rfl (Ext.of_keys (by simp)) (Mono.nil hr'.cutRep)),
      (hcl.imp fun _ hg => hg.imp_right fun hc => Or.inr ⟨_, rfl, hc⟩).snoc hm.apply rfl (Or.inr (Or.inl hr'.cutRep))⟩
    · simp [step, writeValue, he, hst, bind, Except.bind]
    · rw [← write_triples_present a b e v t hn, ← hsplit, triples_touched]
      exact write_touch _ _ _ _
  | read k =>
    obtain ⟨d1, tr1, tail1, he, hr1, hz, hu, hm, hcl⟩ :=
      ensure_ok h k (fun hk => by simpa [opNeed, opKey?, hk] using hf)
    obtain ⟨r, hld⟩ : ∃ r, loadValue d1 k = .ok r := by
      obtain ⟨a, e, b, hsplit, rfl, hn⟩ := split_first _ k (mem_keys_touched es k)
      rw [hsplit] at hr1
      exact ⟨_, loadValue_ok hr1 hn⟩
    exact ⟨d1, tr1, touched es k, tail1, by simp [step, readValue, he, hld, bind, Except.bind], hr1, hz,
      triples_touched es k, hu, hm,
      hcl.imp fun _ hg => hg.imp_right fun hc => Or.inr ⟨_, rfl, hc⟩⟩
  | reopen =>
    exact ⟨d, [], es, tail, by simp [step, init_reopen h], h, id, rfl, rfl, Mono.nil h.cutRep,
      AllCuts.nil (Or.inl h.cutRep)⟩

theorem runFrom_ok (initSize : Nat) : ∀ (ops : List Op) {d es tail}, Rep d es tail →
    d.used + need (keys es) ops < 2147483648 →
    ∃ d' tr es' tail', runFrom initSize d ops = .ok (d', tr) ∧ Rep d' es' tail' ∧ (ZeroTail tail → ZeroTail tail') ∧
      triples es' = Spec.MmapDict.run (triples es) (ops.map toSpec) ∧ d'.used = d.used + need (keys es) ops ∧
      Mono d.file es tr d'.file es' ∧
      AllCuts d.file tr fun file => ∃ esx, CutRep file esx ∧ PrefixFrom (triples es) (ops.map toSpec) (triples esx) := by
  intro ops
  induction ops with
  | nil =>
    intro d es tail h _
    exact ⟨d, [], es, tail, rfl, h, id, rfl, rfl, Mono.nil h.cutRep, AllCuts.nil ⟨es, h.cutRep, prefixFrom_here _ _⟩⟩
  | cons op ops ih =>
    intro d es tail h hf
    simp only [need] at hf
    obtain ⟨d1, tr1, es1, tail1, hs1, hr1, hz1, ht1, hu1, hm1, hcuts1⟩ := step_ok h op initSize
      (Nat.lt_of_le_of_lt (Nat.add_le_add_left (Nat.le_add_right _ _) _) hf)
    have hk1 : keys es1 = opSeen (keys es) op := by rw [← triples_keys, ht1, keys_step, triples_keys]
    obtain ⟨d2, tr2, es2, tail2, hs2, hr2, hz2, ht2, hu2, hm2, hcuts2⟩ := ih hr1 (by rw [hk1, hu1, Nat.add_assoc]; exact hf)
    refine ⟨d2, tr1 ++ tr2, es2, tail2, by simp [runFrom, hs1, hs2, bind, Except.bind], hr2, fun hz => hz2 (hz1 hz),
      by rw [ht2, ht1]; rfl, by rw [hu2, hu1, hk1, need, Nat.add_assoc], hm1.append hm2,
      (hcuts1.imp ?_).append hm1.apply (hcuts2.imp ?_)⟩
    · -- inside the first operation: the state before it, the state after it, or the in-flight key
      rintro file (hc | hc | ⟨k, hk, hn, hc⟩)
      · exact ⟨es, hc, prefixFrom_here _ _⟩
      · exact ⟨es1, hc, prefixFrom_later _ _ _ _ (by rw [← ht1]; exact prefixFrom_here _ _)⟩
      · refine ⟨es ++ [fresh k], hc, ?_⟩
        simp only [triples_append, triples_cons, triples_nil, fresh]
        exact prefixFrom_inflight _ _ _ k (by rw [toSpec_key, hk]) (Bool.eq_false_iff.mpr (mt (has_triples es k).mp hn))
    · rintro file ⟨esx, hc, hp⟩
      exact ⟨esx, hc, prefixFrom_later _ _ _ _ (by rw [← ht1]; exact hp)⟩

theorem run_eq (initSize : Nat) (hi : 8 ≤ initSize) {ops : List Op} {d tr}
    (h : runFrom initSize (freshStore initSize) ops = .ok (d, tr)) :
    run initSize ops = .ok (d, .createEmpty :: .truncate initSize :: .sliceWrite 0 (le 4 8) :: tr) := by
  simp [run, init_fresh initSize hi, h, bind, Except.bind]

theorem runFrom_append (initSize : Nat) (a b : List Op) (d : MmapedDict) :
    runFrom initSize d (a ++ b) = (do
      let (d1, t1) ← runFrom initSize d a
      let (d2, t2) ← runFrom initSize d1 b
      .ok (d2, t1 ++ t2)) := by
  induction a generalizing d with
  | nil =>
    simp only [List.nil_append, runFrom, bind, Except.bind, List.nil_append]
    cases runFrom initSize d b <;> rfl
  | cons op a ih =>
    simp only [List.cons_append, runFrom, bind, Except.bind, ih]
    cases step initSize d op with
    | error e => rfl
    | ok r1 =>
      obtain ⟨d1, t1⟩ := r1
      simp only
      cases runFrom initSize d1 a with
      | error e => rfl
      | ok r2 =>
        obtain ⟨d2, t2⟩ := r2
        simp only
        cases runFrom initSize d2 b with
        | error e => rfl
        | ok r3 => simp [List.append_assoc]

end PromVerif.Lemmas.Mmap
