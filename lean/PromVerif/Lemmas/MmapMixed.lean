/-
C11: a reader whose two `read()` calls see the file at two different moments.  Splicing the first `p` bytes of one
encoding with the rest of another encoding of the same keys gives an encoding of those keys again; with 8-aligned `p`
every value and every timestamp comes whole from one of the two.
-/
import PromVerif.Lemmas.MmapCuts
namespace PromVerif.Lemmas.Mmap
open PromVerif.Py PromVerif.Model.MmapDict PromVerif.Generated.Mmap

/-- `e` has its key with its value, and its key with its timestamp, in `as` or in `bs` -/
def Src (as bs : List Entry) (e : Entry) : Prop :=
  (∃ x, (x ∈ as ∨ x ∈ bs) ∧ x.key = e.key ∧ x.v = e.v) ∧ (∃ y, (y ∈ as ∨ y ∈ bs) ∧ y.key = e.key ∧ y.t = e.t)

theorem Src.of_mem {as bs e} (h : e ∈ as ∨ e ∈ bs) : Src as bs e := ⟨⟨e, h, rfl, rfl⟩, ⟨e, h, rfl, rfl⟩⟩

theorem Src.mono {as bs e as' bs'} (h : Src as bs e) (ha : ∀ x ∈ as, x ∈ as') (hb : ∀ x ∈ bs, x ∈ bs') : Src as' bs' e :=
  h.imp (Exists.imp fun x hx => ⟨hx.1.imp (ha x) (hb x), hx.2⟩) (Exists.imp fun y hy => ⟨hy.1.imp (ha y) (hb y), hy.2⟩)

theorem splice_entry (a b : Entry) (hk : b.key = a.key) (p : Nat) (hp : p % 8 = 0) :
    ∃ e, e.key = a.key ∧ Src [a] [b] e ∧ (encEntry a).take p ++ (encEntry b).drop p = encEntry e := by
  -- both the key part and `p` are multiples of 8: the cut falls before, between or after the two doubles
  have hcases : p ≤ (entryHead a.key).length ∨ p = (entryHead a.key).length + 8 ∨ (entryHead a.key).length + 16 ≤ p := by
    have hl := entryHead_length a.key
    have hm := entryLen_mod a.key
    omega
  simp only [encEntry_eq, hk]
  rcases hcases with h1 | rfl | h3
  · refine ⟨b, hk, Src.of_mem (Or.inr List.mem_cons_self), ?_⟩
    rw [hk, List.take_append_of_le_length h1, List.drop_append_of_le_length h1, ← List.append_assoc, List.take_append_drop]
  · refine ⟨⟨a.key, a.v, b.t⟩, rfl, ⟨⟨a, Or.inl List.mem_cons_self, rfl, rfl⟩, ⟨b, Or.inr List.mem_cons_self, hk, rfl⟩⟩, ?_⟩
    rw [List.take_append, List.drop_append, List.take_of_length_le (Nat.le_add_right _ _),
      List.drop_of_length_le (Nat.le_add_right _ _), Nat.add_sub_cancel_left, List.take_left' (le64_length a.v),
      List.drop_left' (le64_length b.v), List.nil_append, List.append_assoc]
  · refine ⟨a, rfl, Src.of_mem (Or.inl List.mem_cons_self), ?_⟩
    rw [List.take_of_length_le (by simpa using h3), List.drop_of_length_le (by simpa using h3), List.append_nil]

theorem splice_entries : ∀ (as bs : List Entry) (p : Nat), keys as = keys bs → p % 8 = 0 →
    ∃ es, keys es = keys as ∧ (∀ e ∈ es, Src as bs e) ∧ (encEntries as).take p ++ (encEntries bs).drop p = encEntries es := by
  intro as
  induction as with
  | nil =>
    intro bs p h _
    cases bs with
    | nil =>
      exact ⟨[], rfl, fun _ he => (nomatch he), by simp⟩
    | cons b bs => simp at h
  | cons a as ih =>
    intro bs p h hp
    cases bs with
    | nil => simp at h
    | cons b bs =>
      simp only [keys_cons, List.cons.injEq] at h
      have hla : (encEntry a).length = entryLen a.key := encEntry_length a
      have hlb : (encEntry b).length = entryLen a.key := by rw [encEntry_length, h.1]
      simp only [encEntries_cons]
      by_cases hc : entryLen a.key ≤ p
      · -- the cut is behind the first entry: it comes from the first list
        obtain ⟨es, hk, hfrom, heq⟩ := ih bs (p - entryLen a.key) h.2
          (Nat.sub_mod_eq_zero_of_mod_eq (hp.trans (entryLen_mod a.key).symm))
        refine ⟨a :: es, by rw [keys_cons, hk, keys_cons], List.forall_mem_cons.mpr ⟨Src.of_mem (Or.inl List.mem_cons_self),
          fun e he => (hfrom e he).mono (fun _ => List.mem_cons_of_mem _) (fun _ => List.mem_cons_of_mem _)⟩, ?_⟩
        rw [List.take_append, List.drop_append, List.take_of_length_le (hla ▸ hc), List.drop_of_length_le (hlb ▸ hc),
            hla, hlb, List.nil_append, List.append_assoc, heq, encEntries_cons]
      · -- the cut is inside the first entry: a splice of the two first entries, then the second list
        obtain ⟨e, hek, hsrc, heq⟩ := splice_entry a b h.1.symm p hp
        refine ⟨e :: bs, by rw [keys_cons, keys_cons, hek, h.2], List.forall_mem_cons.mpr ⟨hsrc.mono (by simp) (by simp),
          fun e he => Src.of_mem (Or.inr (List.mem_cons_of_mem _ he))⟩, ?_⟩
        rw [List.take_append_of_le_length (hla ▸ Nat.le_of_not_le hc),
          List.drop_append_of_le_length (hlb ▸ Nat.le_of_not_le hc), ← List.append_assoc, heq, encEntries_cons]

theorem FileRep.take_inside {file used es tail} (h : FileRep file used es tail) (p : Nat) (h8 : 8 ≤ p) (hp : p ≤ used) :
    file.take p = hdr used ++ (encEntries es).take (p - 8) := by
  have hu := h.used_eq
  rw [h.file_eq, List.take_append, hdr_length, List.take_of_length_le (by rw [hdr_length]; exact h8),
    List.take_append_of_le_length (by omega)]

theorem FileRep.drop_take {file used a b tail} (h : FileRep file used (a ++ b) tail) (p : Nat) (h8 : 8 ≤ p)
    (hp : p ≤ 8 + (encEntries a).length) :
    (file.drop p).take (8 + (encEntries a).length - p) = (encEntries a).drop (p - 8) := by
  rw [h.file_eq, List.drop_append, hdr_length, List.drop_of_length_le (by rw [hdr_length]; exact h8), List.nil_append,
    encEntries_append, List.append_assoc, List.drop_append_of_le_length (Nat.sub_le_of_le_add (Nat.add_comm 8 _ ▸ hp)),
    List.take_left' (by rw [List.length_drop]; omega)]

/-- THE TWO-SNAPSHOT READ.  First block (and header) from a file representing `es1`, the rest from a file representing an
extension `es2` of it (8-aligned page size): the reader succeeds and returns exactly the keys of `es1` — the entries the
header it read covers, never an unpublished one — each with a value and a timestamp that one of the two snapshots holds
for that key (for the one entry that crosses the page boundary they may come from different snapshots). -/
theorem two_snapshot_read {f1 f2 : Bytes} {u1 u2 : Nat} {es1 es2 : List Entry} {tl1 tl2 : Bytes} (page : Nat)
    (h1 : FileRep f1 u1 es1 tl1) (h2 : FileRep f2 u2 es2 tl2) (hext : Ext es1 es2) (hp8 : 8 ≤ page) (hpm : page % 8 = 0) :
    ∃ esM, readAllValuesFromFile2 page f1 f2 = .ok (scanOut 8 esM) ∧ keys esM = keys es1 ∧ ∀ e ∈ esM, Src es1 es2 e := by
  obtain ⟨a, b, rfl, hk⟩ := hext
  have hu : u1 = 8 + (encEntries a).length := by rw [encEntries_length_congr _ _ hk]; exact h1.used_eq
  rw [h1.fromFile2_eq page (Nat.le_trans (by decide) hp8)]
  by_cases hc : page < u1
  · -- the entries do not fit into the first block: the rest comes from the second snapshot
    obtain ⟨esM, hkM, hfrom, hsp⟩ :=
      splice_entries es1 a (page - 8) hk.symm (Nat.sub_mod_eq_zero_of_mod_eq (hpm.trans (by decide)))
    have e2 : (f2.drop page).take (u1 - page) = (encEntries a).drop (page - 8) := by
      rw [hu]; exact h2.drop_take page hp8 (hu ▸ Nat.le_of_lt hc)
    have hrep : FileRep (f1.take page ++ (f2.drop page).take (u1 - page)) u1 esM [] :=
      ⟨by rw [h1.take_inside page hp8 (Nat.le_of_lt hc), e2, List.append_assoc, hsp, List.append_nil],
       by rw [hu, encEntries_length_congr esM a (hkM.trans hk.symm)], h1.used_lt⟩
    rw [if_pos hc]
    exact ⟨esM, hrep.raw_ok, hkM, fun e he => (hfrom e he).mono (fun _ => id) (fun _ => List.mem_append_left b)⟩
  · -- everything the header covers is in the first block: one snapshot
    rw [if_neg hc]
    exact ⟨es1, (h1.take page (Nat.le_of_not_lt hc)).raw_ok, rfl, fun e he => Src.of_mem (Or.inl he)⟩

end PromVerif.Lemmas.Mmap
