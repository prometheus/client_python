/-
Any number of concurrent writers under an arbitrary schedule (C18): an invariant over the shared file-system state,
preserved by every step of every writer, proved by induction on the schedule.

Per writer `j` the invariant says, about the effects it has still to execute (`rem j`) and its private view (the content
of its own temporary file + its handle state):
  * they name only its own temporary path (or are `rename tmp_j target`)                         — `priv`
  * every completed rename among them will find the complete exposition `new_j` in the temporary  — `ready`
  * executing them from the present private view ends in the view `fin_j` fixed at the start      — `fin`
  * they are a suffix of the effect list `run_j` it started with                                  — `suf`
Distinct temporary names (field `d`) are what makes a step of writer `i` invisible in the private view of every `j ≠ i`.
-/
import PromVerif.Lemmas.TextfileRun

namespace PromVerif.Model.Textfile
open PromVerif.Generated.Textfile

structure WData where
  tmp : Path
  new : Content
  fin : View
  run : List Step

def remOf (c : CfgN) (j : Nat) : List Step := (c.rem[j]?).getD []
def locOf (c : CfgN) (j : Nat) : Local := (c.locs[j]?).getD {}
def viewOf (c : CfgN) (t : Path) (j : Nat) : View := view t ⟨c.fs, locOf c j⟩

structure DistinctN (T : Path) (ds : List WData) : Prop where
  ne_target : ∀ j (h : j < ds.length), ds[j].tmp ≠ T
  pairwise : ∀ i j (hi : i < ds.length) (hj : j < ds.length), i ≠ j → ds[i].tmp ≠ ds[j].tmp

theorem getElem_ne_of_pairwise {α β : Type} (f : α → β) {l : List α} (hd : l.Pairwise fun a b => f a ≠ f b)
    (i j : Nat) (hi : i < l.length) (hj : j < l.length) (e : i ≠ j) : f l[i] ≠ f l[j] := by
  rcases Nat.lt_or_gt_of_ne e with h | h
  · exact List.pairwise_iff_getElem.mp hd i j hi hj h
  · exact fun x => List.pairwise_iff_getElem.mp hd j i hj hi h x.symm

/-- what the invariant says of one writer: `rem` are the effects it has still to execute, `v` is its private view -/
structure WInv (T : Path) (d : WData) (rem : List Step) (v : View) : Prop where
  priv : AllPrivate d.tmp T rem
  ready : Ready d.new rem v
  fin : execV rem v = d.fin
  suf : rem <:+ d.run

/-- a writer about to execute `xs` from the private view `v` -/
theorem WInv.start {T tmp : Path} {new : Content} {xs : List Step} {v : View} (hp : AllPrivate tmp T xs)
    (hr : Ready new xs v) : WInv T ⟨tmp, new, execV xs v, xs⟩ xs v :=
  ⟨hp, hr, rfl, List.suffix_refl _⟩

theorem WInv.tail {T : Path} {d : WData} {s : Step} {r : List Step} {v : View} (h : WInv T d (s :: r) v) :
    WInv T d r (stepV s v) :=
  ⟨h.priv.tail, h.ready.2, h.fin, (List.suffix_cons s r).trans h.suf⟩

structure InvN (T : Path) (ds : List WData) (c : CfgN) : Prop where
  d : DistinctN T ds
  hl : c.locs.length = ds.length
  hr : c.rem.length = ds.length
  w : ∀ j (h : j < ds.length), WInv T ds[j] (remOf c j) (viewOf c ds[j].tmp j)

theorem stepN_of_nil {i : Nat} {c : CfgN} (h : remOf c i = []) : stepN i c = c := by
  unfold stepN
  cases hr : c.rem[i]? with
  | none => rfl
  | some q =>
    have : q = [] := by simpa [remOf, hr] using h
    subst this
    rfl

theorem lt_of_remOf_cons {i : Nat} {c : CfgN} {s : Step} {r : List Step} (h : remOf c i = s :: r) :
    i < c.rem.length := by
  rcases Nat.lt_or_ge i c.rem.length with h' | h'
  · exact h'
  · simp [remOf, List.getElem?_eq_none h'] at h

theorem stepN_of_cons {i : Nat} {c : CfgN} {s : Step} {r : List Step} (h : remOf c i = s :: r)
    (hl : i < c.locs.length) :
    (stepN i c).fs = (applyStep s ⟨c.fs, locOf c i⟩).fs ∧
    (stepN i c).locs.length = c.locs.length ∧ (stepN i c).rem.length = c.rem.length ∧
    (∀ j, remOf (stepN i c) j = if i = j then r else remOf c j) ∧
    (∀ j, locOf (stepN i c) j = if i = j then (applyStep s ⟨c.fs, locOf c i⟩).loc else locOf c j) := by
  have hr := lt_of_remOf_cons h
  have hq : c.rem[i]? = some (s :: r) := by simpa [remOf, List.getElem?_eq_getElem hr] using h
  have e : stepN i c = ⟨(applyStep s ⟨c.fs, locOf c i⟩).fs, c.locs.set i (applyStep s ⟨c.fs, locOf c i⟩).loc,
      c.rem.set i r⟩ := by
    simp [stepN, hq, locOf, List.getElem?_eq_getElem hl]
  rw [e]
  refine ⟨rfl, by simp, by simp, fun j => ?_, fun j => ?_⟩
  · by_cases e : i = j
    · subst e; simp [remOf, hr]
    · simp [remOf, e]
  · by_cases e : i = j
    · subst e; simp [locOf, hl]
    · simp [locOf, e]

theorem InvN.target_stepN {T : Path} {ds : List WData} {c : CfgN} (inv : InvN T ds c) {i : Nat}
    (hi : i < ds.length) {s : Step} {r : List Step} (hrem : remOf c i = s :: r) :
    (stepN i c).fs.get T =
      (if isRen s = true then (match c.fs.get ds[i].tmp with | some x => some x | none => c.fs.get T)
       else c.fs.get T) := by
  have hp := (inv.w i hi).priv
  rw [hrem] at hp
  rw [(stepN_of_cons hrem (inv.hl ▸ hi)).1]
  exact target_step (inv.d.ne_target i hi) s ⟨c.fs, locOf c i⟩ hp.head

theorem InvN.step_noRen {T : Path} {ds : List WData} {c : CfgN} (inv : InvN T ds c) (i : Nat)
    (hn : ∀ s ∈ remOf c i, isRen s = false) : (stepN i c).fs.get T = c.fs.get T := by
  cases hrem : remOf c i with
  | nil => rw [stepN_of_nil hrem]
  | cons s r =>
    have hi : i < ds.length := inv.hr ▸ lt_of_remOf_cons hrem
    have hs : isRen s = false := hn s (by rw [hrem]; exact List.mem_cons_self)
    rw [inv.target_stepN hi hrem, hs]
    rfl

theorem InvN.step_ren {T : Path} {ds : List WData} {c : CfgN} (inv : InvN T ds c) (i : Nat)
    (hi : i < ds.length) {s : Step} {r : List Step} (hrem : remOf c i = s :: r) (hs : isRen s = true) :
    (stepN i c).fs.get T = some ds[i].new := by
  have hrd := (inv.w i hi).ready
  rw [hrem] at hrd
  have hf : c.fs.get ds[i].tmp = some ds[i].new := hrd.1 hs
  rw [inv.target_stepN hi hrem, if_pos hs, hf]

theorem InvN.step {T : Path} {ds : List WData} {c : CfgN} (inv : InvN T ds c) (i : Nat) :
    InvN T ds (stepN i c) ∧
      (((stepN i c).fs.get T = c.fs.get T ∧ ∀ j, (remOf (stepN i c) j).countP isRen = (remOf c j).countP isRen) ∨
        ∃ h : i < ds.length, (stepN i c).fs.get T = some ds[i].new) := by
  cases hrem : remOf c i with
  | nil => rw [stepN_of_nil hrem]; exact ⟨inv, Or.inl ⟨rfl, fun _ => rfl⟩⟩
  | cons s r =>
    have hi : i < ds.length := inv.hr ▸ lt_of_remOf_cons hrem
    have hil : i < c.locs.length := inv.hl ▸ hi
    have hw := inv.w i hi
    rw [hrem] at hw
    have hp := hw.priv
    have hne := inv.d.ne_target i hi
    obtain ⟨hfs, hll, hrl, hremS, hlocS⟩ := stepN_of_cons hrem hil
    -- the stepping writer's view moves by `stepV`, everybody else's stays
    have viewSelf : viewOf (stepN i c) ds[i].tmp i = stepV s (viewOf c ds[i].tmp i) := by
      rw [viewOf, hfs, hlocS, if_pos rfl]
      exact view_step hne s ⟨c.fs, locOf c i⟩ hp.head
    have viewOther : ∀ j (hj : j < ds.length), i ≠ j → viewOf (stepN i c) ds[j].tmp j = viewOf c ds[j].tmp j := by
      intro j hj e
      rw [viewOf, hfs, hlocS, if_neg e, view, frame_step (q := ds[j].tmp) s ⟨c.fs, locOf c i⟩ hp.head
        (inv.d.pairwise i j hi hj e) (fun x => inv.d.ne_target j hj x.symm)]
      rfl
    refine ⟨⟨inv.d, hll.trans inv.hl, hrl.trans inv.hr, fun j hj => ?_⟩, ?_⟩
    · rw [hremS]
      split
      · next e => subst e; rw [viewSelf]; exact hw.tail
      · next e => rw [viewOther j hj e]; exact inv.w j hj
    · by_cases hs : isRen s = true
      · exact Or.inr ⟨hi, inv.step_ren i hi hrem hs⟩
      · refine Or.inl ⟨by rw [inv.target_stepN hi hrem, if_neg hs], fun j => ?_⟩
        rw [hremS]
        split
        · next e => subst e; rw [hrem, List.countP_cons_of_neg hs]
        · rfl

@[simp] theorem runSched_nil (c : CfgN) : runSched [] c = c := rfl
@[simp] theorem runSched_cons (i : Nat) (sch : List Nat) (c : CfgN) : runSched (i :: sch) c = runSched sch (stepN i c) := rfl
theorem runSched_append (a b : List Nat) (c : CfgN) : runSched (a ++ b) c = runSched b (runSched a c) :=
  List.foldl_append

/-- the `countP isRen` clause: no writer has got past a completed rename -/
theorem InvN.run {T : Path} {ds : List WData} : ∀ (sch : List Nat) {c : CfgN}, InvN T ds c →
    InvN T ds (runSched sch c) ∧
      (((runSched sch c).fs.get T = c.fs.get T ∧
          ∀ j, (remOf (runSched sch c) j).countP isRen = (remOf c j).countP isRen) ∨
        ∃ (i : Nat) (h : i < ds.length), (runSched sch c).fs.get T = some ds[i].new) := by
  intro sch
  induction sch with
  | nil => intro c inv; exact ⟨inv, Or.inl ⟨rfl, fun _ => rfl⟩⟩
  | cons i sch ih =>
    intro c inv
    obtain ⟨inv1, t1⟩ := inv.step i
    obtain ⟨inv2, t2⟩ := ih inv1
    refine ⟨inv2, ?_⟩
    rw [runSched_cons]
    rcases t2 with ⟨t2, k2⟩ | ⟨k, hk, t2⟩
    · rcases t1 with ⟨t1, k1⟩ | ⟨hi, t1⟩
      · exact Or.inl ⟨t2.trans t1, fun j => (k2 j).trans (k1 j)⟩
      · exact Or.inr ⟨i, hi, t2.trans t1⟩
    · exact Or.inr ⟨k, hk, t2⟩

/-- who moves, as a writer index -/
def whoIdx (z : Bool × Step) : Nat := if z.1 then 0 else 1

theorem exec2_as_schedule {xs ys : List Step} {zs : List (Bool × Step)} (hi : Interleave xs ys zs) :
    ∀ (m : Nat) (c : Cfg2), ∃ xb yb,
      runSched ((zs.take m).map whoIdx) ⟨c.fs, [c.l1, c.l2], [xs, ys]⟩ =
        ⟨(exec2 (zs.take m) c).fs, [(exec2 (zs.take m) c).l1, (exec2 (zs.take m) c).l2], [xb, yb]⟩ ∧
      (zs.length ≤ m → xb = [] ∧ yb = []) := by
  induction hi with
  | nil => intro m c; exact ⟨[], [], by rw [List.take_nil]; rfl, fun _ => ⟨rfl, rfl⟩⟩
  | @left x xs ys zs _ ih =>
    intro m c
    cases m with
    | zero => exact ⟨x :: xs, ys, rfl, fun h => absurd h (Nat.not_succ_le_zero _)⟩
    | succ m =>
      obtain ⟨xb, yb, h, hl⟩ := ih m (apply2 (true, x) c)
      refine ⟨xb, yb, ?_, fun hm => hl (Nat.le_of_succ_le_succ hm)⟩
      rw [List.take_succ_cons, List.map_cons, runSched_cons, exec2_cons, ← h]
      rfl
  | @right y xs ys zs _ ih =>
    intro m c
    cases m with
    | zero => exact ⟨xs, y :: ys, rfl, fun h => absurd h (Nat.not_succ_le_zero _)⟩
    | succ m =>
      obtain ⟨xb, yb, h, hl⟩ := ih m (apply2 (false, y) c)
      refine ⟨xb, yb, ?_, fun hm => hl (Nat.le_of_succ_le_succ hm)⟩
      rw [List.take_succ_cons, List.map_cons, runSched_cons, exec2_cons, ← h]
      rfl

/-! Calls of `write_to_textfile` on one target, each with its own temporary name, each fault-free or with one fault, as
instances of the invariant. -/

/-- what makes the writers independent: one target, and temporary names that differ from it and from each other
(`tmp_names_distinct`: the names are injective in (pid, thread ident)) -/
structure Independent (T : Path) (ws : List Writer) : Prop where
  same_target : ∀ i (h : i < ws.length), ws[i].1.target = T
  tmp_ne_target : ∀ i (h : i < ws.length), ws[i].1.tmp ≠ T
  tmp_distinct : ∀ i j (hi : i < ws.length) (hj : j < ws.length), i ≠ j → ws[i].1.tmp ≠ ws[j].1.tmp

theorem Independent.of_pairwise {T : Path} {ws : List Writer} (ht : ∀ w ∈ ws, w.1.target = T ∧ w.1.tmp ≠ T)
    (hd : ws.Pairwise fun a b => a.1.tmp ≠ b.1.tmp) : Independent T ws :=
  ⟨fun _ h => (ht _ (List.getElem_mem h)).1, fun _ h => (ht _ (List.getElem_mem h)).2,
    getElem_ne_of_pairwise (fun w : Writer => w.1.tmp) hd⟩

def dataOf (fs0 : Fs) (ws : List Writer) : List WData :=
  ws.map fun w => ⟨w.1.tmp, w.1.new, execV (runOf w) ⟨fs0.get w.1.tmp, {}⟩, runOf w⟩

@[simp] theorem dataOf_length (fs0 : Fs) (ws : List Writer) : (dataOf fs0 ws).length = ws.length := by simp [dataOf]

theorem dataOf_get (fs0 : Fs) (ws : List Writer) (j : Nat) (h : j < ws.length) :
    (dataOf fs0 ws)[j]'(by simp [h]) =
      ⟨ws[j].1.tmp, ws[j].1.new, execV (runOf ws[j]) ⟨fs0.get ws[j].1.tmp, {}⟩, runOf ws[j]⟩ := by
  simp [dataOf]

theorem Independent.distinctN {T : Path} {ws : List Writer} (ind : Independent T ws) (fs0 : Fs) :
    DistinctN T (dataOf fs0 ws) := by
  constructor
  · intro j h
    rw [dataOf_get fs0 ws j (by simpa using h)]
    exact ind.tmp_ne_target j _
  · intro i j hi hj e
    rw [dataOf_get fs0 ws i (by simpa using hi), dataOf_get fs0 ws j (by simpa using hj)]
    exact ind.tmp_distinct i j _ _ e

theorem initN_rem (fs0 : Fs) (ws : List Writer) (j : Nat) (h : j < ws.length) : remOf (initN fs0 ws) j = runOf ws[j] := by
  simp [remOf, initN, h]

theorem initN_loc (fs0 : Fs) (ws : List Writer) (j : Nat) (h : j < ws.length) : locOf (initN fs0 ws) j = {} := by
  simp [locOf, initN, h]

theorem initN_inv {T : Path} {ws : List Writer} (ind : Independent T ws) (fs0 : Fs) :
    InvN T (dataOf fs0 ws) (initN fs0 ws) := by
  refine ⟨ind.distinctN fs0, by simp [initN], by simp [initN], fun j h => ?_⟩
  have hj : j < ws.length := by simpa using h
  have hv : viewOf (initN fs0 ws) ws[j].1.tmp j = ⟨fs0.get ws[j].1.tmp, {}⟩ := by
    simp only [viewOf, view, initN_loc fs0 ws j hj]; rfl
  rw [dataOf_get fs0 ws j hj, initN_rem fs0 ws j hj, hv]
  exact .start (ind.same_target j hj ▸ faultedRun_private ws[j].1 ws[j].2) (faultedRun_ready _ _ _)

/-! Two writers are two of any number: an `Interleave`-ing of two effect lists, run by `exec2` from any two-writer
configuration, is — prefix by prefix — a schedule of the two-writer instance of the machine above (`exec2_as_schedule`),
whose invariant `InvN.pair` assembles from what is known of each writer. -/

theorem forall_lt_two {P : (j : Nat) → j < 2 → Prop} (h0 : P 0 (by decide)) (h1 : P 1 (by decide)) : ∀ j h, P j h
  | 0, _ => h0
  | 1, _ => h1

theorem InvN.pair {T : Path} {a b : WData} {fs : Fs} {la lb : Local} {xs ys : List Step}
    (ha : a.tmp ≠ T) (hb : b.tmp ≠ T) (hab : a.tmp ≠ b.tmp)
    (wa : WInv T a xs (view a.tmp ⟨fs, la⟩)) (wb : WInv T b ys (view b.tmp ⟨fs, lb⟩)) :
    InvN T [a, b] ⟨fs, [la, lb], [xs, ys]⟩ :=
  ⟨⟨forall_lt_two ha hb, getElem_ne_of_pairwise WData.tmp (List.pairwise_pair.mpr hab)⟩, rfl, rfl, forall_lt_two wa wb⟩

theorem target_prefix2 {T : Path} {a b : WData} {xs ys : List Step} {zs : List (Bool × Step)}
    (hi : Interleave xs ys zs) (c : Cfg2) (inv : InvN T [a, b] ⟨c.fs, [c.l1, c.l2], [xs, ys]⟩) (m : Nat) :
    (exec2 (zs.take m) c).fs.get T = c.fs.get T ∨ (exec2 (zs.take m) c).fs.get T = some a.new ∨
      (exec2 (zs.take m) c).fs.get T = some b.new := by
  obtain ⟨xb, yb, hb, _⟩ := exec2_as_schedule hi m c
  obtain ⟨_, h⟩ := InvN.run ((zs.take m).map whoIdx) inv
  rw [hb] at h
  rcases h with h | ⟨i, hi, h⟩
  · exact Or.inl h.1
  · match i, hi with
    | 0, _ => exact Or.inr (Or.inl h)
    | 1, _ => exact Or.inr (Or.inr h)

theorem exec2_final {T : Path} {a b : WData} {xs ys : List Step} {zs : List (Bool × Step)}
    (hi : Interleave xs ys zs) (c : Cfg2) (inv : InvN T [a, b] ⟨c.fs, [c.l1, c.l2], [xs, ys]⟩) :
    (exec2 zs c).fs.get a.tmp = a.fin.file ∧ (exec2 zs c).fs.get b.tmp = b.fin.file ∧
    (xs.countP isRen ≠ 0 → (exec2 zs c).fs.get T = some a.new ∨ (exec2 zs c).fs.get T = some b.new) := by
  obtain ⟨inv', h⟩ := InvN.run (zs.map whoIdx) inv
  obtain ⟨xb, yb, hb, hnil⟩ := exec2_as_schedule hi zs.length c
  obtain ⟨rfl, rfl⟩ := hnil (Nat.le_refl _)
  rw [List.take_length] at hb
  rw [hb] at inv' h
  refine ⟨congrArg View.file (inv'.w 0 Nat.zero_lt_two).fin, congrArg View.file (inv'.w 1 Nat.one_lt_two).fin,
    fun hren => ?_⟩
  rcases h with ⟨_, k⟩ | ⟨i, hi, h⟩
  · exact absurd (k 0).symm hren
  · match i, hi with
    | 0, _ => exact Or.inl h
    | 1, _ => exact Or.inr h

end PromVerif.Model.Textfile
