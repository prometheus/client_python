/-
C10/C11: the capacity doubling loop (unbounded: zero, one or several doublings) with its chain of zero-extending
truncates, and the in-memory index (`_positions`): what a scan builds, lookups, insertion of a fresh key, rebuild on reopen.
-/
import PromVerif.Lemmas.MmapFile
namespace PromVerif.Lemmas.Mmap
open PromVerif.Py PromVerif.Model.MmapDict PromVerif.Generated.Mmap

/-- the capacity after a chain of truncates -/
def lastCap : Nat → List Nat → Nat
  | c, [] => c
  | _, c :: cs => lastCap c cs

theorem le_lastCap : ∀ (cs : List Nat) (c : Nat), List.Pairwise (· ≤ ·) (c :: cs) → c ≤ lastCap c cs := by
  intro cs
  induction cs with
  | nil => intro c _; simp [lastCap]
  | cons c' cs ih =>
    intro c hp
    rw [List.pairwise_cons] at hp
    exact Nat.le_trans (hp.1 c' (by simp)) (ih c' hp.2)

/-- the loop terminates within `fuel = need` iterations from any capacity ≥ 1, returns an increasing chain of capacities
and ends with room for `need` bytes: zero, one or several doublings -/
theorem growCaps_ok : ∀ (fuel cap need : Nat), 1 ≤ cap → need ≤ fuel + cap →
    ∃ caps, growCaps fuel cap need = .ok caps ∧ List.Pairwise (· ≤ ·) (cap :: caps) ∧ need ≤ lastCap cap caps := by
  intro fuel
  induction fuel with
  | zero =>
    intro cap need h1 h2
    exact ⟨[], by simp [growCaps]; omega, by simp, by simp [lastCap]; omega⟩
  | succ fuel ih =>
    intro cap need h1 h2
    by_cases hn : need > cap
    · -- doubling a capacity ≥ 1 makes progress, and the remaining fuel still covers the demand
      have har : 1 ≤ growFactor * cap ∧ need ≤ fuel + growFactor * cap ∧ ¬ (growFactor * cap ≤ cap) ∧
          cap ≤ growFactor * cap := by
        rw [show growFactor * cap = 2 * cap from rfl]; omega
      obtain ⟨caps, hc, hp, hl⟩ := ih (growFactor * cap) need har.1 har.2.1
      refine ⟨growFactor * cap :: caps, by simp [growCaps, hn, har.2.2.1, hc, bind, Except.bind],
        List.pairwise_cons.mpr ⟨fun c hcm => ?_, hp⟩, by simpa [lastCap] using hl⟩
      rcases List.mem_cons.mp hcm with rfl | hcm
      · exact har.2.2.2
      · exact Nat.le_trans har.2.2.2 ((List.pairwise_cons.mp hp).1 c hcm)
    · exact ⟨[], by simp [growCaps, hn], by simp, by simp [lastCap]; omega⟩

theorem foldl_truncate_chain : ∀ (cs : List Nat) (f : Bytes) (c0 : Nat), c0 = f.length → List.Pairwise (· ≤ ·) (c0 :: cs) →
    cs.foldl truncate f = f ++ zeros (lastCap c0 cs - c0) := by
  intro cs
  induction cs with
  | nil => intro f c0 _ _; simp [zeros, lastCap]
  | cons c cs ih =>
    intro f c0 h0 hp
    subst h0
    rw [List.pairwise_cons] at hp
    have hc : f.length ≤ c := hp.1 c (by simp)
    have hlen : c = (truncate f c).length := by
      rw [truncate_ge f c hc, List.length_append, zeros_length, Nat.add_sub_of_le hc]
    rw [List.foldl_cons, ih (truncate f c) c hlen hp.2, truncate_ge f c hc, List.append_assoc,
      zeros_append, lastCap, Nat.add_comm, Nat.sub_add_sub_cancel (le_lastCap cs c hp.2) hc]

theorem foldl_Fx_truncate (cs : List Nat) (s : Fx) :
    cs.foldl Fx.truncate s = ⟨cs.foldl truncate s.file, lastCap s.cap cs, s.trace ++ cs.map Effect.truncate⟩ := by
  induction cs generalizing s with
  | nil => simp [lastCap]
  | cons c cs ih => simp [ih, Fx.truncate, lastCap]

theorem applyEffects_truncates (cs : List Nat) (f : Bytes) :
    applyEffects (some f) (cs.map Effect.truncate) = some (cs.foldl truncate f) := by
  induction cs generalizing f with
  | nil => simp [applyEffects]
  | cons c cs ih =>
    simp only [List.map_cons, applyEffects, List.foldl_cons, applyEffect, Option.map_some] at ih ⊢
    exact ih _

/-- offset of the value field of an entry that starts at `pos` -/
def valuePos (pos : Nat) (k : Key) : Nat := pos + 4 + klen k + padLen (klen k)

theorem valuePos_add_16 (pos : Nat) (k : Key) : valuePos pos k + 16 = pos + entryLen k := by
  simp only [valuePos, entryLen, Nat.add_assoc]

/-- the index a scan from `pos` builds -/
def posOf : Nat → List Entry → List (Key × Nat)
  | _, [] => []
  | pos, e :: es => (e.key, valuePos pos e.key) :: posOf (pos + entryLen e.key) es

def keys (es : List Entry) : List Key := es.map (·.key)

@[simp] theorem keys_nil : keys [] = [] := rfl
@[simp] theorem keys_cons (e : Entry) (es : List Entry) : keys (e :: es) = e.key :: keys es := rfl
@[simp] theorem keys_append (a b : List Entry) : keys (a ++ b) = keys a ++ keys b := by simp [keys]

theorem nodup_snoc {ks : List Key} {k : Key} (h : ks.Nodup) (hk : k ∉ ks) : (ks ++ [k]).Nodup := by
  rw [List.nodup_append]
  exact ⟨h, by simp, by intro a ha b hb; simp at hb; subst hb; exact fun e => hk (e ▸ ha)⟩

theorem encEntries_length (es : List Entry) : (encEntries es).length = ((keys es).map entryLen).sum := by
  induction es with
  | nil => rfl
  | cons e es ih => simp [ih]

theorem encEntries_length_congr (a b : List Entry) (h : keys a = keys b) : (encEntries a).length = (encEntries b).length := by
  rw [encEntries_length, encEntries_length, h]

theorem posOf_append (a b : List Entry) (p : Nat) :
    posOf p (a ++ b) = posOf p a ++ posOf (p + (encEntries a).length) b := by
  induction a generalizing p with
  | nil => simp [posOf]
  | cons x a ih => simp [posOf, ih, Nat.add_assoc]

theorem posOf_keys (es : List Entry) (p : Nat) : (posOf p es).map (·.1) = keys es := by
  induction es generalizing p with
  | nil => simp [posOf]
  | cons e es ih => simp [posOf, ih]

theorem lookup_posOf_none (es : List Entry) (p : Nat) (k : Key) : (posOf p es).lookup k = none ↔ k ∉ keys es := by
  rw [List.lookup_eq_none_iff, ← posOf_keys es p]
  simp only [bne_iff_ne, ne_eq, List.mem_map, not_exists, not_and]
  exact ⟨fun h x hx hk => h x hx hk.symm, fun h x hx hk => h x hx hk.symm⟩

theorem split_first (es : List Entry) (k : Key) (h : k ∈ keys es) :
    ∃ es1 e es2, es = es1 ++ e :: es2 ∧ e.key = k ∧ k ∉ keys es1 := by
  obtain ⟨ks1, ks2, hks, hn⟩ := List.eq_append_cons_of_mem h
  obtain ⟨es1, r, rfl, rfl, hr⟩ := List.map_eq_append_iff.mp hks
  obtain ⟨e, es2, rfl, he, _⟩ := List.map_eq_cons_iff.mp hr
  exact ⟨es1, e, es2, rfl, he, hn⟩

theorem setPos_fresh : ∀ (ps : List (Key × Nat)) (k : Key) (q : Nat), k ∉ ps.map (·.1) → setPos ps k q = ps ++ [(k, q)] := by
  intro ps
  induction ps with
  | nil => intro k q _; rfl
  | cons a ps ih =>
    intro k q h
    obtain ⟨k', p'⟩ := a
    simp only [List.map_cons, List.mem_cons, not_or] at h
    simp [setPos, Ne.symm h.1, ih k q h.2]

/-- the index rebuilt on reopen (`self._positions[key] = pos` over the scan) is the scan's index, keys being distinct -/
theorem rebuild_positions : ∀ (es : List Entry) (p : Nat) (acc : List (Key × Nat)),
    (keys es).Nodup → (∀ k ∈ keys es, k ∉ acc.map (·.1)) →
    (scanOut p es).foldl (fun ps (x : Item) => setPos ps x.1 x.2.2.2) acc = acc ++ posOf p es := by
  intro es
  induction es with
  | nil => intro p acc _ _; simp [scanOut, posOf]
  | cons e es ih =>
    intro p acc hn hacc
    simp only [keys_cons, List.nodup_cons] at hn
    simp only [scanOut, List.foldl_cons, posOf]
    rw [setPos_fresh acc e.key _ (hacc e.key (by simp))]
    rw [ih (p + entryLen e.key) _ hn.2]
    · simp [valuePos]
    · intro k hk
      have hne : k ≠ e.key := fun h => hn.1 (h ▸ hk)
      simp [hacc k (by simp [hk]), hne]

theorem valuePos_dvd (p : Nat) (k : Key) (hp : 8 ∣ p) : 8 ∣ valuePos p k := by
  have : valuePos p k = p + (4 + klen k + padLen (klen k)) := by simp only [valuePos, Nat.add_assoc]
  rw [this]
  exact Nat.dvd_add hp (Nat.dvd_of_mod_eq_zero (layout _).1)

theorem posOf_aligned (es : List Entry) (p : Nat) (hp : 8 ∣ p) :
    ∀ x ∈ posOf p es, 8 ∣ x.2 ∧ p ≤ x.2 ∧ x.2 + 16 ≤ p + (encEntries es).length := by
  induction es generalizing p with
  | nil => simp [posOf]
  | cons e es ih =>
    intro x hx
    simp only [posOf, List.mem_cons] at hx
    rw [encEntries_cons, List.length_append, encEntry_length, ← Nat.add_assoc]
    rcases hx with rfl | hx
    · refine ⟨valuePos_dvd p _ hp, ?_, by rw [valuePos_add_16]; exact Nat.le_add_right _ _⟩
      simp only [valuePos, Nat.add_assoc]
      exact Nat.le_add_right _ _
    · obtain ⟨h1, h2, h3⟩ := ih (p + entryLen e.key) (Nat.dvd_add hp (Nat.dvd_of_mod_eq_zero (entryLen_mod _))) x hx
      exact ⟨h1, Nat.le_trans (Nat.le_add_right _ _) h2, h3⟩

end PromVerif.Lemmas.Mmap
