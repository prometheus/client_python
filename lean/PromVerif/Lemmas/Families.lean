/-
Lemmas about `Model/Families.lean` and the bridge to the registry model: a list of family objects built through the
`*MetricFamily` constructors seen as what a collector's `collect()` returns.
-/
import PromVerif.Model.Families
import PromVerif.Lemmas.RegistryMetrics

namespace PromVerif.Model.Families
open PromVerif.Py
open PromVerif.Model.Registry (Name MType dSet dHas)
open PromVerif.Generated.Families

variable {α : Type}

/-- the `MType` each class is expected to have -/
def Cls.mtype : Cls → MType
  | .unknown => .unknown | .counter => .counter | .gauge => .gauge | .summary => .summary
  | .histogram => .histogram | .gaugehistogram => .gaugehistogram | .info => .info | .stateset => .stateset

theorem resolveType_cls (cls : Cls) : resolveType cls.typeLit = some cls.mtype := by cases cls <;> decide +kernel

theorem suffixes_claimed (cls : Cls) : ∀ suf ∈ cls.suffixes, suf = [] ∨ suf ∈ Registry.suffixesOf cls.mtype := by
  rw [Registry.suffixesOf_eq]
  cases cls <;> decide +kernel

theorem foldl_dSet_nodup (ps : List (Name × Name)) : ∀ acc : List (Name × Name),
    ((acc ++ ps).map Prod.fst).Nodup → ps.foldl (fun d p => dSet p.1 p.2 d) acc = acc ++ ps := by
  induction ps with
  | nil => intro acc _; exact (List.append_nil acc).symm
  | cons p ps ih =>
    intro acc h
    have hnew : ¬ dHas p.1 acc = true := by
      rw [Registry.dHas_iff]
      intro hmem
      rw [List.map_append, List.nodup_append] at h
      exact h.2.2 _ hmem _ List.mem_cons_self rfl
    rw [List.foldl_cons, dSet, if_neg hnew, ih, List.append_assoc]
    · rfl
    · rw [List.append_assoc]; exact h

theorem mkDict_of_nodup (ps : List (Name × Name)) (h : (ps.map Prod.fst).Nodup) : mkDict ps = ps :=
  foldl_dSet_nodup ps [] h

theorem mem_insertItem (x y : Name × Bool) (l : List (Name × Bool)) : y ∈ insertItem x l ↔ y = x ∨ y ∈ l := by
  induction l with
  | nil => simp only [insertItem, List.mem_singleton, List.not_mem_nil, or_false]
  | cons z zs ih =>
    rw [insertItem]
    split
    · exact List.mem_cons
    · rw [List.mem_cons, ih, List.mem_cons]
      exact or_left_comm

theorem mem_sortedItems (y : Name × Bool) (l : List (Name × Bool)) : y ∈ sortedItems l ↔ y ∈ l := by
  induction l with
  | nil => exact Iff.rfl
  | cons z zs ih =>
    show y ∈ insertItem z (sortedItems zs) ↔ _
    rw [mem_insertItem, ih, List.mem_cons]

/-- the `labels` argument of an `add_metric` call -/
def AddCall.labels : AddCall α → List Name
  | .unknown l _ _ => l | .counter l _ _ _ _ => l | .gauge l _ _ => l | .summary l _ _ _ => l
  | .histogram l _ _ _ => l | .gaugehistogram l _ _ _ => l | .info l _ _ => l | .stateset l _ _ => l

/-- what a sample of the call may carry after the zipped labels: nothing; `le` = a bucket bound (the two histogram
classes); the whole `value` dict (info); `<family name>` = a state (state set) -/
def extraLabelChoices (f : Fam α) : AddCall α → List (List (Name × Name))
  | .histogram _ bs _ _ => [] :: bs.map fun b => [(histogramLe, b.le)]
  | .gaugehistogram _ bs _ _ => [] :: bs.map fun b => [(gaugehistogramLe, b.1)]
  | .info _ v _ => [v]
  | .stateset _ v _ => v.map fun st => [(f.name, st.1)]
  | _ => [[]]

def AddCall.isStateset : AddCall α → Bool
  | .stateset _ _ _ => true
  | _ => false

/-- `s` is a sample the call `c` on an object `f` of class `cls` may append: named after the family with a suffix of
the class, and labelled by the zipped label names and values followed by one of the call's extra labels.  A state set
zips `_labelnames + (name,)` with `labels + (state,)`, which is the zip followed by the state only when there are as
many values as label names: hence the condition in `labels`. -/
structure Fits (cls : Cls) (f : Fam α) (c : AddCall α) (s : Sample α) : Prop where
  name : ∃ suf, suf ∈ cls.suffixes ∧ s.name = f.name ++ suf
  labels : (c.isStateset = true → c.labels.length = f.labelnames.length) →
    ∃ extra, extra ∈ extraLabelChoices f c ∧ s.labels = mkDict (f.labelnames.zip c.labels ++ extra)

theorem fits_plain {cls : Cls} {self : Fam α} {c : AddCall α} {suf : List Char} (hsuf : suf ∈ cls.suffixes)
    (he : [] ∈ extraLabelChoices self c) (v : Value α) (t e : Option α) :
    Fits cls self c ⟨self.name ++ suf, zipDict self.labelnames c.labels, v, t, e⟩ :=
  ⟨⟨suf, hsuf, rfl⟩, fun _ => ⟨[], he, by rw [List.append_nil]; rfl⟩⟩

theorem histogram_shape (env : Env) (self : Fam α) (l : List Name) (bs : List (Bucket α)) (sv t : Option α) :
    ∃ tail, (HistogramMetricFamily.addMetric env self l bs sv t).1
        = (bs.map fun b => (⟨self.name ++ histogramBucket, mkDict (self.labelnames.zip l ++ [(histogramLe, b.le)]),
            .obj b.value, t, b.exemplar⟩ : Sample α)) ++ tail ∧
      (tail = [] ∨ ∃ bl sv' b0, bs.getLast? = some bl ∧ sv = some sv' ∧ bs.head? = some b0 ∧
        env.floatGe0 b0.le = some true ∧
        tail = [⟨self.name ++ histogramCount, zipDict self.labelnames l, .obj bl.value, t, none⟩,
                ⟨self.name ++ histogramSum, zipDict self.labelnames l, .obj sv', t, none⟩]) := by
  unfold HistogramMetricFamily.addMetric
  cases hh : bs.head? with
  | none => exact ⟨[], (List.append_nil _).symm, .inl rfl⟩
  | some b0 =>
    cases hl : bs.getLast? with
    | none => exact ⟨[], (List.append_nil _).symm, .inl rfl⟩
    | some bl =>
      dsimp only
      cases hf : env.floatGe0 b0.le with
      | none => exact ⟨[], (List.append_nil _).symm, .inl rfl⟩
      | some ge =>
        cases ge with
        | false => exact ⟨[], (List.append_nil _).symm, .inl rfl⟩
        | true =>
          cases sv with
          | none => exact ⟨[], (List.append_nil _).symm, .inl rfl⟩
          | some sv' => exact ⟨_, rfl, .inr ⟨bl, sv', b0, rfl, rfl, rfl, hf, rfl⟩⟩

theorem histogram_fits (env : Env) (self : Fam α) (l : List Name) (bs : List (Bucket α)) (sv t : Option α) (s : Sample α)
    (hs : s ∈ (HistogramMetricFamily.addMetric env self l bs sv t).1) :
    Fits .histogram self (.histogram l bs sv t) s := by
  obtain ⟨tail, h, htail⟩ := histogram_shape env self l bs sv t
  rw [h] at hs
  rcases List.mem_append.1 hs with hs | hs
  · obtain ⟨b, hb, rfl⟩ := List.mem_map.1 hs
    exact ⟨⟨_, .head _, rfl⟩, fun _ => ⟨_, .tail _ (List.mem_map.2 ⟨b, hb, rfl⟩), rfl⟩⟩
  · rcases htail with rfl | ⟨bl, sv', b0, _, _, _, _, rfl⟩
    · cases hs
    · rcases List.mem_cons.1 hs with rfl | hs
      · exact fits_plain (.tail _ (.head _)) (.head _) _ _ _
      · cases List.mem_singleton.1 hs
        exact fits_plain (.tail _ (.tail _ (.head _))) (.head _) _ _ _

theorem gaugehistogram_fits (self : Fam α) (l : List Name) (bs : List (Name × α)) (sv t : Option α) (s : Sample α)
    (hs : s ∈ (GaugeHistogramMetricFamily.addMetric self l bs sv t).1) :
    Fits .gaugehistogram self (.gaugehistogram l bs sv t) s := by
  have bucket : ∀ b ∈ bs, Fits .gaugehistogram self (.gaugehistogram l bs sv t)
      ⟨self.name ++ gaugehistogramBucket, mkDict (self.labelnames.zip l ++ [(gaugehistogramLe, b.1)]), .obj b.2, t, none⟩ :=
    fun b hb => ⟨⟨_, .head _, rfl⟩, fun _ => ⟨_, .tail _ (List.mem_map.2 ⟨b, hb, rfl⟩), rfl⟩⟩
  unfold GaugeHistogramMetricFamily.addMetric at hs
  cases hl : bs.getLast? with
  | none =>
    rw [hl] at hs
    obtain ⟨b, hb, rfl⟩ := List.mem_map.1 hs
    exact bucket b hb
  | some bl =>
    rw [hl] at hs
    rcases List.mem_append.1 hs with hs | hs
    · obtain ⟨b, hb, rfl⟩ := List.mem_map.1 hs
      exact bucket b hb
    · rcases List.mem_cons.1 hs with rfl | hs
      · exact fits_plain (.tail _ (.head _)) (.head _) _ _ _
      · cases List.mem_singleton.1 hs
        exact fits_plain (.tail _ (.tail _ (.head _))) (.head _) _ _ _

theorem stateset_fits (self : Fam α) (l : List Name) (v : List (Name × Bool)) (t : Option α) (s : Sample α)
    (hs : s ∈ (StateSetMetricFamily.addMetric self l v t).1) : Fits .stateset self (.stateset l v t) s := by
  obtain ⟨st, hst, rfl⟩ := List.mem_map.1 hs
  refine ⟨⟨_, .head _, rfl⟩, fun hlen => ⟨[(self.name, st.1)], ?_, ?_⟩⟩
  · exact List.mem_map.2 ⟨st, (mem_sortedItems st v).1 hst, rfl⟩
  · have hl : self.labelnames.length = l.length := (hlen rfl).symm
    show mkDict ((self.labelnames ++ [self.name]).zip (l ++ [st.1])) = _
    rw [List.zip_append hl]
    rfl

/-- a call that appended a sample was a call of the method of the object's class -/
theorem mem_fst_ite {β γ : Type} {p : Prop} [Decidable p] {r : List β × γ} {e : γ} {s : β}
    (hs : s ∈ (if p then r else ([], e)).1) : p ∧ s ∈ r.1 := by
  split at hs
  · next h => exact ⟨h, hs⟩
  · cases hs

theorem newSamples_fits (env : Env) (self : Fam α) (c : AddCall α) (s : Sample α) (hs : s ∈ (newSamples env self c).1) :
    Fits self.cls self c s := by
  cases c with
  | unknown l v t =>
    obtain ⟨h, hs⟩ := mem_fst_ite hs
    rw [h]
    cases List.mem_singleton.1 hs
    exact fits_plain (.head _) (.head _) _ _ _
  | counter l v c t e =>
    obtain ⟨h, hs⟩ := mem_fst_ite hs
    rw [h]
    rcases List.mem_cons.1 hs with rfl | hs
    · exact fits_plain (.head _) (.head _) _ _ _
    · cases c with
      | none => cases hs
      | some c =>
        cases List.mem_singleton.1 hs
        exact fits_plain (.tail _ (.head _)) (.head _) _ _ _
  | gauge l v t =>
    obtain ⟨h, hs⟩ := mem_fst_ite hs
    rw [h]
    cases List.mem_singleton.1 hs
    exact fits_plain (.head _) (.head _) _ _ _
  | summary l c sv t =>
    obtain ⟨h, hs⟩ := mem_fst_ite hs
    rw [h]
    rcases List.mem_cons.1 hs with rfl | hs
    · exact fits_plain (.head _) (.head _) _ _ _
    · cases List.mem_singleton.1 hs
      exact fits_plain (.tail _ (.head _)) (.head _) _ _ _
  | histogram l bs sv t =>
    obtain ⟨h, hs⟩ := mem_fst_ite hs
    exact h ▸ histogram_fits env self l bs sv t s hs
  | gaugehistogram l bs sv t =>
    obtain ⟨h, hs⟩ := mem_fst_ite hs
    exact h ▸ gaugehistogram_fits self l bs sv t s hs
  | info l v t =>
    obtain ⟨h, hs⟩ := mem_fst_ite hs
    rw [h]
    cases List.mem_singleton.1 hs
    exact ⟨⟨_, .head _, rfl⟩, fun _ => ⟨v, .head _, rfl⟩⟩
  | stateset l v t =>
    obtain ⟨h, hs⟩ := mem_fst_ite hs
    exact h ▸ stateset_fits self l v t s hs

/-- the type is the one of the class, every sample is named after the family with a suffix of the class -/
structure WF (f : Fam α) : Prop where
  typ : resolveType f.cls.typeLit = some f.typ
  names : ∀ s, s ∈ f.samples → ∃ suf, suf ∈ f.cls.suffixes ∧ s.name = f.name ++ suf

theorem extend_samples (f : Fam α) (r : List (Sample α) × Option PyErr) :
    (f.extend r).1.samples = f.samples ++ r.1 ∧ (f.extend r).1.name = f.name ∧ (f.extend r).1.cls = f.cls ∧
    (f.extend r).1.typ = f.typ ∧ (f.extend r).1.labelnames = f.labelnames ∧ (f.extend r).1.unit = f.unit ∧
    (f.extend r).1.documentation = f.documentation :=
  ⟨rfl, rfl, rfl, rfl, rfl, rfl, rfl⟩

theorem addMetric_wf (env : Env) {f : Fam α} (h : WF f) (c : AddCall α) : WF (addMetric env f c).1 := by
  refine ⟨h.typ, fun s hs => ?_⟩
  rcases List.mem_append.1 (show s ∈ f.samples ++ (newSamples env f c).1 from hs) with h1 | h1
  · exact h.names s h1
  · exact (newSamples_fits env f c s h1).name

theorem runAdds_wf (env : Env) (cs : List (AddCall α)) : ∀ {f : Fam α}, WF f → WF (runAdds env f cs).1 := by
  induction cs with
  | nil => intro f h; exact h
  | cons c cs ih => intro f h; exact ih (addMetric_wf env h c)

theorem metricInit_ok {env : Env} {cls : Cls} {n d typ u : List Char} {f : Fam α}
    (h : Metric.init env cls n d typ u = .ok f) :
    f.cls = cls ∧ resolveType typ = some f.typ ∧ f.samples = [] ∧ f.documentation = d ∧ f.unit = u ∧
    f.name = (if !u.isEmpty && !pyEndsWith n ('_' :: u) then n ++ '_' :: u else n) ∧
    Validation.validateMetricName env.legacy f.name = .ok () := by
  unfold Metric.init at h
  dsimp only at h
  split at h
  · cases h
  · next hv =>
    split at h
    · cases h
    · next t ht =>
      cases h
      exact ⟨rfl, ht, rfl, rfl, rfl, rfl, hv⟩

theorem familyInit_wf {env : Env} {cls : Cls} {n d u : List Char} {bad : Bool} {labels : Option (List Name)}
    {first : Fam α → Option (List (Sample α) × Option PyErr)} {f : Fam α}
    (h : familyInit env cls n d cls.typeLit u bad labels first = .ok f)
    (hf : ∀ self r, self.cls = cls → first self = some r → ∃ c, r = newSamples env self c) : WF f := by
  unfold familyInit at h
  split at h
  · cases h
  · next self hs =>
    obtain ⟨rfl, h2, h3, _⟩ := metricInit_ok hs
    -- the object before the constructor's own `add_metric` call: no samples yet
    have hw : WF { self with labelnames := labels.getD [] } :=
      ⟨h2, fun s hs' => by rw [show _ = self.samples from rfl, h3] at hs'; cases hs'⟩
    split at h
    · cases h
    · dsimp only at h
      split at h
      · cases h
        exact hw
      · next r hr =>
        split at h
        · cases h
        · cases h
          obtain ⟨c, rfl⟩ := hf { self with labelnames := labels.getD [] } r rfl hr
          exact addMetric_wf env hw c

/-- every constructor that returns, returns a well-formed family: the `add_metric` call it makes is the method of its
own class -/
theorem ctor_wf {env : Env} {ctor : Ctor α} {f : Fam α} (h : ctor.run env = .ok f) : WF f := by
  cases ctor with
  | unknown n d v l u =>
    unfold Ctor.run UnknownMetricFamily.init at h
    refine familyInit_wf (cls := .unknown) h fun self r hcls hr => ?_
    obtain ⟨v, _, rfl⟩ := Option.map_eq_some_iff.1 hr
    exact ⟨.unknown [] v none, (if_pos hcls).symm⟩
  | counter n d v l c u e =>
    unfold Ctor.run CounterMetricFamily.init at h
    refine familyInit_wf (cls := .counter) h fun self r hcls hr => ?_
    obtain ⟨v, _, rfl⟩ := Option.map_eq_some_iff.1 hr
    exact ⟨.counter [] v c none e, (if_pos hcls).symm⟩
  | gauge n d v l u =>
    unfold Ctor.run GaugeMetricFamily.init at h
    refine familyInit_wf (cls := .gauge) h fun self r hcls hr => ?_
    obtain ⟨v, _, rfl⟩ := Option.map_eq_some_iff.1 hr
    exact ⟨.gauge [] v none, (if_pos hcls).symm⟩
  | summary n d c sv l u =>
    unfold Ctor.run SummaryMetricFamily.init at h
    refine familyInit_wf (cls := .summary) h fun self r hcls hr => ?_
    cases c with
    | none => cases hr
    | some c =>
      cases sv with
      | none => cases hr
      | some sv =>
        cases hr
        exact ⟨.summary [] c sv none, (if_pos hcls).symm⟩
  | histogram n d b sv l u =>
    unfold Ctor.run HistogramMetricFamily.init at h
    refine familyInit_wf (cls := .histogram) h fun self r hcls hr => ?_
    obtain ⟨b, _, rfl⟩ := Option.map_eq_some_iff.1 hr
    exact ⟨.histogram [] b sv none, (if_pos hcls).symm⟩
  | gaugehistogram n d b sv l u =>
    unfold Ctor.run GaugeHistogramMetricFamily.init at h
    refine familyInit_wf (cls := .gaugehistogram) h fun self r hcls hr => ?_
    obtain ⟨b, _, rfl⟩ := Option.map_eq_some_iff.1 hr
    exact ⟨.gaugehistogram [] b sv none, (if_pos hcls).symm⟩
  | info n d v l =>
    unfold Ctor.run InfoMetricFamily.init at h
    refine familyInit_wf (cls := .info) h fun self r hcls hr => ?_
    obtain ⟨v, _, rfl⟩ := Option.map_eq_some_iff.1 hr
    exact ⟨.info [] v none, (if_pos hcls).symm⟩
  | stateset n d v l =>
    unfold Ctor.run StateSetMetricFamily.init at h
    refine familyInit_wf (cls := .stateset) h fun self r hcls hr => ?_
    obtain ⟨v, _, rfl⟩ := Option.map_eq_some_iff.1 hr
    exact ⟨.stateset [] v none, (if_pos hcls).symm⟩

theorem built_wf {env : Env} {f : Fam α} (h : Built env f) : WF f := by
  obtain ⟨ctor, f0, adds, h0, rfl⟩ := h
  exact runAdds_wf env adds (ctor_wf h0)

theorem WF.suffix_claimed {f : Fam α} (h : WF f) {suf : List Char} (hsuf : suf ∈ f.cls.suffixes) :
    suf = [] ∨ suf ∈ Registry.suffixesOf f.typ :=
  Option.some.inj ((resolveType_cls f.cls).symm.trans h.typ) ▸ suffixes_claimed f.cls suf hsuf

theorem wf_claimed {f : Fam α} (h : WF f) (s : Sample α) (hs : s ∈ f.samples) :
    s.name ∈ Registry.familyNames (f.name, f.typ) := by
  obtain ⟨suf, hsuf, hn⟩ := h.names s hs
  rw [hn, Registry.familyNames_eq]
  exact Registry.mem_familyClaims _ (Registry.suffixesOf_eq _ ▸ h.suffix_claimed hsuf)

/-- a family object as the registry sees it (payloads opaque, numbered) -/
def toFamily (f : Fam α) : Registry.Family :=
  { name := f.name, typ := f.typ, help := f.documentation, unit := f.unit
    samples := f.samples.zipIdx.map fun si => ⟨si.1.name, .idx si.2⟩ }

theorem toFamily_sample {f : Fam α} {smp : Registry.Sample} (h : smp ∈ (toFamily f).samples) :
    ∃ s, s ∈ f.samples ∧ smp.name = s.name := by
  obtain ⟨⟨s, i⟩, hsi, rfl⟩ := List.mem_map.1 h
  exact ⟨s, List.fst_mem_of_mem_zipIdx hsi, rfl⟩

end PromVerif.Model.Families
