/-
The string constants of the C08 / C09 test vectors and tables as character lists.
The kernel can only evaluate `String.toList` of a literal by decoding its UTF-8 bytes, which takes far longer than the functions
under test do; `String.toList_ofList` reads the characters off the literal.  A test vector is rewritten with `chars` before
it is evaluated.
-/

namespace PromVerif.Model.Multiprocess

theorem chars :
    "counter".toList = ['c', 'o', 'u', 'n', 't', 'e', 'r'] ∧ "gauge".toList = ['g', 'a', 'u', 'g', 'e'] ∧
    "histogram".toList = ['h', 'i', 's', 't', 'o', 'g', 'r', 'a', 'm'] ∧ "c".toList = ['c'] ∧
    "c_total".toList = ['c', '_', 't', 'o', 't', 'a', 'l'] ∧ "counts".toList = ['c', 'o', 'u', 'n', 't', 's'] ∧
    "help".toList = ['h', 'e', 'l', 'p'] ∧ "g".toList = ['g'] ∧ "l".toList = ['l'] ∧ "x".toList = ['x'] ∧
    "a gauge".toList = ['a', ' ', 'g', 'a', 'u', 'g', 'e'] ∧ "h".toList = ['h'] ∧
    "h_bucket".toList = ['h', '_', 'b', 'u', 'c', 'k', 'e', 't'] ∧ "h_sum".toList = ['h', '_', 's', 'u', 'm'] ∧
    "le".toList = ['l', 'e'] ∧ "a histogram".toList = ['a', ' ', 'h', 'i', 's', 't', 'o', 'g', 'r', 'a', 'm'] ∧
    "gl".toList = ['g', 'l'] ∧ "gs".toList = ['g', 's'] ∧ "live".toList = ['l', 'i', 'v', 'e'] ∧
    "all".toList = ['a', 'l', 'l'] ∧ "livemin".toList = ['l', 'i', 'v', 'e', 'm', 'i', 'n'] ∧
    "sum".toList = ['s', 'u', 'm'] ∧ "livesum".toList = ['l', 'i', 'v', 'e', 's', 'u', 'm'] ∧
    "gauge_all".toList = ['g', 'a', 'u', 'g', 'e', '_', 'a', 'l', 'l'] ∧
    "gauge_sum".toList = ['g', 'a', 'u', 'g', 'e', '_', 's', 'u', 'm'] ∧
    "gauge_livesum".toList = ['g', 'a', 'u', 'g', 'e', '_', 'l', 'i', 'v', 'e', 's', 'u', 'm'] ∧ "1".toList = ['1'] ∧
    "2".toList = ['2'] ∧ "5".toList = ['5'] ∧ "6".toList = ['6'] ∧ "7".toList = ['7'] ∧ "11".toList = ['1', '1'] ∧
    "100".toList = ['1', '0', '0'] ∧ "summary".toList = ['s', 'u', 'm', 'm', 'a', 'r', 'y'] :=
  ⟨String.toList_ofList, String.toList_ofList, String.toList_ofList, String.toList_ofList, String.toList_ofList,
   String.toList_ofList, String.toList_ofList, String.toList_ofList, String.toList_ofList, String.toList_ofList,
   String.toList_ofList, String.toList_ofList, String.toList_ofList, String.toList_ofList, String.toList_ofList,
   String.toList_ofList, String.toList_ofList, String.toList_ofList, String.toList_ofList, String.toList_ofList,
   String.toList_ofList, String.toList_ofList, String.toList_ofList, String.toList_ofList, String.toList_ofList,
   String.toList_ofList, String.toList_ofList, String.toList_ofList, String.toList_ofList, String.toList_ofList,
   String.toList_ofList, String.toList_ofList, String.toList_ofList, String.toList_ofList⟩

end PromVerif.Model.Multiprocess
