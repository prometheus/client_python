/-
The bucket and `_count` series of one histogram family have pairwise different keys as soon as the bound formatter is
injective on the bounds that occur under one label set — and that injectivity is what C13 proves about
`floatToGoString` on the `repr` texts of the bounds, up to the CPython facts named below.
-/
import PromVerif.Lemmas.MultiprocessCompose
import PromVerif.Props.C13Injective

namespace PromVerif.Props.C08
open PromVerif.Py PromVerif.Generated.Multiprocess
open PromVerif.Model.Multiprocess PromVerif.Spec.Multiprocess
set_option autoImplicit false

variable {V B : Type}

theorem nodup_flatMap {α β : Type} (l : List α) (f : α → List β) (hl : l.Nodup) (hin : ∀ x ∈ l, (f x).Nodup)
    (hdis : ∀ x ∈ l, ∀ y ∈ l, x ≠ y → ∀ b ∈ f x, b ∉ f y) : (l.flatMap f).Nodup :=
  List.pairwise_flatMap.mpr ⟨hin, hl.imp_of_mem (fun hx hy hne b hb _ hb' e => hdis _ hx _ hy hne b hb (e ▸ hb'))⟩

theorem nodup_map_on {α β : Type} (l : List α) (f : α → β) (hl : l.Nodup)
    (hinj : ∀ x ∈ l, ∀ y ∈ l, f x = f y → x = y) : (l.map f).Nodup :=
  List.pairwise_map.mpr (hl.imp_of_mem (fun hx hy hne e => hne (hinj _ hx _ hy e)))

theorem groupSeries_keys (vo : VOps V) (bo : BOps B) [DecidableEq B] (mn : Str) (bcs : List (Labels × B × V)) (L : Labels) :
    AL.keys (groupSeries vo bo mn bcs L)
      = (sortBounds bo.lt (boundsOf bcs L)).map (fun b => (mn ++ "_bucket".toList, L ++ [("le".toList, bo.fmt b)]))
        ++ [(mn ++ "_count".toList, L)] := by
  unfold groupSeries AL.keys
  rw [List.map_append, List.map_map]
  congr 1
  have h := congrArg (List.map (fun b => (mn ++ "_bucket".toList, L ++ [("le".toList, bo.fmt b)])))
    (cumulate_fst vo vo.zero (mergedSorted vo bo bcs L))
  unfold mergedSorted at h ⊢
  simp only [List.map_map] at h
  exact h

theorem bucket_ne_count (mn : Str) : mn ++ "_bucket".toList ≠ mn ++ "_count".toList := by
  intro h
  have := List.append_cancel_left h
  rw [← suffix_eq.1, ← suffix_eq.2] at this
  revert this
  decide

theorem group_of_key (vo : VOps V) (bo : BOps B) [DecidableEq B] (mn : Str) (bcs : List (Labels × B × V)) (L : Labels)
    (k : SKey) (hk : k ∈ AL.keys (groupSeries vo bo mn bcs L)) :
    (if k.1 = mn ++ "_count".toList then k.2 else k.2.dropLast) = L := by
  rw [groupSeries_keys] at hk
  rcases List.mem_append.mp hk with h | h
  · obtain ⟨b, _, rfl⟩ := List.mem_map.mp h
    rw [if_neg (bucket_ne_count mn), List.dropLast_concat]
  · rw [List.mem_singleton.mp h, if_pos rfl]

/-- **the `hk` hypothesis of `accumulate_eq_spec_partial`, derived** -/
theorem bucketSeries_keys_nodup (vo : VOps V) (bo : BOps B) [DecidableEq B] (mn : Str) (cs : List (Contrib V))
    (hinj : ∀ L ∈ groups (bucketContribs bo cs), ∀ b ∈ boundsOf (bucketContribs bo cs) L,
      ∀ b' ∈ boundsOf (bucketContribs bo cs) L, bo.fmt b = bo.fmt b' → b = b') :
    (AL.keys (bucketSeries vo bo mn cs)).Nodup := by
  unfold bucketSeries AL.keys
  rw [List.map_flatMap]
  apply nodup_flatMap _ _ (nodup_distinct _)
  · intro L hL
    rw [← AL.keys, groupSeries_keys]
    apply nodup_concat
    · apply nodup_map_on
      · exact (sortBounds_perm bo.lt _).symm.nodup (nodup_distinct _)
      · intro b hb b' hb' e
        simp only [Prod.mk.injEq, true_and] at e
        have e' := List.append_cancel_left e
        simp only [List.cons.injEq, Prod.mk.injEq, true_and, and_true] at e'
        exact hinj L hL b ((mem_sortBounds _ _ _).mp hb) b' ((mem_sortBounds _ _ _).mp hb') e'
    · intro hm
      obtain ⟨b, _, e⟩ := List.mem_map.mp hm
      exact bucket_ne_count mn (congrArg Prod.fst e)
  · intro L hL L' hL' hne k hk hk'
    exact hne ((group_of_key vo bo mn _ L k hk).symm.trans (group_of_key vo bo mn _ L' k hk'))

theorem bucket_key_char (vo : VOps V) (bo : BOps B) [DecidableEq B] (mn : Str) (cs : List (Contrib V))
    (k : SKey) (hk : k ∈ AL.keys (bucketSeries vo bo mn cs)) :
    ∃ c ∈ cs, ∃ t b, leText c = some t ∧ bo.parse t = some b ∧
      ((k = (mn ++ "_count".toList, withoutLe c)) ∨
       (∃ c' ∈ cs, ∃ t' b', leText c' = some t' ∧ bo.parse t' = some b' ∧ withoutLe c' = withoutLe c ∧
          k = (mn ++ "_bucket".toList, withoutLe c ++ [("le".toList, bo.fmt b')]))) := by
  unfold bucketSeries AL.keys at hk
  rw [List.map_flatMap] at hk
  obtain ⟨L, hL, hg⟩ := List.mem_flatMap.mp hk
  rw [← AL.keys, groupSeries_keys] at hg
  have hLc : ∃ c ∈ cs, ∃ t b, leText c = some t ∧ bo.parse t = some b ∧ withoutLe c = L := by
    have := (mem_distinct _ _).mp hL
    obtain ⟨x, hx, hx1⟩ := List.mem_map.mp this
    obtain ⟨c, hc, t, b, ht, hb, e⟩ := mem_bucketContribs bo cs x hx
    exact ⟨c, hc, t, b, ht, hb, by rw [← hx1, e]⟩
  obtain ⟨c, hc, t, b, ht, hb, hcL⟩ := hLc
  refine ⟨c, hc, t, b, ht, hb, ?_⟩
  rcases List.mem_append.mp hg with h | h
  · right
    obtain ⟨b', hb', rfl⟩ := List.mem_map.mp h
    obtain ⟨c', hc', t', ht', hbp, hL'⟩ := mem_boundsOf bo cs L b' ((mem_sortBounds _ _ _).mp hb')
    exact ⟨c', hc', t', b', ht', hbp, hL'.trans hcL.symm, by rw [hcL]⟩
  · left
    rw [List.mem_singleton.mp h, hcL]

/-! ### connection with C13: `floatToGoString` on the `repr` texts of bounds

C13 is stated on `repr` TEXTS (Lean has no theory of doubles).  A bound `b` is rendered as
`floatToGoString (repr b)`; cross-class injectivity of `floatToGoString` is `Props.C13Injective.go_injective_texts`. -/

section C13
open PromVerif.Spec PromVerif.Model.Utils PromVerif.Props.C13 PromVerif.Lemmas.GoInjective PromVerif.Props.C13Injective

/-- **injectivity of the bound formatter from C13.**  Let bounds be rendered as `floatToGoString (repr b)`.  If the
    `repr` texts of the occurring bounds belong to the five classes of `ReprText`, `repr` is injective on them, and the
    two CPython facts of `C13Injective.ReprFacts` hold for them, the formatter is injective on the occurring bounds —
    which is hypothesis `hinj` of `bucketSeries_keys_nodup`.  What stays assumed, and why: injectivity and shortestness
    of `repr` and its exponent-form range are facts about IEEE doubles and CPython, which have no Lean theory here; the
    harness re-validates them on every bound it generates (C13's `REPR_RE` / range check). -/
theorem fmt_injective_of_repr (repr : B → Str) (bounds : List B)
    (hshape : ∀ b ∈ bounds, ReprText (repr b))
    (hrepr : ∀ b ∈ bounds, ∀ b' ∈ bounds, repr b = repr b' → b = b')
    (hfacts : ReprFacts (fun s => ∃ b ∈ bounds, repr b = s)) :
    ∀ b ∈ bounds, ∀ b' ∈ bounds,
      floatToGoString (repr b) = floatToGoString (repr b') → b = b' := by
  intro b hb b' hb' heq
  apply hrepr b hb b' hb'
  exact go_injective_texts _ hfacts _ _ (hshape b hb) (hshape b' hb') ⟨b, hb, rfl⟩ ⟨b', hb', rfl⟩ heq

end C13

end PromVerif.Props.C08
