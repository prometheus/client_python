/-
C04, the converse at family and document level.  Every family `omParse` yields went through `build_metric` (name accepted by
`Metric()`, type among METRIC_TYPES, unit suffixing the name) and every float-valued sample in it is what `_parse_sample` made of
some line, so the line-level converse (`reparse_line`) applies to each of them; composed with the forward document theorem
`doc_parse`: the parsed families, rendered again by the exposition, parse to the same families up to the rule layer.
-/
import PromVerif.Lemmas.OMRtConv
import PromVerif.Lemmas.OMRtDoc
import PromVerif.Lemmas.OMGroup

set_option autoImplicit false

namespace PromVerif.Lemmas.OMRt
open PromVerif.Py PromVerif.Model PromVerif.Model.ParseCore PromVerif.Model.Validation
open PromVerif.Model.OMParse PromVerif.Spec.OMRoundtrip PromVerif.Lemmas.TextParse PromVerif.Generated.OMParse
open PromVerif.Lemmas.OM

/-- where a sample of a parsed family comes from: `_parse_sample` on some line, or `_parse_nh_sample` (native histogram) -/
def SampleProv (P : Params) (s : OSample) : Prop := s.nh.isSome = true ∨ ∃ line, parseSample P line = .ok s

/-- what `build_metric` guarantees about a family it returned -/
structure FamWf (P : Params) (f : OFamily) : Prop where
  name : validateMetricName P.legacy f.name = .ok ()
  typ : f.typ ∈ metricTypes
  unitSuffix : f.unit.isEmpty = false → endsWith ('_' :: f.unit) f.name = true
  samples : ∀ s ∈ f.samples, SampleProv P s

theorem raiseIf_ok {b : Bool} (h : raiseIf b = .ok ()) : b = false := by
  cases b
  · rfl
  · cases h

theorem parseNhSample_nh (P : Params) (text : Str) (suff : List Str) (s : OSample) (h : parseNhSample P text suff = .ok (some s)) :
    s.nh.isSome = true := by
  -- every successful return of a sample builds it with `nh := some _`
  unfold parseNhSample at h
  dsimp only at h
  repeat' split at h
  all_goals first
    | (cases h; done)
    | (cases h; rfl)

theorem pickSample_prov (P : Params) (typ : Option Str) (line : Str) (s : OSample) (isNh : Bool)
    (h : pickSample typ (parseNhLine P line) (parseSample P line) = .ok (s, isNh)) : SampleProv P s := by
  rcases pickSample_inv _ _ _ s isNh h with ⟨_, hn⟩ | ⟨_, hp⟩
  · obtain ⟨suff, hs⟩ := parseNhLine_eq P
    rw [hs] at hn
    exact Or.inl (parseNhSample_nh P line suff s hn)
  · exact Or.inr ⟨line, hp⟩

theorem sampleChecks_forall (P : Params) (h : Hdr) (gr gr' : Grp) (s : OSample) (isNh : Bool)
    (hs : sampleChecks P h gr s isNh = .ok gr') {Q : OSample → Prop} (hgr : ∀ x ∈ gr.samples, Q x) (hq : Q s) :
    ∀ x ∈ gr'.samples, Q x := by
  have hall : ∀ x ∈ gr.samples ++ [s], Q x := by
    intro x hx
    rcases List.mem_append.mp hx with h1 | h1
    · exact hgr x h1
    · rw [List.mem_singleton.mp h1]; exact hq
  cases isNh with
  | true =>
    rw [sampleChecks_nh] at hs
    cases hs
    exact hall
  | false =>
    cases hn : h.name with
    | none => rw [sampleChecks_false, hn] at hs; cases hs
    | some n =>
      rcases groupStep_appends P gr gr' n _ s (sampleChecks_ok P h gr gr' s n hn hs) with e | ⟨e, _⟩
      · rw [e]; exact hall
      · rw [e]; exact hgr

/-- the invariant of the family state machine on the lines of a document -/
def ProvInv (P : Params) (st : St) : Prop :=
  (∀ f ∈ st.glob.out, FamWf P f) ∧ (∀ s ∈ st.grp.samples, SampleProv P s)

theorem flush_inv (P : Params) (st : St) (g : Glob) (hq : ProvInv P st) (hf : flush P st.glob st.hdr st.grp.samples = .ok g) :
    ∀ f ∈ g.out, FamWf P f := by
  unfold flush at hf
  split at hf
  · cases hf; exact hq.1
  · rename_i n hn
    simp only [buildMetric] at hf
    split at hf
    · cases hf
    · rename_i hc
      cases hf
      have hall := runChecks_ok_mem _ hc
      intro f hfm
      rcases List.mem_append.mp hfm with hm | hm
      · exact hq.1 f hm
      · simp only [List.mem_cons, List.not_mem_nil, or_false] at hm
        subst hm
        refine ⟨hall _ (by simp [buildChecks]), ?_, ?_, hq.2⟩
        · simpa using raiseIf_ok (hall (raiseIf (!metricTypes.contains (st.hdr.typ.getD tUnknown))) (by simp [buildChecks]))
        · intro hu
          have := raiseIf_ok (hall (raiseIf (!(st.hdr.unit.getD []).isEmpty && !endsWith ('_' :: st.hdr.unit.getD []) n))
            (by simp [buildChecks]))
          simpa [hu] using this

theorem parseLine_eq_sample (P : Params) (line : Str) (nh : PyM (Option OSample)) (plain : PyM OSample)
    (h : parseLine P line = .sample nh plain) : nh = parseNhLine P line ∧ plain = parseSample P line := by
  unfold parseLine at h
  repeat' split at h
  all_goals first
    | (cases h; done)
    | (cases h; exact ⟨rfl, rfl⟩)

theorem provInv_step (P : Params) (st st' : St) (line : Str) (hq : ProvInv P st) (h : stepLine P st (parseLine P line) = .ok st') :
    ProvInv P st' := by
  obtain ⟨_, hc⟩ := stepLine_ok P st st' _ h
  rcases hc with ⟨_, rfl⟩ | ⟨kind, cand, rest, _, hm⟩ | ⟨nh, plain, s, isNh, hl, hp, hss⟩
  · exact hq
  · rcases stepMeta_ok P st st' _ _ _ hm with ⟨_, g, hd, hf, _, rfl⟩ | ⟨_, hd, _, rfl⟩
    · exact ⟨flush_inv P st g hq hf, fun s hs => by cases hs⟩
    · exact hq
  · have hprov : SampleProv P s := by
      obtain ⟨rfl, rfl⟩ := parseLine_eq_sample P line nh plain hl
      exact pickSample_prov P _ line s isNh hp
    rcases stepSample_ok P st st' s isNh hss with ⟨_, g, hd, gr, hf, _, hsc, rfl⟩ | ⟨_, gr, hsc, rfl⟩
    · exact ⟨flush_inv P st g hq hf, sampleChecks_forall P hd {} gr s isNh hsc (fun x hx => by cases hx) hprov⟩
    · exact ⟨hq.1, sampleChecks_forall P st.hdr st.grp gr s isNh hsc hq.2 hprov⟩

/-- **every family `omParse` returns went through `build_metric`, and its samples through `_parse_sample` / `_parse_nh_sample`** -/
theorem omParse_wf (P : Params) (d : Str) (fs : List OFamily) (h : omParse P d = .ok fs) : ∀ f ∈ fs, FamWf P f := by
  unfold omParse assemble at h
  split at h
  · rename_i st hr
    have h0 : ProvInv P {} := ⟨fun f hf => absurd hf List.not_mem_nil, fun s hs => absurd hs List.not_mem_nil⟩
    have hq := run_invariant P (ProvInv P) (fun l => ∃ line, l = parseLine P line)
      (fun st l st' hq ⟨line, hl⟩ hs => provInv_step P st st' line hq (hl ▸ hs)) _
      (fun l hl => by obtain ⟨line, _, rfl⟩ := List.mem_map.mp hl; exact ⟨line, rfl⟩) {} h0 st hr
    unfold finish at h
    split at h
    · cases h
    · rename_i g hf
      split at h
      · cases h
      · cases h
        exact flush_inv P st g hq hf
  · cases h

/-- what is asked of the parsed families beyond acceptance (see `om_reparse_document_partial` for which of these are true of
every accepted document and which are findings) -/
structure BackOK (P : Params) (R : Rerender) (fs : List OFamily) : Prop where
  /-- no native-histogram sample (excepted by the property) -/
  noNH : ∀ f ∈ fs, ∀ o ∈ f.samples, o.nh = none
  /-- the number laws for every value and float timestamp; no exemplar label in the metric-name slot -/
  laws : ∀ f ∈ fs, ∀ o ∈ f.samples, BackLaws P R o
  /-- no line feed in a unit -/
  unit : ∀ f ∈ fs, '\n' ∉ f.unit
  /-- every sample name within the suffix set of its family's type -/
  regular : ∀ f ∈ fs, ∀ o ∈ f.samples, (allowedNames f.name f.typ).contains o.name = true
  /-- an exemplar only where the exposition accepts one -/
  eligible : ∀ f ∈ fs, ∀ o ∈ f.samples, o.exemplar.isSome = true → OMExpo.isValidExemplarMetric f.typ f.name o.name = true
  /-- consecutive families carry different names -/
  adj : AdjDiffer (fs.map (famBack R))

theorem famBack_ok (P : Params) (R : Rerender) (fs : List OFamily) (hwf : ∀ f ∈ fs, FamWf P f) (hb : BackOK P R fs) :
    ∀ fam ∈ fs.map (famBack R), FamOK P fam := by
  intro fam hfam
  obtain ⟨f, hf, rfl⟩ := List.mem_map.mp hfam
  have hw := hwf f hf
  refine ⟨?_, hw.typ, hb.unit f hf, ?_⟩
  · show isOk (validateMetricName P.legacy f.name) = true
    rw [hw.name]; rfl
  · intro s hs
    simp only [famBack] at hs
    obtain ⟨o, ho, rfl⟩ := List.mem_map.mp hs
    have hnh := hb.noNH f hf o ho
    rcases hw.samples o ho with h1 | ⟨line, hacc⟩
    · rw [hnh] at h1; cases h1
    · refine ⟨sampleBack_ok P R line o hacc (hb.laws f hf o ho), ?_, ?_⟩
      · intro he
        exact hb.eligible f hf o ho (by simpa [sampleBack] using he)
      · exact hb.regular f hf o ho

/-- a parsed family and what its re-rendering parses to -/
def FamSame (P : Params) (R : Rerender) (f f' : OFamily) : Prop :=
  f'.name = f.name ∧ f'.doc = f.doc ∧ f'.typ = f.typ ∧ f'.unit = f.unit ∧ Forall2 (SampleSame P R) f.samples f'.samples

theorem forall2_map {α β : Type} {R : α → β → Prop} (f : α → β) : ∀ (l : List α), (∀ a ∈ l, R a (f a)) → Forall2 R l (l.map f) := by
  intro l
  induction l with
  | nil => intro _; exact .nil
  | cons a as ih => intro h; exact .cons (h a (by simp)) (ih (List.forall_mem_cons.mp h).2)

/-- **the converse at document level, up to the rule layer**: exposing the parsed families and parsing again is the parser's
rule layer on the re-rendered values, and the families that layer is run on are the parsed ones (`FamSame`) -/
theorem reparse_document (P : Params) (hI : IntLaw P.pyInt) (R : Rerender) (d : Str) (fs : List OFamily)
    (hacc : omParse P d = .ok fs) (hb : BackOK P R fs) :
    ∃ text, OMExpo.generateLatest (fs.map (famBack R)) = .ok text ∧
      omParse P text = rulesOnly P ((fs.map (famBack R)).map (fun fam => (fam, fam.samples.map (parsedOf P)))) ∧
      Forall2 (FamSame P R) fs ((fs.map (famBack R)).map (fun fam => ⟨fam.name, fam.doc, fam.typ, fam.unit, fam.samples.map (parsedOf P)⟩)) := by
  have hwf := omParse_wf P d fs hacc
  have hok := famBack_ok P R fs hwf hb
  obtain ⟨text, h1, _, h2⟩ := doc_parse P hI (fs.map (famBack R)) hok hb.adj
  refine ⟨text, h1, h2, ?_⟩
  rw [List.map_map]
  apply forall2_map
  intro f hf
  refine ⟨rfl, rfl, rfl, rfl, ?_⟩
  show Forall2 _ _ ((f.samples.map (sampleBack R)).map (parsedOf P))
  rw [List.map_map]
  apply forall2_map
  intro o ho
  rcases (hwf f hf).samples o ho with h3 | ⟨line, hl⟩
  · rw [hb.noNH f hf o ho] at h3; cases h3
  · obtain ⟨o', hp, hs⟩ := reparse_line P hI R line o hl (hb.laws f hf o ho)
    show SampleSame P R o (parsedOf P (sampleBack R o))
    unfold parsedOf
    rw [hp]
    exact hs

end PromVerif.Lemmas.OMRt
