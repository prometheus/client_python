/-
C12, the coupling invariant between the reference histories of the accepted calls (C01's abstraction of the in-memory
registry) and the file-backed state: `Core`.

  for every metric (`MetricCore`), the value objects of that metric were constructed child by child in creation order
  (`order`), the entry of every cell holds the in-memory value of that cell (`cells`), and for a mostrecent gauge the
  set-time is zero iff the child was never `set` (`tsok`).

A step touches one metric: `MetricCore.create` (`labels()` creating a child) and `MetricCore.update` (the value-object
calls of one accepted method call) re-establish its coupling, `MetricCore.frame` keeps that of the others (`Core.step`).
-/
import PromVerif.Lemmas.BackendsDisk
import PromVerif.Lemmas.MetricsRun
import PromVerif.Lemmas.MetricsCollect
import PromVerif.Lemmas.MetricsFrame
import PromVerif.Lemmas.MetricsNodup
import PromVerif.Lemmas.MetricsConstruct
import PromVerif.Lemmas.MetricsHist
import PromVerif.Spec.Backends

namespace PromVerif.Lemmas.Backends
open PromVerif.Py PromVerif.Generated.Multiprocess
open PromVerif.Model.Metrics (Val Decl Kind Child Action)
open PromVerif.Model.Multiprocess
open PromVerif.Model.Values
open PromVerif.Model.Backends
open PromVerif.Spec.Metrics (Hist appendAt modifyNth)
open PromVerif.Spec.Backends (hasSet)
open PromVerif.Lemmas.Metrics (childOf)
set_option autoImplicit false
set_option linter.unusedSectionVars false

variable {V : Type} [Val V]

/-- the children of a metric with the calls accepted on each: the metric itself when it has no labels -/
def childList (d : MDecl V) (h : Hist V) : List (List Str × List (Action V)) :=
  if d.decl.labelnames.isEmpty then [([], h.single)] else h.table

theorem childList_labelled {d : MDecl V} (hl : d.decl.labelnames.isEmpty = false) (h : Hist V) :
    childList d h = h.table := by
  rw [childList, hl]
  rfl

/-- set-time of a mostrecent gauge cell: zero iff never set, else a positive clock reading -/
def TsOK (acts : List (Action V)) (ts : V) : Prop :=
  (hasSet acts = false → ts = Val.zero) ∧
    (hasSet acts = true → (voOf V).truthy ts = true ∧ Val.lt (Val.zero : V) ts = true)

/-- what is needed of `time.time()`: every reading is truthy and positive -/
def ClockOK (clock : Nat → V) : Prop :=
  ∀ n, (voOf V).truthy (clock n) = true ∧ Val.lt (Val.zero : V) (clock n) = true

structure WFAll (ds : List (MDecl V)) : Prop where
  names : (ds.map (fun d => d.decl.name)).Nodup
  decls : ∀ d ∈ ds, WFDecl d

/-- (value, set-time) of the entry owned by the value object with parameters `p` -/
def cv (pid : Str) (disk : List (Str × Store V)) (p : Params) : V × V :=
  cellVal (voOf V) disk (fileOf pid p) (mmapKey p)

/-- the entries of a child's value objects hold the in-memory values of its cells -/
def CellsAgree (d : MDecl V) (pid : Str) (disk : List (Str × Store V)) (ka : List Str × List (Action V)) : Prop :=
  ∀ (pos : Nat) (p : Params) (v : V), (cellParams d ka.1)[pos]? = some p →
    (cellValues d (childOf d.decl ka.2))[pos]? = some v → (cv pid disk p).1 = v

/-- the coupling for ONE metric with children `cl` (label values and accepted calls of each): its value objects are those of
its children in creation order, the entry of every cell holds the in-memory value of that cell, and for a mostrecent
gauge the set-time is zero iff the child was never `set` -/
structure MetricCore (d : MDecl V) (pid : Str) (ps : List Params) (disk : List (Str × Store V))
    (cl : List (List Str × List (Action V))) : Prop where
  order : ps.filter (fun p => decide (p.metric = d.decl.name)) = cl.flatMap (fun ka => cellParams d ka.1)
  keylen : ∀ ka ∈ cl, ka.1.length = d.decl.labelnames.length
  keysNodup : (cl.map (·.1)).Nodup
  cells : ∀ ka ∈ cl, CellsAgree d pid disk ka
  tsok : isMostRecent d = true → ∀ ka ∈ cl, ∀ p ∈ cellParams d ka.1, TsOK ka.2 (cv pid disk p).2

structure Core (ds : List (MDecl V)) (pid : Str) (hs : List (Hist V)) (ps : List Params) (st : St V) : Prop where
  vinv : VInv (voOf V) pid st
  psEq : st.values.map (·.params) = ps
  known : ∀ p ∈ ps, ∃ d ∈ ds, p.metric = d.decl.name
  metric : ∀ (i : Nat) (d : MDecl V) (h : Hist V), ds[i]? = some d → hs[i]? = some h →
    MetricCore d pid ps st.disk (childList d h)


theorem modifyNth_eq_modify {α : Type} (f : α → α) : ∀ (i : Nat) (l : List α), modifyNth f i l = l.modify i f
  | _, [] => by rw [modifyNth, List.modify_nil]
  | 0, x :: xs => rfl
  | i + 1, x :: xs => by rw [modifyNth, List.modify_succ_cons, modifyNth_eq_modify f i xs]

theorem getElem?_modifyNth {α : Type} (f : α → α) (i : Nat) (l : List α) (j : Nat) :
    (modifyNth f i l)[j]? = if j = i then l[j]?.map f else l[j]? := by
  rw [modifyNth_eq_modify, List.getElem?_modify]
  by_cases e : i = j
  · subst e; simp
  · rw [if_neg (Ne.symm e)]; simp [e]

theorem names_ne {ds : List (MDecl V)} (hn : (ds.map (fun d => d.decl.name)).Nodup) (i j : Nat) (d d' : MDecl V)
    (hi : ds[i]? = some d) (hj : ds[j]? = some d') (hne : i ≠ j) : d.decl.name ≠ d'.decl.name := by
  apply nodup_getElem?_ne _ hn i j
  · rw [List.getElem?_map, hi]; rfl
  · rw [List.getElem?_map, hj]; rfl
  · exact hne

theorem filter_eq_self_of {α : Type} (q : α → Bool) (l : List α) (h : ∀ x ∈ l, q x = true) : l.filter q = l :=
  List.filter_eq_self.mpr h

theorem filter_eq_nil_of {α : Type} (q : α → Bool) (l : List α) (h : ∀ x ∈ l, q x = false) : l.filter q = [] := by
  rw [List.filter_eq_nil_iff]
  intro x hx; simp [h x hx]

theorem hasSet_append (acts : List (Action V)) (a : Action V) :
    hasSet (acts ++ [a]) = (hasSet acts || hasSet [a]) := by
  induction acts with
  | nil => rfl
  | cons x xs ih => cases x <;> simp only [List.cons_append, hasSet, ih, Bool.true_or]

theorem cellValues_init (d : MDecl V) (v : V) (h : v ∈ cellValues d (childOf d.decl ([] : List (Action V)))) :
    v = Val.zero := by
  unfold cellValues childOf at h
  simp only [List.foldl_nil, Model.Metrics.metricInit] at h
  cases hk : d.decl.kind <;> simp [hk] at h
  case histogram => exact h.elim id (fun h' => h'.2.symm)
  all_goals exact h

theorem cells_length (d : MDecl V) (key : List Str) (acts : List (Action V)) :
    (cellValues d (childOf d.decl acts)).length = (cellParams d key).length := by
  rw [cellParams_eq]
  unfold cellValues leTexts
  cases hk : d.decl.kind with
  | histogram bs =>
    simp only [List.length_cons, List.length_map]
    rw [PromVerif.Lemmas.Metrics.reachable_buckets_length d.decl bs hk acts]
  | _ => rfl

theorem ids_nodup_of_keys (qs : List Params) (h : (qs.map mmapKey).Nodup) : (qs.map idOf).Nodup := by
  apply nodup_of_nodup_map (fun x : Str × Key => x.2)
  rw [List.map_map]
  exact h


section oneMetric
variable {d : MDecl V} {pid : Str} {ps : List Params} {disk : List (Str × Store V)}
  {cl : List (List Str × List (Action V))}

theorem MetricCore.mem_cells (h : MetricCore d pid ps disk cl) (p : Params) :
    (∃ ka ∈ cl, p ∈ cellParams d ka.1) ↔ p ∈ ps ∧ p.metric = d.decl.name := by
  rw [← List.mem_flatMap, ← h.order, List.mem_filter, decide_eq_true_eq]

theorem MetricCore.frame (h : MetricCore d pid ps disk cl) (ps' : List Params)
    (disk' : List (Str × Store V))
    (hps : ps'.filter (fun p => decide (p.metric = d.decl.name)) = ps.filter (fun p => decide (p.metric = d.decl.name)))
    (hdisk : ∀ ka ∈ cl, ∀ p ∈ cellParams d ka.1,
      cv pid disk' p = cv pid disk p) :
    MetricCore d pid ps' disk' cl := by
  refine ⟨hps.trans h.order, h.keylen, h.keysNodup, ?_, ?_⟩
  · intro ka hka pos p v hp hv
    rw [hdisk ka hka p (List.mem_of_getElem? hp)]
    exact h.cells ka hka pos p v hp hv
  · intro hmr ka hka p hp
    rw [hdisk ka hka p hp]
    exact h.tsok hmr ka hka p hp

theorem MetricCore.create (h : MetricCore d pid ps disk cl) (key : List Str)
    (hkey : key ∉ cl.map (·.1)) (hlen : key.length = d.decl.labelnames.length) (disk' : List (Str × Store V))
    (hold : ∀ p, cv pid disk' p = cv pid disk p)
    (hzero : ∀ q ∈ cellParams d key, cv pid disk q = ((voOf V).zero, (voOf V).zero)) :
    MetricCore d pid (ps ++ cellParams d key) disk' (cl ++ [(key, [])]) := by
  refine ⟨?_, ?_, ?_, ?_, ?_⟩
  · rw [List.filter_append, h.order, List.flatMap_append,
      filter_eq_self_of _ _ (fun x hx => by simpa using (cellParams_metric d key x hx).1)]
    simp
  · exact List.forall_mem_append.mpr ⟨h.keylen, List.forall_mem_singleton.mpr hlen⟩
  · rw [List.map_append]
    exact nodup_concat h.keysNodup hkey
  -- the old children keep their entries, the cells of the new child read zero
  · refine List.forall_mem_append.mpr
      ⟨fun ka hka pos p v hp hv => ?_, List.forall_mem_singleton.mpr (fun pos p v hp hv => ?_)⟩
    · rw [hold]
      exact h.cells ka hka pos p v hp hv
    · rw [hold, hzero p (List.mem_of_getElem? hp)]
      exact (cellValues_init d v (List.mem_of_getElem? hv)).symm
  · intro hmr
    refine List.forall_mem_append.mpr ⟨fun ka hka p hp => ?_, List.forall_mem_singleton.mpr (fun p hp => ?_)⟩
    · rw [hold]
      exact h.tsok hmr ka hka p hp
    · rw [hold, hzero p hp]
      exact ⟨fun _ => rfl, fun hs' => by simp [hasSet] at hs'⟩

/-- the history of the metric after one more accepted call on the child `key` -/
def hsAct (d : MDecl V) (key : List Str) (a : Action V) (h : Hist V) : Hist V :=
  if d.decl.labelnames.isEmpty then { h with single := h.single ++ [a] } else { h with table := appendAt key a h.table }

def actOn (key : List Str) (a : Action V) (ka : List Str × List (Action V)) : List Str × List (Action V) :=
  if ka.1 = key then (ka.1, ka.2 ++ [a]) else ka

theorem actOn_fst (key : List Str) (a : Action V) (ka : List Str × List (Action V)) : (actOn key a ka).1 = ka.1 := by
  unfold actOn; split <;> rfl

theorem map_actOn_of_not_mem (key : List Str) (a : Action V) (t : List (List Str × List (Action V)))
    (h : key ∉ t.map (·.1)) : t.map (actOn key a) = t :=
  (List.map_congr_left (fun ka hka => if_neg (fun (e : ka.1 = key) => h (e ▸ List.mem_map_of_mem hka)))).trans (List.map_id t)

theorem appendAt_map (key : List Str) (a : Action V) : ∀ (t : List (List Str × List (Action V))),
    (t.map (·.1)).Nodup → key ∈ t.map (·.1) → appendAt key a t = t.map (actOn key a)
  | [], _, h => by cases h
  | kh :: t, hnd, hk => by
    simp only [List.map_cons, List.nodup_cons] at hnd
    by_cases e : kh.1 = key
    · have : key ∉ t.map (·.1) := e ▸ hnd.1
      simp [appendAt, e, map_actOn_of_not_mem key a t this, actOn]
    · have hk' : key ∈ t.map (·.1) := (List.mem_cons.mp hk).resolve_left (fun e' => e e'.symm)
      simp [appendAt, e, appendAt_map key a t hnd.2 hk', actOn]

theorem childList_hsAct (d : MDecl V) (h : Hist V) (key : List Str) (a : Action V)
    (hnd : ((childList d h).map (·.1)).Nodup) (hk : key ∈ (childList d h).map (·.1)) :
    childList d (hsAct d key a h) = (childList d h).map (actOn key a) := by
  unfold childList hsAct at *
  cases hl : d.decl.labelnames.isEmpty with
  | true =>
    simp only [hl, if_true, List.map_cons, List.map_nil, List.mem_singleton] at hk ⊢
    subst hk
    simp [actOn]
  | false =>
    simp only [hl, Bool.false_eq_true, if_false] at hnd hk ⊢
    exact appendAt_map key a h.table hnd hk

/-- `us` are the value-object calls of an accepted call `a` on a child with the calls `acts` so far: they move the cells as
the method moves them in memory, and on a mostrecent gauge they are nothing (`a` is no `set`) or one `set` stamped with a
positive time -/
structure CallUpds (d : MDecl V) (acts : List (Action V)) (a : Action V) (us : List (CellUpd V)) : Prop where
  cells : cellValues d (childOf d.decl (acts ++ [a])) = applyUpds (cellValues d (childOf d.decl acts)) us
  mostRecent : isMostRecent d = true → (us = [] ∧ hasSet [a] = false) ∨
    (∃ x t, us = [CellUpd.set 0 x (some t)] ∧ (voOf V).truthy t = true ∧ Val.lt (Val.zero : V) t = true ∧ hasSet [a] = true)

theorem CellsAgree.update {key : List Str} {acts : List (Action V)} (h : CellsAgree d pid disk (key, acts)) {a : Action V}
    {us : List (CellUpd V)}
    (hu : cellValues d (childOf d.decl (acts ++ [a])) = applyUpds (cellValues d (childOf d.decl acts)) us)
    {disk' : List (Str × Store V)} {f : Nat → V × V}
    (hf : ∀ j p, (cellParams d key)[j]? = some p → cv pid disk p = f j)
    (hcell : ∀ j p, (cellParams d key)[j]? = some p → cv pid disk' p = pairsAfter (voOf V) f us j) :
    CellsAgree d pid disk' (key, acts ++ [a]) := by
  intro pos p v hp (hv : (cellValues d (childOf d.decl (acts ++ [a])))[pos]? = some v)
  rw [hcell pos p hp]
  rw [hu] at hv
  apply pairs_fst us _ (cellValues d (childOf d.decl acts)) _ pos v hv
  intro j' v' hv'
  -- every in-memory cell has a value object
  have hlt : j' < (cellParams d key).length := by
    rw [← cells_length d key acts]; exact (List.getElem?_eq_some_iff.mp hv').1
  have hq := List.getElem?_eq_getElem hlt
  rw [← hf j' _ hq]
  exact h j' _ v' hq hv'

theorem TsOK.update {acts : List (Action V)} {a : Action V} {us : List (CellUpd V)} (hu : CallUpds d acts a us)
    (hmr : isMostRecent d = true) (f : Nat → V × V) (hold : TsOK acts (f 0).2) :
    TsOK (acts ++ [a]) (pairsAfter (voOf V) f us 0).2 := by
  rcases hu.mostRecent hmr with ⟨e1, e2⟩ | ⟨x, t, e1, e2, e3, e4⟩
  · subst e1
    unfold TsOK
    rw [hasSet_append, e2, Bool.or_false]
    exact hold
  · subst e1
    simp only [pairsAfter, List.foldl_cons, List.foldl_nil, pairUpd, updPos, updVal, if_true, tsOr0, e2]
    refine ⟨fun hf' => by rw [hasSet_append, e4] at hf'; simp at hf', fun _ => ⟨e2, e3⟩⟩

/-- one more accepted call `a` on the child `key`, whose cells move as `us` says (`hcell`: what `run_updates` delivers from
the old entries `f`) while every other entry stays (`hframe`) -/
theorem MetricCore.update (hwd : WFDecl d) (h : MetricCore d pid ps disk cl) (key : List Str)
    (acts : List (Action V)) (hka : (key, acts) ∈ cl) (a : Action V) (us : List (CellUpd V))
    (hu : CallUpds d acts a us) (disk' : List (Str × Store V)) (f : Nat → V × V)
    (hf : ∀ j p, (cellParams d key)[j]? = some p → cv pid disk p = f j)
    (hframe : ∀ fn k, (∀ p ∈ cellParams d key, ¬ (fileOf pid p = fn ∧ mmapKey p = k)) →
      cellVal (voOf V) disk' fn k = cellVal (voOf V) disk fn k)
    (hcell : ∀ j p, (cellParams d key)[j]? = some p →
      cv pid disk' p = pairsAfter (voOf V) f us j) :
    MetricCore d pid ps disk' (cl.map (actOn key a)) := by
  have hchild : ∀ ka ∈ cl, CellsAgree d pid disk' (actOn key a ka) ∧
      (isMostRecent d = true → ∀ p ∈ cellParams d ka.1, TsOK (actOn key a ka).2 (cv pid disk' p).2) := by
    intro ka hka'
    by_cases ek : ka.1 = key
    · -- the child called
      obtain rfl := inj_of_nodup_map _ _ h.keysNodup ka hka' (key, acts) hka ek
      rw [actOn, if_pos rfl]
      refine ⟨(h.cells _ hka).update hu.cells hf hcell, fun hmr p hp => ?_⟩
      -- a gauge has one cell
      have hone : (cellParams d key)[0]? = some p := by
        rw [gauge_params d (kind_of_mostRecent d hmr)] at hp ⊢
        rw [List.mem_singleton.mp hp]
        rfl
      have hold := h.tsok hmr (key, acts) hka p hp
      rw [hf 0 p hone] at hold
      rw [hcell 0 p hone]
      exact TsOK.update hu hmr f hold
    · -- another child keeps its calls and, its keys being others, the entries of its cells
      have hkeep : ∀ q ∈ cellParams d ka.1, cv pid disk' q = cv pid disk q := by
        intro q hq
        refine hframe _ _ (fun p hp ⟨_, e⟩ => ?_)
        exact cellKeys_disjoint d hwd key ka.1 (h.keylen _ hka) (h.keylen ka hka') (Ne.symm ek) p q hp hq e
      rw [actOn, if_neg ek]
      refine ⟨fun pos p v hp hv => ?_, fun hmr p hp => ?_⟩
      · rw [hkeep p (List.mem_of_getElem? hp)]
        exact h.cells ka hka' pos p v hp hv
      · rw [hkeep p hp]
        exact h.tsok hmr ka hka' p hp
  refine ⟨?_, ?_, ?_, ?_, ?_⟩
  · rw [h.order, List.flatMap_map]
    simp only [actOn_fst]
  · refine List.forall_mem_map.mpr (fun ka hka' => ?_)
    rw [actOn_fst]
    exact h.keylen ka hka'
  · simp only [List.map_map, Function.comp_def, actOn_fst]
    exact h.keysNodup
  · exact List.forall_mem_map.mpr (fun ka hka' => (hchild ka hka').1)
  · intro hmr
    refine List.forall_mem_map.mpr (fun ka hka' p hp => ?_)
    rw [actOn_fst] at hp
    exact (hchild ka hka').2 hmr p hp

end oneMetric


theorem Core.step {ds : List (MDecl V)} {pid : Str} {hs : List (Hist V)} {ps : List Params} {st : St V} (hwf : WFAll ds)
    (hc : Core ds pid hs ps st) {i : Nat} {d : MDecl V} {h : Hist V} (hd : ds[i]? = some d) (hh : hs[i]? = some h)
    (g : Hist V → Hist V) (qs : List Params) {ps' : List Params} (hps' : ps' = ps ++ qs) (st' : St V)
    (hv : VInv (voOf V) pid st') (hps : st'.values.map (·.params) = ps') (hqs : ∀ q ∈ qs, q.metric = d.decl.name)
    (hthis : MetricCore d pid ps' st'.disk (childList d (g h)))
    (hother : ∀ p : Params, p.metric ≠ d.decl.name →
      cv pid st'.disk p = cv pid st.disk p) :
    Core ds pid (modifyNth g i hs) ps' st' := by
  subst hps'
  refine ⟨hv, hps, ?_, ?_⟩
  · intro p hp
    rcases List.mem_append.mp hp with hp | hp
    · exact hc.known p hp
    · exact ⟨d, List.mem_of_getElem? hd, hqs p hp⟩
  · intro j d' h' hd' hj
    rw [getElem?_modifyNth] at hj
    by_cases e : j = i
    · subst e
      rw [hd] at hd'; cases hd'
      simp only [if_true, hh, Option.map_some, Option.some.injEq] at hj
      subst hj
      exact hthis
    · simp only [e, if_false] at hj
      have hne := names_ne hwf.names i j d d' hd hd' (Ne.symm e)
      apply (hc.metric j d' h' hd' hj).frame
      · rw [List.filter_append, filter_eq_nil_of _ qs (fun q hq => by
          simp only [decide_eq_false_iff_not]; rw [hqs q hq]; exact hne), List.append_nil]
      · intro ka _ p hp
        exact hother p (by rw [(cellParams_metric d' ka.1 p hp).1]; exact hne.symm)


section oneStep
variable {ds : List (MDecl V)} (hwf : WFAll ds) {pid : Str} {hs : List (Hist V)} {ps : List Params} {st : St V}
  (hc : Core ds pid hs ps st) {i : Nat} {d : MDecl V} {h : Hist V} (hd : ds[i]? = some d) (hh : hs[i]? = some h)
include hwf hc hd hh

theorem core_create (hlab : d.decl.labelnames.isEmpty = false) (key : List Str) (hkey : key ∉ h.table.map (·.1))
    (hlen : key.length = d.decl.labelnames.length) :
    Core ds pid (modifyNth (fun h => { h with table := h.table ++ [(key, [])] }) i hs) (ps ++ cellParams d key)
      (run (voOf V) st ((cellParams d key).map Op.construct)) := by
  have hwd := hwf.decls d (List.mem_of_getElem? hd)
  have hm := hc.metric i d h hd hh
  rw [childList_labelled hlab] at hm
  have hnew : ∀ q ∈ cellParams d key, idOf q ∉ idsOf st := by
    intro q hq hmem
    obtain ⟨v, hv, e⟩ := List.mem_map.mp hmem
    have hvp : v.params ∈ ps := by rw [← hc.psEq]; exact List.mem_map_of_mem hv
    have ek : mmapKey v.params = mmapKey q := congrArg Prod.snd e
    have em : v.params.metric = d.decl.name :=
      (congrArg Key.metric ek : v.params.metric = q.metric).trans (cellParams_metric d key q hq).1
    obtain ⟨ka, hka, hin'⟩ := (hm.mem_cells _).mpr ⟨hvp, em⟩
    have hne : ka.1 ≠ key := fun e' => hkey (e' ▸ List.mem_map_of_mem hka)
    exact cellKeys_disjoint d hwd ka.1 key (hm.keylen ka hka) hlen hne _ _ hin' hq ek
  obtain ⟨r1, r2, r3⟩ := run_constructs (voOf V) pid (cellParams d key) st hc.vinv
    (ids_nodup_of_keys _ (cellKeys_nodup d hwd key hlen)) hnew
  apply Core.step hwf hc hd hh _ _ rfl _ r1 (by rw [r2, hc.psEq]) (fun q hq => (cellParams_metric d key q hq).1)
  · rw [childList_labelled hlab]
    exact hm.create key hkey hlen _ (fun _ => r3 _ _) (fun q hq => cellVal_of_new hc.vinv q (hnew q hq))
  · intro p _
    exact r3 _ _

theorem core_update {key : List Str} {acts : List (Action V)} (hka : (key, acts) ∈ childList d h) (a : Action V)
    (us : List (CellUpd V)) (hu : CallUpds d acts a us) :
    Core ds pid (modifyNth (hsAct d key a) i hs) ps
      (run (voOf V) st (us.flatMap (toVop ps (cellParams d key)))) := by
  have hwd := hwf.decls d (List.mem_of_getElem? hd)
  have hm := hc.metric i d h hd hh
  have hcells : ∀ p ∈ cellParams d key, p ∈ ps := fun p hp => ((hm.mem_cells p).mp ⟨(key, acts), hka, hp⟩).1
  have hf : ∀ (j : Nat) (p : Params), (cellParams d key)[j]? = some p → cv pid st.disk p
      = (match (cellParams d key)[j]? with
        | some q => cv pid st.disk q
        | none => (Val.zero, Val.zero)) := fun j p hj => by rw [hj]
  obtain ⟨r1, r2, r3, r4⟩ := run_updates (voOf V) pid ps (cellParams d key) hcells
    (cellKeys_nodup d hwd key (hm.keylen (key, acts) hka)) us st _ hc.vinv hc.psEq hf
  exact Core.step hwf hc hd hh (hsAct d key a) [] (List.append_nil ps).symm _ r1 r2 (fun q hq => by cases hq)
    (by
      rw [childList_hsAct d h key a hm.keysNodup (List.mem_map_of_mem hka)]
      exact hm.update hwd key acts hka a us hu _ _ hf r3 r4)
    (by
      intro p hp
      apply r3
      intro q hq ⟨_, ek⟩
      have : q.metric = p.metric := congrArg Key.metric ek
      exact hp (this ▸ (cellParams_metric d key q hq).1))

/-- a change of the history that leaves the children and their calls alone (a method on a labelled parent) -/
theorem core_same_children (g : Hist V → Hist V) (hg : childList d (g h) = childList d h) :
    Core ds pid (modifyNth g i hs) ps st :=
  Core.step hwf hc hd hh g [] (List.append_nil ps).symm st hc.vinv hc.psEq (fun _ hq => nomatch hq)
    (by rw [hg]; exact hc.metric i d h hd hh) (fun _ _ => rfl)

end oneStep

end PromVerif.Lemmas.Backends
