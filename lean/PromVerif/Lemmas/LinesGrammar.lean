/-
C05 lemmas about the line grammar alone (`Spec.LineGrammar`): splitting on a separator, the sample-line automaton,
the metadata scanners, `classify` — LF kills every scanner, so whatever is recognised as a line is LF-free — and the
two notions the document theorems are stated with: `LineOf` (one LF-terminated line of a given kind) and `LinesOf`
(a list of them, kind by kind), whose concatenation `lineKinds` reads back exactly (`lineKinds_flatten`).
-/
import PromVerif.Py.Str
import PromVerif.Spec.LineGrammar

namespace PromVerif.Lemmas.Lines
open PromVerif.Py
open PromVerif.Spec.LineGrammar hiding Str

theorem splitOn_of_not_mem (sep : Char) (a : Str) (h : sep ∉ a) : splitOn sep a = [a] := by
  induction a with
  | nil => rfl
  | cons x xs ih =>
    rw [List.mem_cons, not_or] at h
    simp [splitOn, Ne.symm h.1, ih h.2]

theorem splitOn_append_sep (sep : Char) (a b : Str) (h : sep ∉ a) :
    splitOn sep (a ++ sep :: b) = a :: splitOn sep b := by
  induction a with
  | nil => simp [splitOn]
  | cons x xs ih =>
    rw [List.mem_cons, not_or] at h
    simp [splitOn, Ne.symm h.1, ih h.2]

/-- an LF-terminated line without an inner LF -/
def IsLine (l : Str) : Prop := ∃ b, l = b ++ ['\n'] ∧ '\n' ∉ b

theorem IsLine.dropLast {l : Str} (h : IsLine l) : l = l.dropLast ++ ['\n'] ∧ '\n' ∉ l.dropLast := by
  obtain ⟨b, rfl, hb⟩ := h
  simp [hb]

theorem splitOn_lines (L : List Str) (h : ∀ l ∈ L, IsLine l) :
    splitOn '\n' L.flatten = L.map List.dropLast ++ [[]] := by
  induction L with
  | nil => rfl
  | cons l ls ih =>
    obtain ⟨b, rfl, hb⟩ := h l List.mem_cons_self
    have := ih (List.forall_mem_cons.mp h).2
    simp only [List.flatten_cons, List.map_cons, List.dropLast_concat, List.append_assoc, List.cons_append]
    rw [splitOn_append_sep _ _ _ hb, List.nil_append, this]

theorem count_sep_splitOn (sep : Char) (s : Str) : (splitOn sep s).length = s.count sep + 1 := by
  fun_induction splitOn sep s with
  | case1 => rfl
  | case2 cs ih => simp [ih]
  | case3 c cs hc hs ih => simp [hs] at ih
  | case4 c cs hc a as hs ih =>
    rw [hs] at ih
    simpa [List.count_cons, hc] using ih

theorem run_append (om : Bool) (st : St) (a b : Str) : run om st (a ++ b) = run om (run om st a) b := by
  simp [run, List.foldl_append]

theorem run_cons (om : Bool) (st : St) (c : Char) (r : Str) : run om st (c :: r) = run om (step om st c) r := rfl

@[simp] theorem run_nil (om : Bool) (st : St) : run om st [] = st := rfl

@[simp] theorem run_dead (om : Bool) (s : Str) : run om .dead s = .dead := by
  induction s with
  | nil => rfl
  | cons c cs ih => simpa [run_cons, step] using ih

theorem run_all (om : Bool) (st : St) (p : Char → Bool) (hstep : ∀ c, p c = true → step om st c = st)
    (s : Str) (h : s.all p = true) : run om st s = st := by
  induction s with
  | nil => rfl
  | cons c cs ih =>
    simp only [List.all_cons, Bool.and_eq_true] at h
    rw [run_cons, hstep c h.1]; exact ih h.2

theorem run_tok (om : Bool) (st0 st : St) (p : Char → Bool)
    (hp : ∀ c, p c = true → step om st0 c = st ∧ step om st c = st) (s : Str) (hne : s ≠ []) (h : s.all p = true) :
    run om st0 s = st := by
  cases s with
  | nil => exact absurd rfl hne
  | cons c cs =>
    simp only [List.all_cons, Bool.and_eq_true] at h
    rw [run_cons, (hp c h.1).1]; exact run_all om st p (fun c hc => (hp c hc).2) cs h.2

/-- the states with a parameter the transition depends on are split first -/
theorem step_lf (om : Bool) (st : St) : step om st '\n' = .dead := by
  cases st with
  | q k e => cases e <;> rfl
  | qe k => cases k <;> rfl
  | t0 => cases om <;> rfl
  | t => cases om <;> rfl
  | _ => rfl

theorem run_of_mem_lf (om : Bool) (st : St) (s : Str) (h : '\n' ∈ s) : run om st s = .dead := by
  induction s generalizing st with
  | nil => simp at h
  | cons c cs ih =>
    rw [run_cons]
    by_cases hc : c = '\n'
    · subst hc; rw [step_lf]; exact run_dead _ _
    · exact ih _ (List.mem_of_ne_of_mem (Ne.symm hc) h)

theorem sampleLine_noLF (om : Bool) (l : Str) (h : sampleLine om l = true) : '\n' ∉ l := by
  intro hm
  simp [sampleLine, run_of_mem_lf om _ l hm, accepting] at h

theorem stripPrefix_append (p x : Str) : stripPrefix p (p ++ x) = some x := by
  induction p with
  | nil => rfl
  | cons a p ih => simp [stripPrefix, ih]

theorem stripPrefix_eq (p l r : Str) (h : stripPrefix p l = some r) : l = p ++ r := by
  fun_induction stripPrefix p l with
  | case1 => cases h; rfl
  | case2 => cases h
  | case3 p b l ih => rw [List.cons_append, ← ih h]
  | case4 => cases h

theorem stripPrefix_head_ne (p l : Str) (a c : Char) (hp : p.head? = some a) (h : c ≠ a) :
    stripPrefix p (c :: l) = none := by
  cases p with
  | nil => cases hp
  | cons b p =>
    cases hp
    simp [stripPrefix, Ne.symm h]

/-- the scanners below return the rest of their input; an LF in the input is never consumed, so it is in the rest.
In each branch the scanner has just consumed a character that is visibly not LF (`List.mem_of_ne_of_mem`). -/
theorem qscan_lf (e : Bool) (r t : Str) (h : qscan e r = some t) (hm : '\n' ∈ r) : '\n' ∈ t := by
  fun_induction qscan e r with
  | case1 => cases h
  | case2 c cs hc ih => exact ih h (List.mem_of_ne_of_mem (by rcases hc with rfl | rfl | rfl <;> decide) hm)
  | case3 => cases h
  | case4 _ cs _ ih => exact ih h (List.mem_of_ne_of_mem (by decide) hm)
  | case5 => cases h; exact List.mem_of_ne_of_mem (by decide) hm
  | case6 => cases h
  | case7 _ c cs _ _ _ hc ih => exact ih h (List.mem_of_ne_of_mem (Ne.symm hc) hm)

theorem bareTail_lf (r t : Str) (h : bareTail r = some t) (hm : '\n' ∈ r) : '\n' ∈ t := by
  fun_induction bareTail r with
  | case1 => cases h
  | case2 c cs hc ih => exact ih h (List.mem_of_ne_of_mem (by rintro rfl; revert hc; decide) hm)
  | case3 => cases h; exact List.mem_of_ne_of_mem (by decide) hm
  | case4 => cases h

theorem metaName_lf (r t : Str) (h : metaName r = some t) (hm : '\n' ∈ r) : '\n' ∈ t := by
  cases r with
  | nil => simp at hm
  | cons c cs =>
    simp only [metaName] at h
    split at h
    · next hc => exact bareTail_lf cs t h (List.mem_of_ne_of_mem (by rintro rfl; revert hc; decide) hm)
    split at h
    · next hc =>
      split at h
      · next r' hs =>
        cases h
        simpa using qscan_lf false cs _ hs (List.mem_of_ne_of_mem (by rw [hc]; decide) hm)
      · cases h
    · cases h

theorem hscan_lf (e : Bool) (t : Str) (h : hscan e t = true) : '\n' ∉ t := by
  fun_induction hscan e t with
  | case1 => exact List.not_mem_nil
  | case2 c cs hc ih => exact fun hm => ih h (List.mem_of_ne_of_mem (by rcases hc with rfl | rfl <;> decide) hm)
  | case3 => cases h
  | case4 _ cs _ ih => exact fun hm => ih h (List.mem_of_ne_of_mem (by decide) hm)
  | case5 => cases h
  | case6 _ c cs _ _ hc ih => exact fun hm => ih h (List.mem_of_ne_of_mem (Ne.symm hc) hm)

theorem helpText_lf (om : Bool) (t : Str) (h : helpText om t = true) : '\n' ∉ t := by
  cases om
  · exact hscan_lf false t h
  · exact fun hm => nomatch qscan_lf false (t ++ ['"']) [] (beq_iff_eq.mp h) (List.mem_append_left _ hm)

theorem types_noLF (om : Bool) (t : Str) (h : (if om then typesOM else typesText).contains t = true) : '\n' ∉ t := by
  have : ∀ w ∈ typesOM ++ typesText, '\n' ∉ w := by
    unfold typesOM typesText
    repeat rw [String.toList_ofList]
    decide +kernel
  cases om
  · exact this t (List.mem_append_right _ (List.contains_iff_mem.mp h))
  · exact this t (List.mem_append_left _ (List.contains_iff_mem.mp h))

theorem not_mem_of_all (p : Char → Bool) (s : Str) (h : s.all p = true) (x : Char) (hx : p x = false) : x ∉ s :=
  fun hm => by rw [List.all_eq_true.mp h x hm] at hx; cases hx

theorem unitTok_noLF (u : Str) (h : unitTok u = true) : '\n' ∉ u :=
  not_mem_of_all _ u ((Bool.and_eq_true _ _).mp h).2 '\n' rfl

/-- the name scanner passes no LF on.  `h` is the shape the three metadata branches of `classify` share. -/
theorem metaLine_noLF (p l r : Str) (ok : Str → Bool) (k k' : Kind) (hp : stripPrefix p l = some r) (hlit : '\n' ∉ p)
    (hok : ∀ t, ok t = true → '\n' ∉ t)
    (h : (match metaName r with
      | some t => if ok t then some k else none
      | none => none) = some k') : '\n' ∉ l := by
  split at h
  · next t hn =>
    split at h
    · next ht =>
      rw [stripPrefix_eq p l r hp, List.mem_append]
      exact fun hm => hm.elim hlit (fun hr => hok t ht (metaName_lf r t hn hr))
    · cases h
  · cases h

/-- all that the proofs below need of the four string constants of `classify`.  (Read as character lists first:
decoding a `String` literal is dear, and every other way of looking into one — unifying it with `'#' :: _`,
`decide` — decodes it.) -/
theorem metaPrefix_facts : ∀ p ∈ ["# HELP ".toList, "# TYPE ".toList, "# UNIT ".toList, "# EOF".toList],
    p.head? = some '#' ∧ '\n' ∉ p := by
  repeat rw [String.toList_ofList]
  decide +kernel

theorem metaPrefix_distinct (x : Str) : stripPrefix "# HELP ".toList ("# TYPE ".toList ++ x) = none ∧
    stripPrefix "# HELP ".toList ("# UNIT ".toList ++ x) = none ∧
    stripPrefix "# TYPE ".toList ("# UNIT ".toList ++ x) = none := by
  repeat rw [String.toList_ofList]
  exact ⟨rfl, rfl, rfl⟩

theorem classify_noLF (om : Bool) (l : Str) (k : Kind) (h : classify om l = some k) : '\n' ∉ l := by
  have hp := metaPrefix_facts
  simp only [List.forall_mem_cons] at hp
  obtain ⟨⟨_, hHelp⟩, ⟨_, hType⟩, ⟨_, hUnit⟩, ⟨_, hEof⟩, _⟩ := hp
  unfold classify at h
  split at h
  · next r h1 => exact metaLine_noLF _ l r _ _ _ h1 hHelp (helpText_lf om) h
  · split at h
    · next r h1 => exact metaLine_noLF _ l r _ _ _ h1 hType (types_noLF om) h
    · split at h
      · next r h1 =>
        cases om
        · cases h1
        · exact metaLine_noLF _ l r _ _ _ h1 hUnit unitTok_noLF h
      · split at h
        · next he =>
          simp only [Bool.and_eq_true, beq_iff_eq] at he
          rw [he.2]; exact hEof
        · split at h
          · next hs => exact sampleLine_noLF om l hs
          · cases h

theorem classify_sample (om : Bool) (l : Str) (h : sampleLine om l = true) : classify om l = some .sample := by
  cases l with
  | nil => cases h
  | cons c r =>
    -- the line does not start with `#` (the automaton would be dead), so none of the four constants is a prefix
    have hc : c ≠ '#' := by
      rintro rfl
      rw [sampleLine, run_cons, show step om .s0 '#' = .dead from rfl, run_dead] at h
      cases h
    have hp := metaPrefix_facts
    simp only [List.forall_mem_cons] at hp
    obtain ⟨⟨h1, _⟩, ⟨h2, _⟩, ⟨h3, _⟩, ⟨h4, _⟩, _⟩ := hp
    have h4 : ((c :: r) == "# EOF".toList) = false := by
      rw [beq_eq_false_iff_ne]
      intro e
      rw [← e] at h4
      exact hc (Option.some.inj h4)
    unfold classify
    simp only [stripPrefix_head_ne _ r _ c h1 hc, stripPrefix_head_ne _ r _ c h2 hc, stripPrefix_head_ne _ r _ c h3 hc,
      h4, h]
    cases om <;> rfl

theorem classify_eof_nil : classify true "# EOF".toList = some .eof ∧ ∀ om : Bool, classify om [] = none := by
  decide +kernel

/-- a line of the model together with its kind: LF-terminated, body classified -/
def LineOf (om : Bool) (k : Kind) (l : Str) : Prop := ∃ b, l = b ++ ['\n'] ∧ classify om b = some k

theorem LineOf.body {om : Bool} {k : Kind} {l : Str} (h : LineOf om k l) :
    ∃ b, l = b ++ ['\n'] ∧ '\n' ∉ b ∧ classify om b = some k :=
  let ⟨b, hb, hk⟩ := h; ⟨b, hb, classify_noLF om b k hk, hk⟩

theorem LineOf.isLine {om : Bool} {k : Kind} {l : Str} (h : LineOf om k l) : IsLine l :=
  let ⟨b, hb, hn, _⟩ := h.body; ⟨b, hb, hn⟩

theorem LineOf.kind {om : Bool} {k : Kind} {l : Str} (h : LineOf om k l) : classify om l.dropLast = some k := by
  obtain ⟨b, rfl, hb⟩ := h
  simpa using hb

theorem eof_line : "# EOF\n".toList = "# EOF".toList ++ ['\n'] := by
  rw [String.toList_ofList, String.toList_ofList]; rfl

theorem eof_lineOf : LineOf true .eof "# EOF\n".toList := ⟨_, eof_line, classify_eof_nil.1⟩

/-- `ls` are LF-terminated lines of the grammar whose kinds are `ks`, in order -/
def LinesOf (om : Bool) : List Str → List Kind → Prop
  | [], [] => True
  | l :: ls, k :: ks => LineOf om k l ∧ LinesOf om ls ks
  | _, _ => False

theorem LinesOf.append {om : Bool} {a b : List Str} {ka kb : List Kind} (ha : LinesOf om a ka) (hb : LinesOf om b kb) :
    LinesOf om (a ++ b) (ka ++ kb) := by
  fun_induction LinesOf om a ka with
  | case1 => exact hb
  | case2 l ls k ks ih => exact ⟨ha.1, ih ha.2⟩
  | case3 => exact ha.elim

theorem LinesOf.lineOf {om : Bool} {ls : List Str} {ks : List Kind} (h : LinesOf om ls ks) :
    ∀ l ∈ ls, ∃ k, LineOf om k l := by
  fun_induction LinesOf om ls ks with
  | case1 => exact List.forall_mem_nil _
  | case2 l ls k ks ih => exact List.forall_mem_cons.mpr ⟨⟨k, h.1⟩, ih h.2⟩
  | case3 => exact h.elim

theorem LinesOf.isLine {om : Bool} {ls : List Str} {ks : List Kind} (h : LinesOf om ls ks) : ∀ l ∈ ls, IsLine l :=
  fun l hl => let ⟨_, hk⟩ := h.lineOf l hl; hk.isLine

theorem LinesOf.kinds {om : Bool} {ls : List Str} {ks : List Kind} (h : LinesOf om ls ks) :
    ls.map (classify om ∘ List.dropLast) = ks.map some := by
  fun_induction LinesOf om ls ks with
  | case1 => rfl
  | case2 l ls k ks ih => simp [h.1.kind, ih h.2]
  | case3 => exact h.elim

theorem LinesOf.flatten {om : Bool} {α : Type} (xs : List α) (f : α → List Str) (g : α → List Kind)
    (h : ∀ x ∈ xs, LinesOf om (f x) (g x)) : LinesOf om (xs.map f).flatten (xs.flatMap g) := by
  induction xs with
  | nil => simp [LinesOf]
  | cons x r ih =>
    exact (h x List.mem_cons_self).append (ih fun y hy => h y (List.mem_cons_of_mem x hy))

theorem LinesOf.replicate {om : Bool} {k : Kind} (ls : List Str) (h : ∀ l ∈ ls, LineOf om k l) :
    LinesOf om ls (List.replicate ls.length k) := by
  induction ls with
  | nil => trivial
  | cons x xs ih => exact ⟨h x List.mem_cons_self, ih (List.forall_mem_cons.mp h).2⟩

theorem LinesOf.map_replicate {om : Bool} {k : Kind} {α : Type} (xs : List α) (f : α → Str)
    (h : ∀ x ∈ xs, LineOf om k (f x)) : LinesOf om (xs.map f) (List.replicate xs.length k) := by
  rw [← List.length_map f]
  exact LinesOf.replicate _ (List.forall_mem_map.mpr h)

theorem lineKinds_flatten {om : Bool} {ls : List Str} {ks : List Kind} (h : LinesOf om ls ks) :
    lineKinds om ls.flatten = ks.map some ++ [none] := by
  unfold lineKinds
  rw [splitOn_lines ls h.isLine, List.map_append, List.map_map, h.kinds, List.map_cons, List.map_nil, classify_eof_nil.2]

end PromVerif.Lemmas.Lines
