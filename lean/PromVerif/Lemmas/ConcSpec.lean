/-
Lemmas/ConcSpec — from the decidable check on a skeleton's CANONICAL code (`wellLockedB`) to the three disciplines of the
code of calls on arbitrary objects, and of whole thread programs.
-/
import PromVerif.Spec.Conc
import PromVerif.Lemmas.ConcInv

namespace PromVerif.Spec.Conc
open PromVerif.Generated.Locks PromVerif.Model.Conc

section
variable {U : Type}

theorem wl_spec {bk : Backend} {bl : CLabel → Bool} {code : List CMicro} (h : wellLockedCode bk bl code = true) :
    (∀ x, closedB (isL (guard bk x)) (isV x) bl code = true) ∧ (∀ g, closedB (isL g) never bl code = true) ∧
    wfRun (rankOrder rank) code [] = some [] := by
  simp only [wellLockedCode, Bool.and_eq_true, List.all_eq_true, beq_iff_eq] at h
  exact ⟨fun x => h.1.1 x (mem_allVars x), fun g => h.1.2 g (mem_allLocks g), h.2⟩

theorem closedB_eq_scan (isG : LockId → Bool) (isX : Var → Bool) (bl : CLabel → Bool) (code : List CMicro) :
    closedB isG isX bl code = (scan isG isX bl code .out false false == some (.out, false, false)) := by
  rw [scan_eq, closedB]
  cases discP isG isX bl code .out <;> cases discItP isG isX code false false <;> simp
  -- both hold: `==` on a pair is `==` on its components
  rfl

theorem closed_never (bl : CLabel → Bool) (code : List CMicro) :
    ClosedP (never : LockId → Bool) (never : Var → Bool) bl code ∧
    ClosedItP (never : LockId → Bool) (never : Var → Bool) code :=
  ⟨discP_untouched bl code .out, discItP_untouched code false false⟩

theorem pair_pred {α β : Type} [DecidableEq α] [DecidableEq β] (f : α → β) (a : α) (b : β) :
    (fun y => decide ((y, f y) = (a, b))) = if f a = b then (fun y => decide (y = a)) else fun _ => false := by
  funext y
  by_cases hy : y = a
  · subst hy; by_cases hb : f y = b <;> simp [hb]
  · split <;> simp [hy]

theorem call_closed (bk : Backend) (blind : U → Bool) (c : Call U) (hwl : wellLockedCode bk c.bl0 c.code0 = true)
    (hr : c.Respects bk) (hb : c.BlindOk blind) (X0 : ICell) :
    ClosedP (fun l : ILock => decide (l = guardOf bk X0)) (fun y : ICell => decide (y = X0)) blind c.code ∧
    ClosedItP (fun l : ILock => decide (l = guardOf bk X0)) (fun y : ICell => decide (y = X0)) c.code := by
  have key : ∀ pG pX, closedB pG pX c.bl0 c.code0 = true →
      ClosedP pG pX (blind ∘ c.lab) c.code0 ∧ ClosedItP pG pX c.code0 := by
    intro pG pX h
    simp only [closedB, Bool.and_eq_true, beq_iff_eq] at h
    exact ⟨⟨discP_mono pG pX _ _ hb _ _ h.1.1.1, h.1.1.2⟩, h.1.2, h.2⟩
  obtain ⟨xa, n⟩ := X0
  obtain ⟨hP, hI⟩ := disciplines_map (fun l : LockId => ((l, c.lobj l) : ILock)) (fun x : Var => ((x, c.vobj x) : ICell))
    c.lab (fun l => decide (l = guardOf bk (xa, n))) (fun y => decide (y = (xa, n))) blind c.code0
  unfold Call.code ClosedP ClosedItP
  -- the predicates of the target, pulled back along the call's binding: the canonical ones or nothing
  rw [(hP _).1, (hP _).2, (hI _ _).1, (hI _ _).2, Function.comp_def, Function.comp_def, guardOf,
    pair_pred c.lobj (guard bk xa), pair_pred c.vobj xa n]
  by_cases hv : c.vobj xa = n
  · -- the call binds `xa` to the target, hence (`Respects`) its guard to the target's guard
    have hl := hr xa
    rw [hv, guardOf] at hl
    rw [if_pos hv, if_pos hl]
    exact key _ _ ((wl_spec hwl).1 xa)
  · rw [if_neg hv]
    by_cases hl : c.lobj (guard bk xa) = if guard bk xa = .global then 0 else n
    · rw [if_pos hl]
      exact key _ _ ((wl_spec hwl).2.1 _)
    · rw [if_neg hl]
      exact closed_never (blind ∘ c.lab) c.code0

theorem call_wf (bk : Backend) (c : Call U) (hwl : wellLockedCode bk c.bl0 c.code0 = true) :
    wfRun (rankOrder irank) c.code [] = some [] := by
  unfold Call.code
  have h := wfRun_map (fun l : LockId => ((l, c.lobj l) : ILock)) (fun x : Var => ((x, c.vobj x) : ICell)) c.lab
    (fun a b e => congrArg Prod.fst e) (rankOrder rank) (rankOrder irank)
    (by intro hs l; simp [rankOrder, irank, List.all_map, Function.comp_def]; rfl) (c.code0) []
  simp only [List.map_nil] at h
  rw [h, (wl_spec hwl).2.2]
  rfl

theorem progs_ok (bk : Backend) (blind : U → Bool) (threads : List (List (Call U))) (hg : GoodThreads bk blind threads) :
    ∀ p ∈ threads.map progOf,
      (∀ X0, disc (guardOf bk X0) X0 blind p .out = true ∧ discIt (guardOf bk X0) X0 p false false = true) ∧
      wf (rankOrder irank) p [] = true := by
  refine List.forall_mem_map.mpr fun calls hcs => ?_
  have h := hg calls hcs
  refine ⟨fun X0 => ?_, wf_flatten _ _ (List.forall_mem_map.mpr fun c hc => call_wf bk c (h c hc).1)⟩
  have hcl := fun c hc => call_closed bk blind c (h c hc).1 (h c hc).2.1 (h c hc).2.2 X0
  exact ⟨(closedP_flatten _ _ _ _ (List.forall_mem_map.mpr fun c hc => (hcl c hc).1)).1,
    (closedItP_flatten _ _ _ (List.forall_mem_map.mpr fun c hc => (hcl c hc).2)).1⟩

end
end PromVerif.Spec.Conc
