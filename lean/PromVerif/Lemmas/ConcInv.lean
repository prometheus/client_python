/-
Lemmas/ConcInv — what disciplined continuations keep invariant along every schedule of Model/Conc.

  * the step function as a relation (one constructor per micro-step), so that invariant proofs are a `cases` away; what a
    step cannot do to the threads that do not move (`Eff.others`); generic facts about `run`, `List.set` and the thread table;
  * locks: bracketed (and optionally rank-ordered) continuations keep "`l` is on thread `i`'s held stack  ↔
    `owner l = some i`", which gives mutual exclusion and, with a rank order, freedom from deadlock;
  * data, for one cell `x` guarded by one lock `g` and continuations that satisfy `disc g x blind` (`DataInv`): per thread the
    `Shape` matching its mode, and for the ghost log of `x`
       - `LogOk`: every logged read returned, and every logged write was applied to, the value obtained by folding the
         earlier writes over the initial value — the log is a linearisation;
       - the cell holds the fold of the whole log;
       - applied updates ++ updates still pending in the continuations is a permutation of the updates of the programs;
  * iteration: "dictionary changed size during iteration" is unreachable when every write to `x` and every iteration over
    `x` happens inside the guard `g` (iterations over a private copy are not iterations over `x` at all);
  * consequences of a linearisable log (`LogOk`), pure list reasoning: reads return held values, held values are the
    prefix folds of the applied updates, and under an inflationary update family everything logged is monotone in log order.
-/
import PromVerif.Lemmas.ConcCompose

set_option linter.unusedSectionVars false

namespace PromVerif.Model.Conc
open PromVerif.Generated.Locks

section

variable {L X U V : Type} [DecidableEq L] [DecidableEq X]

/-- the effect of executing micro-step `m` (continuation `r`) by thread `i` whose record is `t` -/
inductive Eff (ap : U → V → V → V) (s : St L X U V) (i : Tid) (t : Thread L X U V) :
    Micro L X U → List (Micro L X U) → St L X U V → Prop
  | acquire (l r) (h : s.owner l = none) :
      Eff ap s i t (.acquire l) r
        { s with owner := upd s.owner l (some i),
                 threads := s.threads.set i { t with pc := r, held := l :: t.held } }
  | release (l r) (h : s.owner l = some i) :
      Eff ap s i t (.release l) r
        { s with owner := upd s.owner l none,
                 threads := s.threads.set i { t with pc := r, held := t.held.erase l } }
  | load (x r) :
      Eff ap s i t (.load x) r
        { s with threads := s.threads.set i { t with pc := r, reg := upd t.reg x (s.cell x) },
                 log := upd s.log x (.rd i (s.cell x) :: s.log x) }
  | store (x u r) :
      Eff ap s i t (.store x u) r
        { s with cell := upd s.cell x (ap u (t.reg x) (s.cell x)),
                 threads := s.threads.set i { t with pc := r, reg := upd t.reg x (ap u (t.reg x) (s.cell x)) },
                 err := upd s.err x (s.err x || (s.iters x).any (fun j => decide (j ≠ i))),
                 log := upd s.log x (.wr i u (ap u (t.reg x) (s.cell x)) :: s.log x) }
  | iterBegin (x r) :
      Eff ap s i t (.iterBegin x) r
        { s with iters := upd s.iters x (i :: s.iters x), threads := s.threads.set i { t with pc := r } }
  | iterEnd (x r) :
      Eff ap s i t (.iterEnd x) r
        { s with iters := upd s.iters x ((s.iters x).erase i), threads := s.threads.set i { t with pc := r } }
  | call (b c r) : Eff ap s i t (.call b c) r { s with threads := s.threads.set i { t with pc := r } }
  | yield (r) : Eff ap s i t .yield r { s with threads := s.threads.set i { t with pc := r } }

variable {ap : U → V → V → V} {s s' : St L X U V} {i : Tid} {t t' : Thread L X U V}

theorem step_some (h : step ap s i = some s') :
    ∃ m r reg held, s.threads[i]? = some ⟨m :: r, reg, held⟩ ∧ Eff ap s i ⟨m :: r, reg, held⟩ m r s' := by
  unfold step at h
  split at h
  · cases h
  · next t ht =>
    obtain ⟨pc, reg, held⟩ := t
    cases pc with
    | nil => cases h
    | cons m r =>
      refine ⟨m, r, reg, held, ht, ?_⟩
      cases m with
      | acquire l =>
        simp only at h
        split at h
        · next ho => cases h; exact .acquire l r ho
        · cases h
      | release l =>
        simp only at h
        split at h
        · next ho => cases h; exact .release l r ho
        · cases h
      | load x => cases h; exact .load x r
      | store x u => cases h; exact .store x u r
      | iterBegin x => cases h; exact .iterBegin x r
      | iterEnd x => cases h; exact .iterEnd x r
      | call b c => cases h; exact .call b c r
      | yield => cases h; exact .yield r

theorem Eff.others {m : Micro L X U} {r : List (Micro L X U)} (he : Eff ap s i t m r s') {j : Tid} (hne : j ≠ i) :
    (∀ l, s'.owner l = some j ↔ s.owner l = some j) ∧ ∀ x, j ∈ s'.iters x ↔ j ∈ s.iters x := by
  cases he with
  | acquire l' r ho | release l' r ho =>
    refine ⟨fun l => ?_, fun _ => Iff.rfl⟩
    by_cases hl : l = l'
    · subst hl; simp [ho, Ne.symm hne]
    · simp only [upd_ne _ _ hl]
  | iterBegin y r | iterEnd y r =>
    refine ⟨fun _ => Iff.rfl, fun x => ?_⟩
    by_cases hy : x = y
    · subst hy; simp [hne, List.mem_erase_of_ne]
    · simp only [upd_ne _ _ hy]
  | load y r | store y u r | call b c r | yield r => exact ⟨fun _ => Iff.rfl, fun _ => Iff.rfl⟩

theorem run_induction (P : St L X U V → Prop)
    (hstep : ∀ s i s', P s → step ap s i = some s' → P s') :
    ∀ (sched : List Tid) (s : St L X U V), P s → P (run ap s sched) := by
  intro sched
  induction sched with
  | nil => intro s h; exact h
  | cons i rest ih =>
    intro s h
    unfold run
    split
    · next s' hs => exact ih s' (hstep s i s' h hs)
    · exact ih s h

omit [DecidableEq L] [DecidableEq X] in
theorem init_thread {c0 : X → V} {progs : List (List (Micro L X U))}
    (ht : (init c0 progs).threads[i]? = some t) : ∃ p ∈ progs, t = { pc := p, reg := c0, held := [] } := by
  simp only [init, List.getElem?_map, Option.map_eq_some_iff] at ht
  obtain ⟨p, hp, rfl⟩ := ht
  exact ⟨p, List.mem_of_getElem? hp, rfl⟩

theorem forall_set {α : Type} {P : Nat → α → Prop} {ts : List α} {i : Nat} {t' : α} (hi : P i t')
    (ho : ∀ j tj, j ≠ i → ts[j]? = some tj → P j tj) : ∀ j tj, (ts.set i t')[j]? = some tj → P j tj := by
  intro j tj hj
  by_cases hji : j = i
  · subst hji
    obtain ⟨_, rfl⟩ := List.getElem?_eq_some_iff.mp hj
    rwa [List.getElem_set_self]
  · exact ho j tj hji (by rwa [List.getElem?_set_ne (Ne.symm hji)] at hj)

theorem getElem?_set_self_of {α : Type} {ts : List α} {i : Nat} {t t' : α} (h : ts[i]? = some t) :
    (ts.set i t')[i]? = some t' := by
  simp [List.getElem?_set_self', h]

section

structure LockInv (ok : List L → L → Bool) (s : St L X U V) : Prop where
  thr : ∀ i t, s.threads[i]? = some t →
    wf ok t.pc t.held = true ∧ t.held.Nodup ∧ ∀ l, l ∈ t.held ↔ s.owner l = some i
  own : ∀ l j, s.owner l = some j → j < s.threads.length

theorem lockInv_init (ok : List L → L → Bool) (c0 : X → V) (progs : List (List (Micro L X U)))
    (h : ∀ p ∈ progs, wf ok p [] = true) : LockInv ok (init c0 progs) := by
  constructor
  · intro i t ht
    obtain ⟨p, hp, rfl⟩ := init_thread ht
    simp [h p hp, init]
  · exact fun l j hj => nomatch hj

variable {ok : List L → L → Bool} {rank : L → Nat}

theorem lockInv_step (inv : LockInv ok s) (h : step ap s i = some s') : LockInv ok s' := by
  obtain ⟨m, r, reg, held, ht, he⟩ := step_some h
  obtain ⟨hwf, hnd, hheld⟩ := inv.thr i _ ht
  -- the other threads keep their records and their locks, and owners remain threads: what is left to show is that the
  -- moving thread's new record agrees with the new lock table
  have key : ∀ t', s'.threads = s.threads.set i t' →
      (wf ok t'.pc t'.held = true ∧ t'.held.Nodup ∧ ∀ l, l ∈ t'.held ↔ s'.owner l = some i) → LockInv ok s' := by
    intro t' hthr hi
    refine ⟨?_, fun l j hj => ?_⟩
    · rw [hthr]
      refine forall_set hi fun j tj hne hj => ?_
      obtain ⟨hw, hn, hh⟩ := inv.thr j tj hj
      exact ⟨hw, hn, fun l => (hh l).trans ((he.others hne).1 l).symm⟩
    · rw [hthr, List.length_set]
      by_cases hji : j = i
      · subst hji; exact (List.getElem?_eq_some_iff.mp ht).1
      · exact inv.own l j (((he.others hji).1 l).mp hj)
  cases he with
  | acquire l r ho =>
    simp only [wf, Bool.and_eq_true] at hwf
    have hl : l ∉ held := fun hm => by simpa [ho] using (hheld l).mp hm
    refine key _ rfl ⟨hwf.2, List.nodup_cons.mpr ⟨hl, hnd⟩, fun l' => ?_⟩
    by_cases hll : l' = l
    · subst hll; simp
    · simp [upd_ne _ _ hll, hll, hheld l']
  | release l r ho =>
    refine key _ rfl ?_
    cases held with
    | nil => simp [wf] at hwf
    | cons h0 hs' =>
      simp only [wf, Bool.and_eq_true, decide_eq_true_eq] at hwf
      obtain ⟨rfl, hwf'⟩ := hwf
      have hnd' := List.nodup_cons.mp hnd
      refine ⟨?_, ?_, fun l' => ?_⟩
      · simpa using hwf'
      · simpa using hnd'.2
      · simp only [List.erase_cons_head]
        by_cases hll : l' = h0
        · subst hll; simp [hnd'.1]
        · simpa [upd_ne _ _ hll, hll] using hheld l'
  | load x r | store x u r | iterBegin x r | iterEnd x r | call b c r | yield r =>
    exact key _ rfl ⟨hwf, hnd, hheld⟩

/-- thread `i` waits for lock `l`, which somebody holds -/
def BlockedOn (s : St L X U V) (i : Tid) (l : L) : Prop :=
  ∃ t r, s.threads[i]? = some t ∧ t.pc = .acquire l :: r ∧ s.owner l ≠ none

theorem stuck_blocked (inv : LockInv ok s) (hst : stuck ap s) (ht : s.threads[i]? = some t) (hpc : t.pc ≠ []) :
    ∃ l, BlockedOn s i l := by
  obtain ⟨hwf, _, hheld⟩ := inv.thr i t ht
  have hs := hst i
  unfold step at hs
  rw [ht] at hs
  simp only at hs
  cases hp : t.pc with
  | nil => exact absurd hp hpc
  | cons m r =>
    rw [hp] at hs hwf
    cases m with
    | acquire l => exact ⟨l, t, r, ht, hp, fun ho => by simp [ho] at hs⟩
    | release l =>
      -- a well-bracketed `release l` finds `l` on top of the held stack, so the thread owns it and can move
      cases hh : t.held with
      | nil => simp [wf, hh] at hwf
      | cons h0 hs' =>
        simp only [wf, hh, Bool.and_eq_true, decide_eq_true_eq] at hwf
        have ho : s.owner l = some i := (hheld l).mp (by rw [hh, hwf.1]; exact List.mem_cons_self)
        simp [ho] at hs
    | load x | store x u | iterBegin x | iterEnd x | call b c | yield => simp at hs

theorem blocked_chain (inv : LockInv (rankOrder rank) s) (hst : stuck ap s) {l : L} (hb : BlockedOn s i l) :
    ∃ j l', BlockedOn s j l' ∧ rank l < rank l' := by
  obtain ⟨t, r, ht, hpc, ho⟩ := hb
  cases hown : s.owner l with
  | none => exact absurd hown ho
  | some j =>
    have hj := inv.own l j hown
    obtain ⟨tj, htj⟩ : ∃ tj, s.threads[j]? = some tj := ⟨s.threads[j], List.getElem?_eq_getElem hj⟩
    have hjj := inv.thr j tj htj
    have hmem : l ∈ tj.held := (hjj.2.2 l).mpr hown
    have hne : tj.pc ≠ [] := by
      intro he
      have hw := hjj.1
      rw [he] at hw
      -- a finished thread holds nothing
      rw [show tj.held = [] by simpa [wf] using hw] at hmem
      cases hmem
    obtain ⟨l', tj', r', htj', hpc', ho'⟩ := stuck_blocked inv hst htj hne
    rw [htj] at htj'
    cases htj'
    refine ⟨j, l', ⟨tj, r', htj, hpc', ho'⟩, ?_⟩
    have hw := hjj.1
    rw [hpc'] at hw
    simp only [wf, rankOrder, Bool.and_eq_true, List.all_eq_true, decide_eq_true_eq] at hw
    exact hw.1 l hmem

/-- a chain of waiting threads climbs in rank, and ranks are bounded by `B` -/
theorem no_chain (inv : LockInv (rankOrder rank) s)
    (hst : stuck ap s) (B : Nat) (hB : ∀ l, rank l ≤ B) :
    ∀ n i l, BlockedOn s i l → B - rank l < n → False := by
  intro n
  induction n with
  | zero => intro i l _ hn; exact absurd hn (Nat.not_lt_zero _)
  | succ n ih =>
    intro i l hb hn
    obtain ⟨j, l', hb', hlt⟩ := blocked_chain inv hst hb
    have := hB l'
    exact ih j l' hb' (by omega)

theorem lockInv_progress (inv : LockInv (rankOrder rank) s)
    (B : Nat) (hB : ∀ l, rank l ≤ B) (hnf : ¬ finished s) : ∃ i, (step ap s i).isSome = true := by
  apply Classical.byContradiction
  intro hno
  have hst : stuck ap s := fun i => Option.not_isSome_iff_eq_none.mp fun h => hno ⟨i, h⟩
  apply hnf
  intro t htm
  apply Classical.byContradiction
  intro hpc
  obtain ⟨i, ht⟩ := List.mem_iff_getElem?.mp htm
  obtain ⟨l, hb⟩ := stuck_blocked inv hst ht hpc
  exact no_chain inv hst B hB (B - rank l + 1) i l hb (Nat.lt_succ_self _)

end

section

/-- the data discipline for the guard `g` and the cell `x` -/
abbrev disc (g : L) (x : X) (blind : U → Bool) : List (Micro L X U) → Mode → Bool :=
  discP (fun l => decide (l = g)) (fun y => decide (y = x)) blind

/-- the log is a linearisation: reads return, and writes are applied to, the fold of the earlier writes -/
def LogOk (ap : U → V → V) (v0 : V) : List (Ev U V) → Prop
  | [] => True
  | .rd _ v :: l => v = cur ap v0 l ∧ LogOk ap v0 l
  | .wr _ u v :: l => v = ap u (cur ap v0 l) ∧ LogOk ap v0 l

/-- what thread `i`, with continuation `pc` and register `rx` for `x`, is to the guard (owned by `own`) and the cell (holding
`cellx`) in each mode -/
inductive Shape (g : L) (x : X) (blind : U → Bool) (cellx : V) (own : Option Tid) (i : Tid)
    (pc : List (Micro L X U)) (rx : V) : Prop
  | out (d : disc g x blind pc .out = true) (o : own ≠ some i)
  | held (d : disc g x blind pc .held = true) (o : own = some i)
  | loaded (d : disc g x blind pc .loaded = true) (o : own = some i) (e : rx = cellx)

structure DataInv (g : L) (x : X) (blind : U → Bool) (ap : U → V → V → V) (v0 : V) (all : List U)
    (s : St L X U V) : Prop where
  shape : ∀ i t, s.threads[i]? = some t → Shape g x blind (s.cell x) (s.owner g) i t.pc (t.reg x)
  cellEq : s.cell x = cur (lin ap) v0 (s.log x)
  logOk : LogOk (lin ap) v0 (s.log x)
  perm : (applied (s.log x) ++ pending x s.threads).Perm all

theorem pending_split {ts : List (Thread L X U V)} {i : Nat} {t : Thread L X U V} (x : X)
    (h : ts[i]? = some t) (t' : Thread L X U V) :
    pending x ts = pending x (ts.take i) ++ stores x t.pc ++ pending x (ts.drop (i + 1)) ∧
    pending x (ts.set i t') = pending x (ts.take i) ++ stores x t'.pc ++ pending x (ts.drop (i + 1)) := by
  obtain ⟨hi, hget⟩ := List.getElem?_eq_some_iff.mp h
  have e1 : ts = ts.take i ++ t :: ts.drop (i + 1) := by
    rw [← hget, List.getElem_cons_drop, List.take_append_drop]
  have e2 : ts.set i t' = ts.take i ++ t' :: ts.drop (i + 1) := by
    rw [List.set_eq_take_append_cons_drop, if_pos hi]
  constructor
  · conv => lhs; rw [e1]
    simp [pending]
  · rw [e2]; simp [pending]

theorem pending_set_same {ts : List (Thread L X U V)} (x : X)
    (h : ts[i]? = some t) (hs : stores x t'.pc = stores x t.pc) : pending x (ts.set i t') = pending x ts := by
  obtain ⟨a, b⟩ := pending_split x h t'
  rw [a, b, hs]

theorem pending_set_cons {ts : List (Thread L X U V)} (x : X) (u : U) (l : List U)
    (h : ts[i]? = some t) (hs : stores x t.pc = u :: stores x t'.pc) :
    (u :: l ++ pending x (ts.set i t')).Perm (l ++ pending x ts) := by
  obtain ⟨a, b⟩ := pending_split x h t'
  rw [a, b, hs]
  simpa only [List.append_assoc, List.cons_append] using
    (List.perm_middle (l₁ := l ++ pending x (ts.take i)) (a := u)).symm

variable {g : L} {x : X} {blind : U → Bool} {v0 : V} {all : List U}

theorem Shape.frame {c c' : V} {own own' : Option Tid} {j : Tid} {pc : List (Micro L X U)} {rx : V}
    (h : Shape g x blind c own j pc rx) (ho : own ≠ some j) (ho' : own' ≠ some j) :
    Shape g x blind c' own' j pc rx := by
  cases h with
  | out d _ => exact .out d ho'
  | held _ o => exact absurd o ho
  | loaded _ o _ => exact absurd o ho

theorem Shape.advance {c : V} {own : Option Tid} {pc pc' : List (Micro L X U)} {rx : V} (h : Shape g x blind c own i pc rx)
    (hd : ∀ m, disc g x blind pc m = true → disc g x blind pc' m = true) : Shape g x blind c own i pc' rx := by
  cases h with
  | out d o => exact .out (hd _ d) o
  | held d o => exact .held (hd _ d) o
  | loaded d o e => exact .loaded (hd _ d) o e

theorem dataInv_local (inv : DataInv g x blind ap v0 all s) (ht : s.threads[i]? = some t)
    (hc : s'.cell x = s.cell x) (ho : s'.owner g = s.owner g) (hl : s'.log x = s.log x)
    (hthr : s'.threads = s.threads.set i t')
    (hsh : Shape g x blind (s.cell x) (s.owner g) i t'.pc (t'.reg x))
    (hst : stores x t'.pc = stores x t.pc) : DataInv g x blind ap v0 all s' := by
  refine ⟨?_, ?_, ?_, ?_⟩
  · rw [hthr, hc, ho]
    exact forall_set hsh fun j tj _ hj => inv.shape j tj hj
  · rw [hc, hl]; exact inv.cellEq
  · rw [hl]; exact inv.logOk
  · rw [hl, hthr, pending_set_same x ht hst]; exact inv.perm

theorem dataInv_init (c0 : X → V)
    (progs : List (List (Micro L X U))) (h : ∀ p ∈ progs, disc g x blind p .out = true) :
    DataInv g x blind ap (c0 x) (pending x (init c0 progs).threads) (init c0 progs) := by
  refine ⟨?_, ?_, ?_, ?_⟩
  · intro i t ht
    obtain ⟨p, hp, rfl⟩ := init_thread ht
    exact .out (h p hp) nofun
  · rfl
  · trivial
  · exact .refl _

/-- the guard passes between thread `i` and nobody (`v` is `some i` or `none`): the other threads were outside and stay
there -/
theorem dataInv_handover {v : Option Tid} (inv : DataInv g x blind ap v0 all s) (ht : s.threads[i]? = some t)
    (hg : ∀ j, j ≠ i → s.owner g ≠ some j) (hv : ∀ j, j ≠ i → v ≠ some j)
    (hsh : Shape g x blind (s.cell x) v i t'.pc (t'.reg x)) (hst : stores x t'.pc = stores x t.pc) :
    DataInv g x blind ap v0 all { s with owner := upd s.owner g v, threads := s.threads.set i t' } := by
  refine ⟨?_, inv.cellEq, inv.logOk, ?_⟩
  · simp only [upd_same]
    exact forall_set hsh fun j tj hne hj => (inv.shape j tj hj).frame (hg j hne) (hv j hne)
  · simp only; rw [pending_set_same x ht hst]; exact inv.perm

/-- a store to `x`: the storing thread holds the guard, and what it stores is `ap u` of the current cell, because it has
loaded or `u` is blind; so the write extends the linearisation, and `u` moves from the pending updates to the applied ones -/
theorem dataInv_store {u : U} {r : List (Micro L X U)} (hblind : ∀ u, blind u = true → ∀ a b c, ap u a c = ap u b c)
    (inv : DataInv g x blind ap v0 all s) (ht : s.threads[i]? = some t) (hpc : t.pc = .store x u :: r)
    (he : Eff ap s i t (.store x u) r s') : DataInv g x blind ap v0 all s' := by
  have hsh := inv.shape i t ht
  rw [hpc] at hsh
  obtain ⟨hv, hown, hd⟩ : ap u (t.reg x) (s.cell x) = lin ap u (s.cell x) ∧ s.owner g = some i ∧
      disc g x blind r .loaded = true := by
    cases hsh with
    | out d o => simp [disc, discP] at d
    | held d o => simp [disc, discP] at d; exact ⟨hblind u d.1 _ _ _, o, d.2⟩
    | loaded d o e => simp [disc, discP] at d; exact ⟨by rw [e]; rfl, o, d⟩
  cases he
  refine ⟨?_, ?_, ?_, ?_⟩
  · simp only [upd_same]
    exact forall_set (.loaded hd hown (upd_same _ _ _)) fun j tj hne hj =>
      (inv.shape j tj hj).frame (by simp [hown, Ne.symm hne]) (by simp [hown, Ne.symm hne])
  · simp only [upd_same, cur, applied, List.foldr_cons]
    rw [hv, inv.cellEq]; rfl
  · simp only [upd_same, LogOk]
    exact ⟨by rw [hv, inv.cellEq], inv.logOk⟩
  · simp only [upd_same, applied]
    exact (pending_set_cons x u _ ht (by simp [hpc, stores])).trans inv.perm

theorem dataInv_step (hblind : ∀ u, blind u = true → ∀ a b c, ap u a c = ap u b c)
    (inv : DataInv g x blind ap v0 all s) (h : step ap s i = some s') : DataInv g x blind ap v0 all s' := by
  obtain ⟨m, r, reg, held, ht, he⟩ := step_some h
  have hsh := inv.shape i _ ht
  cases he with
  | acquire l r ho =>
    by_cases hlg : l = g
    · subst hlg
      refine dataInv_handover inv ht (by simp [ho]) (fun j hne => by simpa using Ne.symm hne) ?_ rfl
      cases hsh with
      | out d o => simp [disc, discP] at d; exact .held d rfl
      | held d o | loaded d o e => rw [ho] at o; cases o
    · refine dataInv_local inv ht rfl (upd_ne _ _ (Ne.symm hlg)) rfl rfl ?_ rfl
      exact hsh.advance fun m d => by simpa [disc, discP, hlg] using d
  | release l r ho =>
    by_cases hlg : l = g
    · subst hlg
      refine dataInv_handover inv ht (fun j hne => by simp [ho, Ne.symm hne]) (by simp) ?_ rfl
      cases hsh with
      | out d o => exact absurd ho o
      | held d o | loaded d o e => simp [disc, discP] at d; exact .out d (by simp)
    · refine dataInv_local inv ht rfl (upd_ne _ _ (Ne.symm hlg)) rfl rfl ?_ rfl
      exact hsh.advance fun m d => by simpa [disc, discP, hlg] using d
  | load y r =>
    by_cases hyx : y = x
    · subst hyx
      refine ⟨?_, ?_, ?_, ?_⟩
      · refine forall_set ?_ fun j tj _ hj => inv.shape j tj hj
        cases hsh with
        | out d o => simp [disc, discP] at d
        | held d o | loaded d o e => simp [disc, discP] at d; exact .loaded d o (by simp)
      · simp only [upd_same, cur, applied]; exact inv.cellEq
      · simp only [upd_same, LogOk]; exact ⟨inv.cellEq, inv.logOk⟩
      · simp only [upd_same, applied]; rw [pending_set_same y ht (by rfl)]; exact inv.perm
    · refine dataInv_local inv ht rfl rfl (upd_ne _ _ (Ne.symm hyx)) rfl ?_ rfl
      simp only [upd_ne _ _ (Ne.symm hyx)]
      exact hsh.advance fun m d => by simpa [disc, discP, hyx] using d
  | store y u r =>
    by_cases hyx : y = x
    · subst hyx
      exact dataInv_store hblind inv ht rfl (.store y u r)
    · refine dataInv_local inv ht (upd_ne _ _ (Ne.symm hyx)) rfl (upd_ne _ _ (Ne.symm hyx)) rfl ?_
        (by simp [stores, hyx])
      simp only [upd_ne _ _ (Ne.symm hyx)]
      exact hsh.advance fun m d => by simpa [disc, discP, hyx] using d
  | iterBegin y r | iterEnd y r | call b c r | yield r =>
    exact dataInv_local inv ht rfl rfl rfl rfl (hsh.advance fun _ d => d) rfl

theorem pending_init (x : X) (c0 : X → V) (progs : List (List (Micro L X U))) :
    pending x (init c0 progs).threads = (progs.map (stores x)).flatten := by
  simp [pending, init, Function.comp_def]

theorem pending_finished {s : St L X U V} (x : X) (h : finished s) : pending x s.threads = [] := by
  simp only [pending, List.flatten_eq_nil_iff, List.forall_mem_map]
  intro t ht
  rw [h t ht, stores]

end

section

/-- the iteration discipline for the guard `g` and the cell `x`, started with `g` held iff `h` and an iteration over `x` open
iff `o` -/
abbrev discIt (g : L) (x : X) : List (Micro L X U) → Bool → Bool → Bool :=
  discItP (fun l => decide (l = g)) (fun y => decide (y = x))

structure IterInv (g : L) (x : X) (s : St L X U V) : Prop where
  thr : ∀ i t, s.threads[i]? = some t →
    discIt g x t.pc (decide (s.owner g = some i)) (decide (i ∈ s.iters x)) = true
  its : ∀ j ∈ s.iters x, s.owner g = some j
  nd : (s.iters x).Nodup
  noerr : s.err x = false

variable {g : L} {x : X}

theorem iterInv_init (c0 : X → V) (progs : List (List (Micro L X U)))
    (h : ∀ p ∈ progs, discIt g x p false false = true) : IterInv g x (init c0 progs) := by
  constructor
  · intro i t ht
    obtain ⟨p, hp, rfl⟩ := init_thread ht
    simpa [init] using h p hp
  · exact fun j hj => nomatch hj
  · exact .nil
  · rfl

theorem iterInv_step (inv : IterInv g x s) (h : step ap s i = some s') : IterInv g x s' := by
  obtain ⟨m, r, reg, held, ht, he⟩ := step_some h
  have hti := inv.thr i _ ht
  -- the other threads keep their records, and their part in the guard and in the iterations over `x`: what is left to
  -- show, given the new owner `o` of the guard, the new iterators `it` and the new error flag, is the moving thread's
  -- clause and the three clauses about the state
  have key : ∀ t' o it, s'.threads = s.threads.set i t' → s'.owner g = o → s'.iters x = it →
      discIt g x t'.pc (decide (o = some i)) (decide (i ∈ it)) = true →
      (∀ j ∈ it, o = some j) → it.Nodup → s'.err x = false → IterInv g x s' := by
    intro t' o it hthr ho hit hd hits hnd herr
    subst ho hit
    refine ⟨?_, hits, hnd, herr⟩
    rw [hthr]
    refine forall_set hd fun j tj hne hj => ?_
    simpa [(he.others hne).1 g, (he.others hne).2 x] using inv.thr j tj hj
  cases he with
  | acquire l r ho =>
    by_cases hlg : l = g
    · subst hlg
      -- the guard was free, so no iteration over `x` is open
      have hempty : ∀ j, j ∉ s.iters x := fun j hj => by simpa [ho] using inv.its j hj
      exact key _ _ _ rfl (upd_same ..) rfl (by simpa [discIt, discItP, ho, hempty i] using hti)
        (fun j hj => absurd hj (hempty j)) inv.nd inv.noerr
    · exact key _ _ _ rfl (upd_ne _ _ (Ne.symm hlg)) rfl (by simpa [discIt, discItP, hlg] using hti) inv.its inv.nd inv.noerr
  | release l r ho =>
    by_cases hlg : l = g
    · subst hlg
      -- thread `i` has closed its iteration, and only the owner can have one open
      simp [discIt, discItP, ho] at hti
      have hempty : ∀ j, j ∉ s.iters x := fun j hj => by
        obtain rfl : i = j := Option.some.inj (ho.symm.trans (inv.its j hj))
        exact hti.1 hj
      exact key _ _ _ rfl (upd_same ..) rfl (by simpa [hempty i] using hti.2) (fun j hj => absurd hj (hempty j)) inv.nd
        inv.noerr
    · exact key _ _ _ rfl (upd_ne _ _ (Ne.symm hlg)) rfl (by simpa [discIt, discItP, hlg] using hti) inv.its inv.nd inv.noerr
  | store y u r =>
    by_cases hyx : y = x
    · subst hyx
      -- the storing thread owns the guard, so an open iteration can only be its own: no error
      simp [discIt, discItP] at hti
      refine key _ _ _ rfl rfl rfl (by simpa [hti.1] using hti.2) inv.its inv.nd ?_
      simp only [upd_same, inv.noerr, Bool.false_or, List.any_eq_false, decide_eq_true_eq, Decidable.not_not]
      intro j hj
      exact (Option.some.inj (hti.1.symm.trans (inv.its j hj))).symm
    · exact key _ _ _ rfl rfl rfl (by simpa [discIt, discItP, hyx] using hti) inv.its inv.nd
        ((upd_ne _ _ (Ne.symm hyx)).trans inv.noerr)
  | iterBegin y r =>
    by_cases hyx : y = x
    · subst hyx
      simp [discIt, discItP] at hti
      obtain ⟨⟨h1, h2⟩, h3⟩ := hti
      exact key _ _ _ rfl rfl (upd_same ..) (by simpa [h1] using h3) (by simpa [h1] using inv.its)
        (List.nodup_cons.mpr ⟨h2, inv.nd⟩) inv.noerr
    · exact key _ _ _ rfl rfl (upd_ne _ _ (Ne.symm hyx)) (by simpa [discIt, discItP, hyx] using hti) inv.its inv.nd inv.noerr
  | iterEnd y r =>
    by_cases hyx : y = x
    · subst hyx
      simp [discIt, discItP] at hti
      exact key _ _ _ rfl rfl (upd_same ..) (by simpa [inv.nd.mem_erase_iff] using hti.2)
        (fun j hj => inv.its j (List.mem_of_mem_erase hj)) (inv.nd.erase _) inv.noerr
    · exact key _ _ _ rfl rfl (upd_ne _ _ (Ne.symm hyx)) (by simpa [discIt, discItP, hyx] using hti) inv.its inv.nd inv.noerr
  | load y r | call b c r | yield r =>
    exact key _ _ _ rfl rfl rfl hti inv.its inv.nd inv.noerr

end
end

section

variable {U V : Type}

/-- the values a cell goes through when `us` (newest first) are applied to `v0`, newest first -/
def prefixFolds (f : U → V → V) (v0 : V) : List U → List V
  | [] => [v0]
  | u :: us => (u :: us).foldr f v0 :: prefixFolds f v0 us

theorem held_eq_prefixFolds (f : U → V → V) (v0 : V) (l : List (Ev U V)) (h : LogOk f v0 l) :
    heldValues v0 l = prefixFolds f v0 (applied l) := by
  induction l with
  | nil => rfl
  | cons e l ih =>
    cases e with
    | rd i v => exact ih h.2
    | wr i u v =>
      simp only [heldValues, applied, prefixFolds, List.foldr_cons]
      rw [ih h.2, h.1]; rfl

theorem cur_mem_held (f : U → V → V) (v0 : V) (l : List (Ev U V)) (h : LogOk f v0 l) :
    cur f v0 l ∈ heldValues v0 l := by
  rw [held_eq_prefixFolds f v0 l h, cur]
  cases applied l <;> simp [prefixFolds]

theorem reads_mem_held (f : U → V → V) (v0 : V) (l : List (Ev U V)) (h : LogOk f v0 l) :
    ∀ v ∈ readsOf l, v ∈ heldValues v0 l := by
  induction l with
  | nil => intro v hv; cases hv
  | cons e l ih =>
    cases e with
    | rd i w =>
      intro v hv
      rcases List.mem_cons.mp hv with rfl | hv
      · rw [h.1]; exact cur_mem_held f v0 l h.2
      · exact ih h.2 v hv
    | wr i u w => exact fun v hv => List.mem_cons_of_mem _ (ih h.2 v hv)

theorem writes_spec (f : U → V → V) (v0 : V) (l : List (Ev U V)) (h : LogOk f v0 l) :
    ∀ e ∈ writesOf l, ∃ w, e.2.2 = f e.2.1 w := by
  induction l with
  | nil => intro e he; cases he
  | cons e l ih =>
    cases e with
    | rd i w => intro e he; exact ih h.2 e he
    | wr i u w =>
      intro e he
      rcases List.mem_cons.mp he with rfl | he
      · exact ⟨_, h.1⟩
      · exact ih h.2 e he

variable (le : V → V → Prop) (hrefl : ∀ a, le a a) (htrans : ∀ a b c, le a b → le b c → le a c)

include hrefl htrans in
theorem vals_le_cur (f : U → V → V) (hinfl : ∀ u v, le v (f u v)) (v0 : V) (l : List (Ev U V)) (h : LogOk f v0 l) :
    (∀ v ∈ readsOf l, le v (cur f v0 l)) ∧ ∀ w ∈ writesOf l, le w.2.2 (cur f v0 l) := by
  induction l with
  | nil => exact ⟨fun _ hv => (nomatch hv), fun _ hw => (nomatch hw)⟩
  | cons e l ih =>
    -- the newest entry holds the current value, which is above the previous one
    cases e with
    | rd i v =>
      obtain ⟨ihr, ihw⟩ := ih h.2
      refine ⟨fun v' hv => ?_, ihw⟩
      rcases List.mem_cons.mp hv with rfl | hv
      · rw [h.1]; exact hrefl _
      · exact ihr v' hv
    | wr i u v =>
      obtain ⟨ihr, ihw⟩ := ih h.2
      have up : le (cur f v0 l) (cur f v0 (.wr i u v :: l)) := hinfl _ _
      refine ⟨fun v' hv => htrans _ _ _ (ihr v' hv) up, fun w hw => ?_⟩
      rcases List.mem_cons.mp hw with rfl | hw
      · rw [h.1]; exact hrefl _
      · exact htrans _ _ _ (ihw w hw) up

include hrefl htrans in
/-- successive reads (the list is newest first) never go down -/
theorem reads_monotone (f : U → V → V) (hinfl : ∀ u v, le v (f u v)) (v0 : V) (l : List (Ev U V))
    (h : LogOk f v0 l) : (readsOf l).Pairwise (fun newer older => le older newer) := by
  induction l with
  | nil => exact List.Pairwise.nil
  | cons e l ih =>
    cases e with
    | rd i w =>
      simp only [readsOf]
      refine List.Pairwise.cons ?_ (ih h.2)
      intro v hv
      rw [h.1]
      exact (vals_le_cur le hrefl htrans f hinfl v0 l h.2).1 v hv
    | wr i u w => exact ih h.2

end
end PromVerif.Model.Conc
