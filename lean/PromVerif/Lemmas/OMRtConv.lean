/-
C04, the converse at line level.  What an ACCEPTED sample line gives is again in the domain of the line-level round trip:
every parsed label name passed `_validate_labelname` and no name occurs twice; its timestamps came out of `_parse_timestamp`
and every `Timestamp` among them satisfies the class invariant, hence is a fixed point of render-then-parse (before 7b52129
the negative ones with a fraction were not: F10); its exemplar's labels came out of `parse_labels` and are within the
128-character limit.  So rendering the PARSED sample again and parsing the result gives the same sample (`SampleSame`).
-/
import PromVerif.Lemmas.OMRtLine
import PromVerif.Lemmas.OMLabels

set_option autoImplicit false

namespace PromVerif.Lemmas.OMRt
open PromVerif.Py PromVerif.Model PromVerif.Model.Escape PromVerif.Model.ParseCore PromVerif.Model.Validation
open PromVerif.Model.OMParse PromVerif.Spec.OMRoundtrip PromVerif.Lemmas.TextParse

/-- a parsed label name: the metric name slot, or a name `_validate_labelname` accepted -/
def NameValid (legacy : Bool) (k : Str) : Prop := k = "__name__".toList ∨ labelNameOK legacy k = true

theorem parseLabels_valid (legacy om : Bool) (s : Str) (ls : List (Str × Str)) (h : parseLabels legacy s om = .ok ls) :
    ∀ kv ∈ ls, NameValid legacy kv.1 := by
  refine OM.parseLabels_inv (fun l => ∀ kv ∈ l, NameValid legacy kv.1) (fun kv hkv => by cases hkv) ?_ s ls h
  intro acc k v hacc _ hk kv hkv
  rcases List.mem_append.mp hkv with h1 | h1
  · exact hacc kv h1
  · simp only [List.mem_cons, List.not_mem_nil, or_false] at h1
    subst h1
    exact hk.imp id (fun hu => by unfold labelNameOK; rw [hu]; rfl)

theorem nameFromLabels_ok {legacy : Bool} {name : Str} {labels : List (Str × Str)} {n : Str} {L : List (Str × Str)}
    (hv : ∀ kv ∈ labels, NameValid legacy kv.1) (hnd : (labels.map (·.1)).Nodup) (h : nameFromLabels name labels = .ok (n, L)) :
    LabelsOK legacy L := by
  have hsn := sName_eq
  unfold nameFromLabels at h
  split at h
  · split at h
    · cases h
    · cases h
      refine ⟨?_, (List.Sublist.map _ List.filter_sublist).nodup hnd⟩
      intro kv hkv
      obtain ⟨h1, h2⟩ := List.mem_filter.mp hkv
      rcases hv kv h1 with e | e
      · rw [hsn, e] at h2; simp at h2
      · exact e
  · split at h
    · cases h
    · rename_i hhas
      cases h
      refine ⟨?_, hnd⟩
      intro kv hkv
      rcases hv kv hkv with e | e
      · exfalso
        apply hhas
        unfold dictHas
        exact List.any_eq_true.mpr ⟨kv, hkv, by rw [hsn, e]; simp⟩
      · exact e

theorem parseSample_ok (P : Params) (text : Str) (o : OSample) (h : parseSample P text = .ok o) :
    ∃ n L rem v ts ex, o = ⟨n, some L, some v, ts, ex, none⟩ ∧ parseRemainingText P rem = .ok (v, ts, ex) ∧
      (L = [] ∨ ∃ s nm labels, parseLabels P.legacy s true = .ok labels ∧ nameFromLabels nm labels = .ok (n, L)) := by
  unfold parseSample at h
  extract_lets labelStart noLabels nameEnd name rest ls name' labelEnd at h
  split at h
  · split at h
    · cases h
    · obtain ⟨⟨v, ts, ex⟩, hr, h⟩ := bind_ok h
      cases h
      exact ⟨name, [], _, v, ts, ex, rfl, hr, Or.inl rfl⟩
  · obtain ⟨labels, hl, h⟩ := bind_ok h
    obtain ⟨⟨n, L⟩, hn, h⟩ := bind_ok h
    obtain ⟨⟨v, ts, ex⟩, hr, h⟩ := bind_ok h
    cases h
    exact ⟨n, L, _, v, ts, ex, rfl, hr, Or.inr ⟨_, _, labels, hl, hn⟩⟩

/-- the class invariant of `samples.Timestamp`: the nanosecond field carries the sign of the second count -/
def StampInv : OTs → Prop
  | .stamp s n => (0 ≤ s → 0 ≤ n ∧ n < 1000000000) ∧ (s < 0 → -1000000000 < n ∧ n ≤ 0)
  | .flt _ => True

theorem mkTimestamp_inv (a b : Int) (o : OTs) (h : mkTimestamp a b = .ok o) : StampInv o := by
  unfold mkTimestamp at h
  split at h
  · cases h
  · rename_i hc
    simp only [Bool.or_eq_true, decide_eq_true_eq, not_or, Int.not_lt, ge_iff_le, Int.not_le] at hc
    cases h
    unfold StampInv
    by_cases ha : a < 0
    · rw [if_pos ha]; omega
    · rw [if_neg ha]; exact ⟨fun _ => hc, fun h0 => absurd h0 ha⟩

theorem parseTimestampFrac_inv (P : Params) (t : Str) (o : OTs) (h : parseTimestampFrac P t = .ok o) : StampInv o := by
  unfold parseTimestampFrac at h
  dsimp only at h
  repeat' split at h
  all_goals first
    | (cases h; done)
    | exact mkTimestamp_inv _ _ _ h

theorem parseTimestampFloat_inv (P : Params) (t : Str) (o : OTs) (h : parseTimestampFloat P t = .ok o) : StampInv o := by
  unfold parseTimestampFloat at h
  simp only [bind, Except.bind, pure, Except.pure] at h
  repeat' split at h
  all_goals first
    | (cases h; done)
    | (cases h; trivial)

theorem catch_ok_cases {α : Type} {x : PyM α} {h : Unit → PyM α} {a : α} (e : catchValueError x h = .ok a) :
    x = .ok a ∨ h () = .ok a := by
  cases x with
  | ok b => exact Or.inl e
  | error err => cases err <;> first | exact Or.inr e | cases e

def StampInvOpt : Option OTs → Prop
  | none => True
  | some o => StampInv o

theorem parseTimestamp_inv (P : Params) (t : Str) (o : Option OTs) (h : parseTimestamp P t = .ok o) : StampInvOpt o := by
  unfold parseTimestamp at h
  split at h
  · cases h; trivial
  · split at h
    · cases h
    · obtain ⟨o', hx, ho⟩ := bind_ok (f := fun o => pure (some o)) h
      cases ho
      rcases catch_ok_cases hx with h1 | h2
      · obtain ⟨n, _, hm⟩ := bind_ok h1
        exact mkTimestamp_inv _ _ _ hm
      · rcases catch_ok_cases h2 with h3 | h4
        · exact parseTimestampFrac_inv P t _ h3
        · exact parseTimestampFloat_inv P t _ h4

/-- the machine's exemplar labels, once set, are what `parse_labels` made of a piece of the text -/
def ExInv (P : Params) (a : RAcc) : Prop := ∀ ls, a.exLabels = some ls → ∃ s, parseLabels P.legacy s true = .ok ls

/-- the machine touches its exemplar labels at one place only: at the '{' that opens them, where it stores
`exemplarLabels P text` -/
theorem remStep_exLabels (P : Params) (text : Str) (a a' : RAcc) (c : Char) (h : remStep P text a c = .ok a') :
    a'.exLabels = a.exLabels ∨ ∃ ls, exemplarLabels P text = .ok ls ∧ a'.exLabels = some ls := by
  unfold remStep at h
  extract_lets inQ a1 at h
  have h1 : a1.exLabels = a.exLabels := rfl
  clear_value a1 inQ
  rw [← h1]
  -- every branch raises, returns `a1` with fields other than `exLabels` updated, or is the '{' step
  repeat' split at h
  all_goals first
    | (cases h; done)
    | (cases h; exact Or.inl rfl)
    | (cases h; exact Or.inr ⟨_, by assumption, rfl⟩)

theorem remLoop_exInv (P : Params) (text : Str) : ∀ (s : Str) (a a' : RAcc), ExInv P a → remLoop P text a s = .ok a' → ExInv P a' := by
  intro s
  induction s with
  | nil => intro a a' hi h; cases h; exact hi
  | cons c cs ih =>
    intro a a' hi h
    rw [remLoop] at h
    split at h
    · rename_i a1 hs
      refine ih a1 a' ?_ h
      intro ls hls
      rcases remStep_exLabels P text a a1 c hs with e | ⟨ls', hl, e⟩
      · exact hi ls (by rw [← e]; exact hls)
      · rw [e] at hls
        cases hls
        exact ⟨_, hl⟩
    · cases h

theorem remFinish_inv (P : Params) (val : Num) (a : RAcc) (v : Num) (ts : Option OTs) (ex : Option OExemplar)
    (h : remFinish P val a = .ok (v, ts, ex)) :
    v = val ∧ StampInvOpt ts ∧
      (∀ e, ex = some e → a.exLabels = some e.labels ∧ labelsLen e.labels ≤ 128 ∧ StampInvOpt e.ts) := by
  unfold remFinish at h
  split at h
  · cases h
  · split at h
    · cases h
    · rename_i ts0 ht
      have hts := parseTimestamp_inv P _ _ ht
      split at h
      · cases h
        exact ⟨rfl, hts, fun e he => by cases he⟩
      · rename_i ls hl
        split at h
        · cases h
        · rename_i e0 hx
          cases h
          refine ⟨rfl, hts, ?_⟩
          intro e he
          cases he
          unfold remExemplar at hx
          dsimp only at hx
          split at hx
          · cases hx
          · rename_i hlen
            split at hx
            · cases hx
            · split at hx
              · cases hx
              · rename_i ets hte
                cases hx
                refine ⟨hl, ?_, parseTimestamp_inv P _ _ hte⟩
                have : ¬ (labelsLen ls > 128) := by
                  simpa [natCmp, Generated.OMParse.exemplarLenCmp, Generated.OMParse.exemplarMaxLen, labelsLen] using hlen
                show labelsLen ls ≤ 128
                omega

theorem parseRemainingText_inv (P : Params) (text : Str) (v : Num) (ts : Option OTs) (ex : Option OExemplar)
    (h : parseRemainingText P text = .ok (v, ts, ex)) :
    StampInvOpt ts ∧ (∀ e, ex = some e → (∃ s, parseLabels P.legacy s true = .ok e.labels) ∧ labelsLen e.labels ≤ 128 ∧
      StampInvOpt e.ts) := by
  unfold parseRemainingText at h
  obtain ⟨val, _, h⟩ := bind_ok h
  split at h
  · cases h
    exact ⟨trivial, fun e he => by cases he⟩
  · rename_i rest _
    obtain ⟨a, hl, h⟩ := bind_ok h
    have hinv : ExInv P a := remLoop_exInv P rest rest {} a (fun ls hls => by cases hls) hl
    obtain ⟨_, h2, h3⟩ := remFinish_inv P val a v ts ex h
    refine ⟨h2, fun e he => ?_⟩
    obtain ⟨h4, h5, h6⟩ := h3 e he
    exact ⟨hinv _ h4, h5, h6⟩

theorem parseSample_inv (P : Params) (text : Str) (o : OSample) (h : parseSample P text = .ok o) :
    (∃ L, o.labels = some L ∧ LabelsOK P.legacy L) ∧ o.nh = none ∧ (∃ v, o.value = some v) ∧ StampInvOpt o.ts ∧
      (∀ e, o.exemplar = some e → (∃ s, parseLabels P.legacy s true = .ok e.labels) ∧ labelsLen e.labels ≤ 128 ∧ StampInvOpt e.ts) := by
  obtain ⟨n, L, rem, v, ts, ex, rfl, hr, hL⟩ := parseSample_ok P text o h
  have := parseRemainingText_inv P rem v ts ex hr
  refine ⟨⟨L, rfl, ?_⟩, rfl, ⟨v, rfl⟩, this.1, this.2⟩
  rcases hL with rfl | ⟨s, nm, labels, hl, hn⟩
  · simp [LabelsOK]
  · exact nameFromLabels_ok (parseLabels_valid _ _ _ _ hl) (OM.parseLabels_nodup _ _ _ _ hl) hn

theorem tsBack_ok (P : Params) (R : Rerender) (ots : Option OTs) (hinv : StampInvOpt ots)
    (hf : ∀ b, ots = some (.flt b) → TsOK P (.flt (R.reprFlt b)) ∧ P.pyFloat (R.reprFlt b) = some b) :
    ∀ t, ots.map (tsBack R) = some t → TsOK P t := by
  intro t ht
  cases ots with
  | none => cases ht
  | some o =>
    cases ht
    cases o with
    | stamp s n =>
      exact ⟨fun hs => by have := hinv.1 hs; simp only [nsPerSec]; omega, fun hs => by have := hinv.2 hs; simp only [nsPerSec]; omega⟩
    | flt b => exact (hf b rfl).1

theorem tsBack_same (P : Params) (hI : IntLaw P.pyInt) (R : Rerender) (ots : Option OTs) (hinv : StampInvOpt ots) (o' : Option OTs)
    (hp : parseTimestamp P ((ots.map (fun t => OMExpo.tsStr (tsBack R t))).getD []) = .ok o')
    (hm : tsMatches P (ots.map (tsBack R)) o') : otsSame P R ots o' := by
  cases ots with
  | none =>
    simp only [Option.map_none, Option.getD_none, parseTimestamp_nil] at hp
    cases hp; trivial
  | some o =>
    cases o with
    | stamp s n =>
      simp only [Option.map_some, Option.getD_some, tsBack, OMExpo.tsStr] at hp
      rw [parseTimestamp_stamp P hI s n hinv.1 hinv.2] at hp
      cases hp; rfl
    | flt b => cases o' <;> exact hm

/-- label names, timestamps, exemplar labels and their total length: all derived from acceptance; the number laws: `BackLaws` -/
theorem sampleBack_ok (P : Params) (R : Rerender) (line : Str) (o : OSample)
    (hacc : parseSample P line = .ok o) (hl : BackLaws P R o) : SampleOKom P (sampleBack R o) := by
  obtain ⟨⟨L, hL, hLok⟩, hnh, ⟨v, hv⟩, htsinv, hexinv⟩ := parseSample_inv P line o hacc
  refine ⟨by simp only [sampleBack, hL, Option.getD_some]; exact hLok,
    ⟨R.toF v, by simp only [sampleBack, hv, Option.getD_some]; exact hl.value v hv⟩, ?_, ?_⟩
  · intro t ht
    obtain ⟨x, hts, rfl⟩ := Option.map_eq_some_iff.mp ht
    exact tsBack_ok P R o.ts htsinv hl.ts _ (by rw [hts]; rfl)
  · intro e he
    obtain ⟨oe, hex, rfl⟩ := Option.map_eq_some_iff.mp he
    obtain ⟨⟨s, hs⟩, hlen, heinv⟩ := hexinv oe hex
    have hvalid := parseLabels_valid _ _ _ _ hs
    have hnd := OM.parseLabels_nodup _ _ _ _ hs
    refine ⟨⟨?_, hnd⟩, hlen, ⟨R.toF oe.value, hl.exValue oe hex⟩,
      tsBack_ok P R oe.ts heinv (fun b hb => hl.exTs oe b hex hb)⟩
    intro kv hkv
    rcases hvalid kv hkv with e | e
    · exact absurd (by rw [e]; decide) (hl.exName oe hex kv hkv)
    · exact e

theorem reparse_line (P : Params) (hI : IntLaw P.pyInt) (R : Rerender) (line : Str) (o : OSample)
    (hacc : parseSample P line = .ok o) (hl : BackLaws P R o) :
    ∃ o', parseSample P (lineBody (sampleBack R o)) = .ok o' ∧ SampleSame P R o o' := by
  obtain ⟨⟨L, hL, hLok⟩, hnh, ⟨v, hv⟩, htsinv, hexinv⟩ := parseSample_inv P line o hacc
  have hok := sampleBack_ok P R line o hacc hl
  obtain ⟨o', hp, hm, hx1, hx2⟩ := line_roundtrip_exact P hI (sampleBack R o) hok
  refine ⟨o', hp, ⟨hm.name, ?_, ?_, ?_, ?_, hm.nh⟩⟩
  · rw [hm.labels, hL]; simp [sampleBack, hL]
  · obtain ⟨b, hb1, hb2⟩ := hm.value
    have := (hl.value v hv).flt
    simp only [sampleBack, hv, Option.getD_some] at hb1
    rw [this] at hb1; cases hb1
    rw [hb2, hv]; rfl
  · have hmt := hm.ts
    simp only [sampleBack, Option.map_map] at hx1 hmt
    exact tsBack_same P hI R o.ts htsinv o'.ts hx1 hmt
  · cases hex : o.exemplar with
    | none =>
      have hme := hm.exemplar
      simp only [sampleBack, hex, Option.map_none] at hme
      cases ho' : o'.exemplar with
      | none => trivial
      | some x => rw [ho'] at hme; exact hme
    | some oe =>
      obtain ⟨_, _, heinv⟩ := hexinv oe hex
      have hme := hm.exemplar
      obtain ⟨oe', ho', hpe⟩ := hx2 (exBack R oe) (by simp [sampleBack, hex])
      simp only [sampleBack, hex, Option.map_some, ho', exemplarMatches] at hme
      obtain ⟨hlab, ⟨b, hb1, hb2⟩, hts⟩ := hme
      rw [ho']
      refine ⟨hlab, ?_, ?_⟩
      · have := (hl.exValue oe hex).flt
        simp only [exBack] at hb1
        rw [this] at hb1; cases hb1; exact hb2
      · simp only [exBack, Option.map_map] at hpe
        exact tsBack_same P hI R oe.ts heinv oe'.ts hpe hts

end PromVerif.Lemmas.OMRt
