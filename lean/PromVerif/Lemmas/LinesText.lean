/-
C05 lemmas: the text exposition.  A sample line is `textHead` (name and labels, up to the space before the value),
the value and the optional timestamp, each a block of `LinesBlocks`; HELP and TYPE lines go through the metadata
scanner.  The lines of one family are then counted (`familyLines_length`) and given their kinds in order
(`familyLines_kinds`): the only state of the loop is the `om_samples` dictionary of trailing `_created/_gsum/_gcount`
groups, followed through `keys` (which groups), `totLines` (how many lines) and `lenMap` (how many per group).
-/
import PromVerif.Lemmas.LinesBlocks
import PromVerif.Generated.Ctor

namespace PromVerif.Lemmas.Lines
open PromVerif.Py PromVerif.Model PromVerif.Model.Escape PromVerif.Model.Validation
open PromVerif.Generated.Expo PromVerif.Generated.Validation
open PromVerif.Spec.LineGrammar hiding Str
open PromVerif.Model.TextExpo (trailingOf addTrailing familyLines munge helpLine typeLine)

/-- hypothesis on one sample for the text format: its value is a number token (it is `repr(float(v))`).
Nothing is assumed about names, label names or label values. -/
def sampleOKText (s : Sample) : Bool := floatTok s.value

theorem text_labelStr_run (om f : Bool) (ls : List (Str × Str)) (hne : ls ≠ []) :
    run om (.lb false f) (TextExpo.labelStr ls) = .qe .lval :=
  run_sortedLabels om false TextExpo.labelItem (fun f kv => run_labelItem om false f kv.1 kv.2) ls hne f

/-- name and labels of a sample line as `sample_line` writes them, including the space before the value -/
def textHead (s : Sample) : Str :=
  let labelstr := if s.labels.isEmpty then [] else TextExpo.labelStr s.labels
  if isValidLegacyMetricName s.name then s.name ++ (if labelstr.isEmpty then [] else ['{'] ++ labelstr ++ ['}']) ++ [' ']
  else ['{'] ++ escapeMetricName s.name ++ (if labelstr.isEmpty then [] else [',']) ++ labelstr ++ ['}', ' ']

theorem text_sampleLine_eq (s : Sample) :
    TextExpo.sampleLine s = textHead s ++ Utils.floatToGoString s.value ++
      (match s.ts with | none => [] | some t => ' ' :: intStr t.millis) ++ ['\n'] := by
  unfold TextExpo.sampleLine textHead
  cases isValidLegacyMetricName s.name <;> rfl

theorem run_textHead (s : Sample) (r : Str) : run false .s0 (textHead s ++ r) = run false .v0 r := by
  unfold textHead
  by_cases hleg : isValidLegacyMetricName s.name = true
  · have h := run_bareHead false s.name (if s.labels.isEmpty then [] else TextExpo.labelStr s.labels) r
      (legacy_metric_bare s.name hleg) (by
        cases hls : s.labels with
        | nil => exact fun h => absurd rfl h
        | cons kv l => exact fun _ => text_labelStr_run false true (kv :: l) (List.cons_ne_nil kv l))
    simpa only [if_pos hleg, List.append_assoc, List.cons_append, List.nil_append] using h
  · rw [if_neg hleg, escapeMetricName_quoted s.name hleg]
    cases hls : s.labels with
    | nil =>
      simp only [List.isEmpty_nil, if_true, List.append_assoc, List.cons_append, List.nil_append, e_s0_qname,
        e_mname_close, e_al_sp]
    | cons kv l =>
      have hlab := text_labelStr_run false false (kv :: l) (List.cons_ne_nil kv l)
      -- the label string is not empty: the empty string would leave the automaton where it was
      have hne : TextExpo.labelStr (kv :: l) ≠ [] := fun e => by rw [e] at hlab; cases hlab
      simp only [List.isEmpty_cons, List.isEmpty_eq_false_iff.mpr hne, Bool.false_eq_true, if_false, List.append_assoc,
        List.cons_append, List.nil_append, e_s0_qname, e_mname_comma_text, run_append, hlab, e_lval_close, e_al_sp]

theorem text_sampleLine_lineOf (s : Sample) (h : sampleOKText s = true) :
    LineOf false .sample (TextExpo.sampleLine s) := by
  refine ⟨_, text_sampleLine_eq s, classify_sample false _ ?_⟩
  unfold sampleLine
  rw [List.append_assoc, run_textHead, run_append, run_value false _ (go_numTok _ h)]
  cases s.ts with
  | none => rfl
  | some t => rw [run_text_ts]; rfl

theorem text_helpLine_ok (n doc : Str) (tr : Bool) : LineOf false .help (TextExpo.helpLine n doc tr) := by
  apply help_lineOf
  cases tr
  · exact (helpText_escaped doc).1
  · exact (helpText_escaped doc).2.1

/-- every type in `METRIC_TYPES` is written as one of the text format's five type words, and is an OpenMetrics type -/
theorem munge_type_ok : ∀ t ∈ PromVerif.Generated.Ctor.metricTypes,
    typesText.contains (TextExpo.munge [] t).2 = true ∧ typesOM.contains t = true := by
  unfold typesText typesOM
  repeat rw [String.toList_ofList]
  decide +kernel

theorem munge_snd (n t : Str) : (TextExpo.munge n t).2 = (TextExpo.munge [] t).2 := by
  unfold TextExpo.munge; split <;> rfl

/-- preconditions on a family for the text format: the type is one of `METRIC_TYPES` (enforced by `Metric.__init__`),
every sample value is a number token.  Nothing is assumed about any name, help text or label. -/
def familyOKText (f : Family) : Bool :=
  PromVerif.Generated.Ctor.metricTypes.contains f.typ && f.samples.all sampleOKText

/-- the step of the `om_samples` dictionary loop -/
def omStep (fam : Family) (d : List (Str × List Str)) (s : Sample) : List (Str × List Str) :=
  match trailingOf fam s with
  | some suf => addTrailing d suf (TextExpo.sampleLine s)
  | none => d

def omFold (fam : Family) (d : List (Str × List Str)) (ss : List Sample) : List (Str × List Str) :=
  ss.foldl (omStep fam) d

theorem familyLines_eq (fam : Family) :
    familyLines fam =
      [helpLine (munge fam.name fam.typ).1 fam.doc false, typeLine (munge fam.name fam.typ).1 (munge fam.name fam.typ).2] ++
      (fam.samples.filter (fun s => (trailingOf fam s).isNone)).map TextExpo.sampleLine ++
      (sortByKey (omFold fam [] fam.samples)).flatMap (fun e =>
        [helpLine (fam.name ++ e.1) fam.doc true, typeLine (fam.name ++ e.1) "gauge".toList] ++ e.2) := rfl

theorem omFold_cons (fam : Family) (d : List (Str × List Str)) (s : Sample) (ss : List Sample) :
    omFold fam d (s :: ss) = omFold fam (omStep fam d s) ss := rfl

theorem omStep_none (fam : Family) (d : List (Str × List Str)) (s : Sample) (h : trailingOf fam s = none) :
    omStep fam d s = d := by
  simp [omStep, h]

theorem omStep_some (fam : Family) (d : List (Str × List Str)) (s : Sample) (suf : Str)
    (h : trailingOf fam s = some suf) : omStep fam d s = addTrailing d suf (TextExpo.sampleLine s) := by
  simp [omStep, h]

def totLines : List (Str × List Str) → Nat
  | [] => 0
  | e :: r => e.2.length + totLines r

def keys (d : List (Str × List Str)) : List Str := d.map (·.1)

/-- add a key unless present (insertion-ordered dict keys) -/
def addKey (acc : List Str) (k : Str) : List Str := if acc.contains k then acc else acc ++ [k]

/-- the trailing-gauge groups of a family, in order of first appearance -/
def trailingKeys (fam : Family) : List Str := (fam.samples.filterMap (trailingOf fam)).foldl addKey []

/-- the number of lines the text format owes a family -/
def expectedLineCount (fam : Family) : Nat := 2 + fam.samples.length + 2 * (trailingKeys fam).length

theorem totLines_append (a b : List (Str × List Str)) : totLines (a ++ b) = totLines a + totLines b := by
  induction a with
  | nil => simp [totLines]
  | cons e r ih => simp [totLines, ih]; omega

theorem keys_cons (e : Str × List Str) (r : List (Str × List Str)) : keys (e :: r) = e.1 :: keys r := rfl

theorem any_key_iff (d : List (Str × List Str)) (suf : Str) :
    d.any (fun e => e.1 == suf) = (keys d).contains suf := by
  induction d with
  | nil => rfl
  | cons e r ih => rw [List.any_cons, ih, keys_cons, List.contains_cons, BEq.comm (a := suf)]

theorem keys_addTrailing (d : List (Str × List Str)) (suf line : Str) :
    keys (addTrailing d suf line) = addKey (keys d) suf := by
  unfold addTrailing addKey
  rw [any_key_iff]
  split
  · simp only [keys, List.map_map]
    congr 1
    funext e
    simp only [Function.comp]
    split <;> rfl
  · simp [keys]

theorem totLines_map_hit (d : List (Str × List Str)) (suf line : Str) :
    totLines (d.map (fun e => if e.1 == suf then (e.1, e.2 ++ [line]) else e)) = totLines d + (keys d).count suf := by
  induction d with
  | nil => rfl
  | cons e r ih =>
    rw [List.map_cons, totLines, ih, keys_cons, List.count_cons, totLines]
    by_cases he : (e.1 == suf) = true
    · simp only [he, if_true, List.length_append, List.length_singleton]; omega
    · simp only [he, Bool.false_eq_true, if_false]; omega

theorem totLines_addTrailing (d : List (Str × List Str)) (suf line : Str) (hnd : (keys d).Nodup) :
    totLines (addTrailing d suf line) = totLines d + 1 := by
  unfold addTrailing
  rw [any_key_iff]
  split
  · next h => rw [totLines_map_hit, hnd.count, if_pos (List.contains_iff_mem.mp h)]
  · simp [totLines_append, totLines]

theorem nodup_addKey (acc : List Str) (k : Str) (h : acc.Nodup) : (addKey acc k).Nodup := by
  unfold addKey
  split
  · exact h
  · next hc =>
    exact (List.perm_append_singleton k acc).nodup_iff.mpr
      (List.nodup_cons.mpr ⟨fun hm => hc (List.contains_iff_mem.mpr hm), h⟩)

/-- a view `g` of the dictionary that `addTrailing` updates by `st`, whatever line is added, is after the loop the
fold of `st` over the suffixes met: used for the keys and for the group sizes -/
theorem omFold_view {β : Type} (g : List (Str × List Str) → β) (st : β → Str → β)
    (hg : ∀ d suf line, g (addTrailing d suf line) = st (g d) suf) (fam : Family) (d : List (Str × List Str))
    (ss : List Sample) : g (omFold fam d ss) = (ss.filterMap (trailingOf fam)).foldl st (g d) := by
  induction ss generalizing d with
  | nil => rfl
  | cons s r ih =>
    rw [omFold_cons, ih]
    cases h : trailingOf fam s with
    | none => simp [omStep_none fam d s h, h]
    | some suf => simp [omStep_some fam d s suf h, h, hg]

theorem omFold_keys (fam : Family) (d : List (Str × List Str)) (ss : List Sample) :
    keys (omFold fam d ss) = (ss.filterMap (trailingOf fam)).foldl addKey (keys d) :=
  omFold_view keys addKey keys_addTrailing fam d ss

theorem omFold_nodup (fam : Family) (d : List (Str × List Str)) (ss : List Sample) (h : (keys d).Nodup) :
    (keys (omFold fam d ss)).Nodup := by
  rw [omFold_keys]
  exact List.foldlRecOn _ addKey h (fun acc hacc k _ => nodup_addKey acc k hacc)

theorem omFold_tot (fam : Family) (d : List (Str × List Str)) (ss : List Sample) (h : (keys d).Nodup) :
    totLines (omFold fam d ss) = totLines d + (ss.filter (fun s => (trailingOf fam s).isSome)).length := by
  induction ss generalizing d with
  | nil => simp [omFold]
  | cons s r ih =>
    rw [omFold_cons]
    cases hs : trailingOf fam s with
    | none =>
      rw [omStep_none fam d s hs, ih d h]
      simp [hs]
    | some suf =>
      rw [omStep_some fam d s suf hs, ih _ (keys_addTrailing d suf _ ▸ nodup_addKey _ suf h),
        totLines_addTrailing d suf _ h]
      simp [hs]; omega

theorem main_add_trailing (fam : Family) (ss : List Sample) :
    (ss.filter (fun s => (trailingOf fam s).isNone)).length +
      (ss.filter (fun s => (trailingOf fam s).isSome)).length = ss.length := by
  induction ss with
  | nil => rfl
  | cons s r ih =>
    simp only [List.filter_cons]
    cases trailingOf fam s <;> simp <;> omega

theorem length_groups (L : List (Str × List Str)) (f : Str × List Str → List Str)
    (hf : ∀ e, (f e).length = 2 + e.2.length) :
    (L.flatMap f).length = 2 * L.length + totLines L := by
  induction L with
  | nil => rfl
  | cons e r ih => simp [List.flatMap_cons, hf, ih, totLines]; omega

theorem familyLines_length (fam : Family) : (familyLines fam).length = expectedLineCount fam := by
  rw [familyLines_eq]
  simp only [List.length_append, List.length_cons, List.length_nil, List.length_map]
  rw [((GatewaySort.sortByKey_perm _).flatMap_right _).length_eq, length_groups _ _ (fun e => by simp; omega)]
  have hk : (omFold fam [] fam.samples).length = (trailingKeys fam).length := by
    simpa [keys, trailingKeys] using congrArg List.length (omFold_keys fam [] fam.samples)
  have ht := omFold_tot fam [] fam.samples (by simp [keys])
  have hs := main_add_trailing fam fam.samples
  rw [hk, ht]
  simp only [totLines, expectedLineCount]
  omega

theorem addTrailing_lines (P : Str → Prop) (d : List (Str × List Str)) (suf line : Str)
    (hd : ∀ e ∈ d, ∀ l ∈ e.2, P l) (hl : P line) : ∀ e ∈ addTrailing d suf line, ∀ l ∈ e.2, P l := by
  unfold addTrailing
  split
  · refine List.forall_mem_map.mpr fun e he => ?_
    split
    · exact List.forall_mem_append.mpr ⟨hd e he, List.forall_mem_singleton.mpr hl⟩
    · exact hd e he
  · exact List.forall_mem_append.mpr ⟨hd, List.forall_mem_singleton.mpr (List.forall_mem_singleton.mpr hl)⟩

theorem omFold_lines (P : Str → Prop) (fam : Family) (d : List (Str × List Str)) (ss : List Sample)
    (hd : ∀ e ∈ d, ∀ l ∈ e.2, P l) (hss : ∀ s ∈ ss, P (TextExpo.sampleLine s)) :
    ∀ e ∈ omFold fam d ss, ∀ l ∈ e.2, P l := by
  unfold omFold
  refine List.foldlRecOn (motive := fun d => ∀ e ∈ d, ∀ l ∈ e.2, P l) ss (omStep fam) hd (fun d' hd' s hs => ?_)
  unfold omStep
  split
  · exact addTrailing_lines P d' _ _ hd' (hss s hs)
  · exact hd'

/-- count one more occurrence of `k` in an insertion-ordered histogram -/
def bump (d : List (Str × Nat)) (k : Str) : List (Str × Nat) :=
  if d.any (fun e => e.1 == k) then d.map (fun e => if e.1 == k then (e.1, e.2 + 1) else e) else d ++ [(k, 1)]

/-- occurrences of each string, in order of first appearance -/
def histo (ks : List Str) : List (Str × Nat) := ks.foldl bump []

/-- the sizes of the trailing-gauge groups of a family, groups sorted by suffix (Python `sorted(om_samples.items())`):
how many samples are named `family name ++ suffix` for each of `_created`, `_gsum`, `_gcount` that occurs -/
def textGroups (fam : Family) : List Nat :=
  (sortByKey (histo (fam.samples.filterMap (trailingOf fam)))).map (·.2)

/-- the kinds of line the text format owes a family, in order -/
def textKinds (fam : Family) : List Kind :=
  [.help, .type] ++ List.replicate (fam.samples.filter (fun s => (trailingOf fam s).isNone)).length .sample ++
    (textGroups fam).flatMap (fun n => [Kind.help, Kind.type] ++ List.replicate n Kind.sample)

def lenMap (d : List (Str × List Str)) : List (Str × Nat) := d.map (fun e => (e.1, e.2.length))

theorem lenMap_addTrailing (d : List (Str × List Str)) (suf line : Str) :
    lenMap (addTrailing d suf line) = bump (lenMap d) suf := by
  unfold addTrailing bump
  have hany : (lenMap d).any (fun e => e.1 == suf) = d.any (fun e => e.1 == suf) := by
    simp [lenMap, List.any_map, Function.comp_def]
  rw [hany]
  split
  · simp only [lenMap, List.map_map]
    apply List.map_congr_left
    intro e _
    simp only [Function.comp]
    split <;> simp
  · simp [lenMap]

theorem lenMap_omFold (fam : Family) (d : List (Str × List Str)) (ss : List Sample) :
    lenMap (omFold fam d ss) = (ss.filterMap (trailingOf fam)).foldl bump (lenMap d) :=
  omFold_view lenMap bump lenMap_addTrailing fam d ss

theorem textGroups_eq (fam : Family) :
    textGroups fam = (sortByKey (omFold fam [] fam.samples)).map (fun e => e.2.length) := by
  have h : lenMap (omFold fam [] fam.samples) = (fam.samples.filterMap (trailingOf fam)).foldl bump [] :=
    lenMap_omFold fam [] fam.samples
  unfold textGroups histo
  rw [← h, lenMap, ← GatewaySort.sortByKey_mapVal, List.map_map]
  rfl

theorem familyLines_kinds (fam : Family) (h : familyOKText fam = true) :
    LinesOf false (familyLines fam) (textKinds fam) := by
  simp only [familyOKText, Bool.and_eq_true, List.all_eq_true] at h
  obtain ⟨ht, hs⟩ := h
  have htyp := munge_type_ok fam.typ (List.contains_iff_mem.mp ht)
  rw [familyLines_eq]
  unfold textKinds
  refine LinesOf.append (LinesOf.append ?_ ?_) ?_
  · exact ⟨text_helpLine_ok _ _ _, type_lineOf false _ _ (by rw [munge_snd]; exact htyp.1), trivial⟩
  · apply LinesOf.map_replicate
    intro s hsm
    exact text_sampleLine_lineOf s (hs s (List.mem_filter.mp hsm).1)
  · -- trailing groups: each is HELP, TYPE gauge and the sample lines the loop stored
    have hstored := omFold_lines (LineOf false .sample) fam [] fam.samples (fun e he => nomatch he)
      (fun s hs1 => text_sampleLine_lineOf s (hs s hs1))
    rw [textGroups_eq, List.flatMap_map, List.flatMap_def]
    refine LinesOf.flatten _ _ _ (fun e he => ?_)
    refine LinesOf.append ⟨text_helpLine_ok _ _ _, type_lineOf false _ _ (by decide +kernel), trivial⟩ ?_
    exact LinesOf.replicate _ (hstored e ((GatewaySort.mem_sortByKey _ e).mp he))

theorem text_doc (fs : List Family) (h : ∀ f ∈ fs, familyOKText f = true) :
    LinesOf false (fs.flatMap familyLines) (fs.flatMap textKinds) := by
  rw [List.flatMap_def]
  exact LinesOf.flatten fs familyLines textKinds (fun f hf => familyLines_kinds f (h f hf))

end PromVerif.Lemmas.Lines
