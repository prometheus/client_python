/-
The sample line: `_parse_sample` applied to what `sample_line` renders gives back name, label dict, value token and
timestamp, for bare and quoted metric names, with and without labels.
-/
import PromVerif.Lemmas.TextParseLabels
import PromVerif.Model.TextParse
namespace PromVerif.Lemmas.TextParse
open PromVerif.Py PromVerif.Model PromVerif.Model.Escape PromVerif.Model.ParseCore PromVerif.Model.Validation PromVerif.Model.TextExpo
open PromVerif.Model.TextParse
open PromVerif.Generated.Validation PromVerif.Lemmas.Escape PromVerif.Lemmas.Scanner

/-- a quoted metric name inside the braces -/
def qname (n : Str) : Str := '"' :: (escape n ++ ['"'])

theorem validateMetricName_nameLabel (legacy : Bool) : validateMetricName legacy "__name__".toList = .ok () := by
  rw [String.toList_ofList]
  cases legacy <;> rfl

theorem oneLabelBody_qname (legacy : Bool) (n rest : Str) :
    PromVerif.Lemmas.TextTotal.oneLabelBody legacy [] (qname n) rest = .ok ([("__name__".toList, n)], rest) := by
  unfold qname
  have hop : nextUnquotedChar ('"' :: (escape n ++ ['"'])) (· == '=') 0 = none :=
    scan_pass_none (quoted_pass eqChs eqChs_safe.quote n)
  unfold PromVerif.Lemmas.TextTotal.oneLabelBody
  simp only [bind, Except.bind, pure, Except.pure, List.isEmpty_cons, Bool.false_eq_true, ↓reduceIte, hop, strip_quoted,
    findClosingQuote_quoted, quoted_end, quoted_take, unquoteUnescape_quoted, Bool.not_true, Bool.false_and, beq_self_eq_true,
    validateMetricName_nameLabel, List.any_nil, List.nil_append]

theorem parseOneLabel_qname (legacy : Bool) (n : Str) (r : List (Str × Str)) :
    parseOneLabel legacy false (qname n ++ tailStr r) [] = .ok ([("__name__".toList, n)], tailStr r) := by
  have h := parseOneLabel_term legacy (tm := qname n) (quoted_pass termChs termChs_safe.quote n) rfl (by decide)
    (strip_quoted _) r false []
  rw [if_neg Bool.false_ne_true, List.nil_append] at h
  rw [h]
  exact oneLabelBody_qname legacy n _

theorem name_not_mem_keys {legacy : Bool} {L : List (Str × Str)} (hok : ∀ x ∈ L, labelNameOK legacy x.1 = true) :
    nameLabel ∉ L.map (·.1) := by
  intro hm
  obtain ⟨x, hx, he⟩ := List.mem_map.mp hm
  exact labelNameOK_ne_name (hok x hx) he

theorem parseLabels_named {legacy : Bool} (n : Str) (L : List (Str × Str)) (h : LabelsOK legacy L) :
    parseLabels legacy (qname n ++ tailStr L) false = .ok ((nameLabel, n) :: L) := by
  refine parseLabels_first (tm := qname n) rfl (by decide) (by decide) (getLast?_cons_concat _ _ _) _ L
    (parseOneLabel_qname legacy n L) parseOneLabel_comma_item h.1 ?_
  rw [List.singleton_append, List.map_cons, List.nodup_cons]
  exact ⟨name_not_mem_keys h.1, h.2⟩

/-- characters of a rendered number: digits, `e . + -` and the letters of `+Inf`, `-Inf`, `NaN` -/
def isNumChar (c : Char) : Bool :=
  isDigit c || c == 'e' || c == '.' || c == '+' || c == '-' || c == 'I' || c == 'n' || c == 'f' || c == 'N' || c == 'a'

/-- a rendered number token: non-empty, number characters only -/
def NumTok (t : Str) : Prop := t ≠ [] ∧ ∀ c ∈ t, isNumChar c = true

instance (t : Str) : Decidable (NumTok t) := by unfold NumTok; infer_instance

theorem isDigit_range {c : Char} (h : isDigit c = true) : 48 ≤ c.toNat ∧ c.toNat ≤ 57 := by
  simp only [isDigit, Bool.and_eq_true, decide_eq_true_eq] at h
  have h1 := h.1; have h2 := h.2
  rw [Char.le_def, UInt32.le_iff_toNat_le] at h1 h2
  exact ⟨h1, h2⟩

theorem numChar_ne {c d : Char} (h : isNumChar c = true) (hd : isNumChar d = false) : c ≠ d := by
  intro e; subst e; rw [h] at hd; exact absurd hd (by decide)

theorem numChar_not_space {c : Char} (h : isNumChar c = true) : isPySpace c = false := by
  unfold isNumChar at h
  simp only [Bool.or_eq_true, beq_iff_eq] at h
  rcases h with ((((((((h | h) | h) | h) | h) | h) | h) | h) | h) | h
  · have := isDigit_range h
    exact not_space_of_range (by omega) (by omega)
  all_goals (subst h; decide)

theorem strip_numTok {t : Str} (h : NumTok t) : strip t = t :=
  strip_of_not_space (fun c hc => numChar_not_space (h.2 c hc))

theorem numTok_not_mem {t : Str} (h : NumTok t) {d : Char} (hd : isNumChar d = false) : d ∉ t :=
  fun hm => numChar_ne (h.2 d hm) hd rfl

section
variable (legacy : Bool) (pyInt : Str → Option Int) (pyFloat : Str → Option Nat)

theorem parseValue_numTok {t : Str} (h : NumTok t) :
    parseValue pyInt pyFloat t = match pyInt t with
      | some n => .ok (.int n)
      | none => match pyFloat t with
        | some b => .ok (.flt b)
        | none => .error .valueError := by
  unfold parseValue
  have h1 : (t != strip t) = false := by rw [strip_numTok h]; simp
  have h2 : t.contains '_' = false := by simpa using numTok_not_mem h (d := '_') (by decide)
  simp only [h1, h2, Bool.or_self, Bool.false_eq_true, ↓reduceIte]
  rfl

theorem intStr_numTok (n : Int) : NumTok (intStr n) := by
  have hd : ∀ k, ∀ c ∈ decDigits k, isNumChar c = true := fun k c hc => by
    simp [isNumChar, List.all_eq_true.mp (allDigits_decDigits k) c hc]
  unfold intStr
  cases n with
  | ofNat k => exact ⟨decDigits_ne_nil k, hd k⟩
  | negSucc k =>
    refine ⟨List.cons_ne_nil _ _, fun c hc => ?_⟩
    rcases List.mem_cons.mp hc with e | e
    · subst e; decide
    · exact hd _ c e

theorem splitOnChar_of_not_mem {c : Char} {s : Str} (h : c ∉ s) : splitOnChar c s = [s] := by
  induction s with
  | nil => rfl
  | cons x xs ih =>
    rw [List.mem_cons, not_or] at h
    rw [splitOnChar]; simp only [Ne.symm h.1, ↓reduceIte, ih h.2]

theorem splitOnChar_append {c : Char} {a : Str} (b : Str) (h : c ∉ a) :
    splitOnChar c (a ++ c :: b) = a :: splitOnChar c b := by
  induction a with
  | nil => simp [splitOnChar]
  | cons x xs ih =>
    rw [List.mem_cons, not_or] at h
    rw [List.cons_append, splitOnChar]; simp only [Ne.symm h.1, ↓reduceIte, ih h.2]

/-- the text after the name / label block: ` value[ millis]`, with or without the leading blank -/
def valTs (tok : Str) (ms : Option Int) : Str :=
  tok ++ (match ms with | none => [] | some m => ' ' :: intStr m)

theorem lstrip_space_numTok {t r : Str} (h : NumTok t) (lead : Bool) :
    lstrip ((if lead then [' '] else []) ++ (t ++ r)) = t ++ r := by
  obtain ⟨hne, hc⟩ := h
  cases t with
  | nil => exact absurd rfl hne
  | cons c cs =>
    have h0 : lstrip (c :: cs ++ r) = c :: cs ++ r := lstrip_of_head (a := c) rfl (numChar_not_space (hc c (by simp)))
    -- `lstrip` drops the leading blank by evaluation
    cases lead
    · exact h0
    · exact h0

theorem pvt_valTs {tok : Str} (h : NumTok tok) (ms : Option Int)
    (lead : Bool) :
    parseValueAndTimestamp pyInt pyFloat ((if lead then [' '] else []) ++ valTs tok ms) =
      (do let v ← parseValue pyInt pyFloat tok
          match ms with
          | none => pure (v, none)
          | some m => do
            let t ← parseValue pyInt pyFloat (intStr m)
            let ts ← divThousand t
            pure (v, some ts)) := by
  unfold parseValueAndTimestamp valTs
  rw [lstrip_space_numTok h lead]
  have hsp : ' ' ∉ tok := numTok_not_mem h (d := ' ') (by decide)
  have htb : '\t' ∉ tok := numTok_not_mem h (d := '\t') (by decide)
  have hne : tok.isEmpty = false := List.isEmpty_eq_false_iff.mpr h.1
  cases ms with
  | none =>
    have hc : tok.contains ' ' = false := by simpa using hsp
    simp only [hc, Bool.false_eq_true, ↓reduceIte, List.append_nil, splitOnChar_of_not_mem htb, List.map_cons, List.map_nil,
      strip_numTok h, List.filter_cons, hne, Bool.not_false, List.filter_nil, List.getLast?_nil]
  | some m =>
    have hm := intStr_numTok m
    have hsp' : ' ' ∉ intStr m := numTok_not_mem hm (d := ' ') (by decide)
    have hne' : (intStr m).isEmpty = false := List.isEmpty_eq_false_iff.mpr hm.1
    have hc : (tok ++ ' ' :: intStr m).contains ' ' = true := by simp
    simp only [hc, ↓reduceIte, splitOnChar_append _ hsp, splitOnChar_of_not_mem hsp', List.map_cons, List.map_nil,
      strip_numTok h, strip_numTok hm, List.filter_cons, hne, hne', Bool.not_false, List.filter_nil]
    rfl

theorem valTs_last {tok : Str} (h : NumTok tok) (ms : Option Int) :
    ∃ b, (valTs tok ms).getLast? = some b ∧ isPySpace b = false := by
  unfold valTs
  cases ms with
  | none =>
    rw [List.append_nil]
    exact last_not_space h.1 (fun c hc => numChar_not_space (h.2 c hc))
  | some m =>
    have hm := intStr_numTok m
    obtain ⟨b, hl, hb⟩ := last_not_space hm.1 (fun c hc => numChar_not_space (hm.2 c hc))
    refine ⟨b, ?_, hb⟩
    simp only []
    rw [List.getLast?_append, List.getLast?_cons, hl]
    rfl

theorem plainFor_valTs {chs : Char → Bool} (hsp : chs ' ' = false) (hn : ∀ c, isNumChar c = true → chs c = false) {tok : Str}
    (h : NumTok tok) (ms : Option Int) : PlainFor chs (' ' :: valTs tok ms) := by
  have hnum : ∀ t, NumTok t → PlainFor chs t := fun t ht c hc =>
    ⟨numChar_ne (ht.2 c hc) (by decide), numChar_ne (ht.2 c hc) (by decide), hn c (ht.2 c hc)⟩
  have hs : PlainFor chs [' '] := by
    intro c hc; simp at hc; subst hc; exact ⟨by decide, by decide, hsp⟩
  unfold valTs
  cases ms with
  | none => simpa using plainFor_append hs (hnum tok h)
  | some m =>
    have := plainFor_append hs (plainFor_append (hnum tok h) (plainFor_append hs (hnum _ (intStr_numTok m))))
    simpa using this

theorem legacyChar_eq_false {c d : Char} (h : isLegacyChar c = true) (hd : isLegacyChar d = false) : (c == d) = false := by
  simpa using legacyChar_ne h hd

/-- a legacy metric name that is not an F2 name: exact match, legacy characters only -/
theorem legacyName_chars {n : Str} (hv : isValidLegacyMetricName n = true) (hn : n.getLast? ≠ some '\n') :
    n ≠ [] ∧ ∀ c ∈ n, isLegacyChar c = true :=
  matchExact_metric_chars (matchName_exact hv hn)

theorem isInfix_nil_sep : isInfix sepHash [] = false := by
  unfold sepHash
  rw [String.toList_ofList]
  rfl

theorem isInfix_of_not_mem {sub s : Str} {c : Char} (hc : c ∈ sub) (hs : c ∉ s) : isInfix sub s = false := by
  induction s with
  | nil =>
    cases sub with
    | nil => simp at hc
    | cons _ _ => rfl
  | cons x xs ih =>
    have hxs : c ∉ xs := fun e => hs (by simp [e])
    rw [isInfix, ih hxs, Bool.or_false]
    apply Bool.eq_false_iff.mpr
    intro hp
    have := List.isPrefixOf_iff_prefix.mp hp
    exact hs (this.subset hc)

theorem parseSample_bare {n tok : Str}
    (hv : isValidLegacyMetricName n = true) (hn : n.getLast? ≠ some '\n') (ht : NumTok tok) (ms : Option Int) :
    parseSample legacy pyInt pyFloat (n ++ ' ' :: valTs tok ms) =
      (do let (value, ts) ← parseValueAndTimestamp pyInt pyFloat (valTs tok ms)
          pure ⟨n, [], value, ts⟩) := by
  obtain ⟨hne, hc⟩ := legacyName_chars hv hn
  have hplain1 : PlainFor (· == '{') (n ++ ' ' :: valTs tok ms) :=
    plainFor_append (plainFor_legacy (fun c h => legacyChar_eq_false h (by decide)) hc)
      (plainFor_valTs (by decide) (fun c h => by simpa using numChar_ne h (d := '{') (by decide)) ht ms)
  have hls : nextUnquotedChar (n ++ ' ' :: valTs tok ms) (· == '{') = none := scan_pass_none (pass_plain hplain1)
  have hne' : nextUnquotedChar (n ++ ' ' :: valTs tok ms) (fun c => c == ' ' || c == '\t') = some n.length :=
    scan_pass_hit (pass_plain (plainFor_legacy
      (fun c h => by simp [legacyChar_ne h (d := ' ') (by decide), legacyChar_ne h (d := '\t') (by decide)]) hc))
      ' ' _ (by decide) (by decide)
  unfold parseSample
  simp only [hls, hne', ↓reduceIte, sliceTo, sliceAfter, List.take_left, strip_legacy hc, hv, Bool.not_true, Bool.false_eq_true]
  rw [← List.drop_drop, List.drop_left]
  rfl

def rbChs : Char → Bool := (· == '}')
theorem rbChs_safe : NameSafe rbChs := nameSafe_eq '}' (by decide) (by decide)

theorem keys_ne_name {legacy : Bool} {L : List (Str × Str)} (hok : ∀ x ∈ L, labelNameOK legacy x.1 = true) :
    L.any (fun kv => kv.1 == nameLabel) = false ∧ L.filter (fun kv => !(kv.1 == nameLabel)) = L := by
  have hnm := name_not_mem_keys hok
  refine ⟨any_key_false hnm, List.filter_eq_self.mpr fun x hx => ?_⟩
  have : x.1 ≠ nameLabel := fun e => hnm (List.mem_map.mpr ⟨x, hx, e⟩)
  simpa using this

/-- the metric name of a sample with a label block: the text in front of the brace or, if there is none, the `__name__`
label (which is then removed) -/
def nameAndLabels (name : Str) (labels : List (Str × Str)) : PyM (Str × List (Str × Str)) :=
  if name.isEmpty then
    match labels.find? (fun kv => kv.1 == nameLabel) with
    | none => throw .valueError
    | some kv => pure (kv.2, labels.filter (fun kv => !(kv.1 == nameLabel)))
  else if labels.any (fun kv => kv.1 == nameLabel) then throw .valueError
  else pure (name, labels)

/-- `_parse_sample` on `pre{block}rest`: the block goes to `parse_labels`, the rest to `_parse_value_and_timestamp` -/
theorem parseSample_block {pre block rest : Str}
    (hpre : Pass (· == '{') pre) (hblock : Pass rbChs (pre ++ '{' :: block)) (hinf : isInfix sepHash pre = false) :
    parseSample legacy pyInt pyFloat (pre ++ '{' :: (block ++ ['}']) ++ rest) =
      (do let labels ← parseLabels legacy block false
          let (name, labels') ← nameAndLabels (strip pre) labels
          let (value, ts) ← parseValueAndTimestamp pyInt pyFloat rest
          pure ⟨name, labels', value, ts⟩) := by
  have e : pre ++ '{' :: (block ++ ['}']) ++ rest = (pre ++ '{' :: block) ++ '}' :: rest := by simp
  have hls : nextUnquotedChar ((pre ++ '{' :: block) ++ '}' :: rest) (· == '{') = some pre.length := by
    rw [List.append_assoc]; exact scan_pass_hit hpre '{' _ (by decide) (by decide)
  have hname : ((pre ++ '{' :: block) ++ '}' :: rest).take pre.length = pre := by
    rw [List.append_assoc]; exact List.take_left
  have hbl : (pre ++ '{' :: block).drop (pre.length + 1) = block := by
    rw [← List.drop_drop, List.drop_left]; rfl
  have hle : nextUnquotedChar ((pre ++ '{' :: block) ++ '}' :: rest) (· == '}') = some (pre ++ '{' :: block).length :=
    scan_pass_hit hblock '}' rest (by decide) (by decide)
  rw [e]
  unfold parseSample nameAndLabels
  simp only [hls, hle, hname, hinf, Bool.false_eq_true, ↓reduceIte, Option.getD_some, sliceTo, sliceAfter, List.take_left, hbl]
  rw [← List.drop_drop, List.drop_left]
  rfl

theorem lbrace_pass : Pass rbChs ['{'] := pass_char (by decide) (by decide) (by decide)

theorem parseSample_labels {n : Str}
    (hv : isValidLegacyMetricName n = true) (kv : Str × Str) (r : List (Str × Str)) (rest : Str)
    (h : LabelsOK legacy (kv :: r)) :
    parseSample legacy pyInt pyFloat (n ++ '{' :: (labelItem kv ++ tailStr r ++ ['}']) ++ rest) =
      (do let (value, ts) ← parseValueAndTimestamp pyInt pyFloat rest
          pure ⟨n, kv :: r, value, ts⟩) := by
  obtain ⟨hne, hc⟩ := legacyName_chars hv (legacyMetric_no_newline hv)
  have hpre : ∀ d, isLegacyChar d = false → Pass (· == d) n :=
    fun d hd => pass_plain (plainFor_legacy (fun c h => legacyChar_eq_false h hd) hc)
  have hblock : Pass rbChs (n ++ '{' :: (labelItem kv ++ tailStr r)) :=
    pass_append (hpre '}' (by decide)) (pass_append (a := ['{']) lbrace_pass (pass_append (item_pass rbChs_safe (by decide) (h.1 kv (by simp)))
      (tail_pass rbChs_safe (by decide) (by decide) r (fun x hx => h.1 x (by simp [hx])))))
  have hinf : isInfix sepHash n = false :=
    isInfix_of_not_mem (c := ' ') (by decide) (fun hm => legacyChar_ne (hc _ hm) (by decide) rfl)
  have hnem : n.isEmpty = false := List.isEmpty_eq_false_iff.mpr hne
  rw [parseSample_block legacy pyInt pyFloat (hpre '{' (by decide)) hblock hinf, parseLabels_items kv r h]
  simp only [nameAndLabels, strip_legacy hc, hnem, (keys_ne_name h.1).1, bind, Except.bind, pure, Except.pure,
    Bool.false_eq_true, ↓reduceIte]

theorem parseSample_quoted (n : Str)
    (L : List (Str × Str)) (rest : Str) (h : LabelsOK legacy L) :
    parseSample legacy pyInt pyFloat ('{' :: (qname n ++ tailStr L ++ ['}']) ++ rest) =
      (do let (value, ts) ← parseValueAndTimestamp pyInt pyFloat rest
          pure ⟨n, L, value, ts⟩) := by
  have hblock : Pass rbChs ([] ++ '{' :: (qname n ++ tailStr L)) :=
    pass_append (a := ['{']) lbrace_pass (pass_append (quoted_pass rbChs rbChs_safe.quote n) (tail_pass rbChs_safe (by decide) (by decide) L h.1))
  have hfind : List.find? (fun kv => kv.1 == nameLabel) ((nameLabel, n) :: L) = some (nameLabel, n) := by
    rw [List.find?_cons, beq_self_eq_true]
  have hfilter : List.filter (fun kv => !(kv.1 == nameLabel)) ((nameLabel, n) :: L) = L := by
    rw [List.filter_cons, beq_self_eq_true, Bool.not_true, if_neg Bool.false_ne_true]
    exact (keys_ne_name h.1).2
  have := parseSample_block legacy pyInt pyFloat (rest := rest) ⟨rfl, rfl⟩ hblock isInfix_nil_sep
  rw [List.nil_append] at this
  rw [this, parseLabels_named n L h]
  simp only [nameAndLabels, strip_nil, List.isEmpty_nil, ↓reduceIte, hfind, hfilter, bind, Except.bind, pure, Except.pure]

end

/-- the samples the line-level round trip is stated for -/
structure SampleOK (legacy : Bool) (s : Sample) : Prop where
  /-- label names accepted by `_validate_labelname`, unique keys -/
  labels : LabelsOK legacy s.labels
  /-- the rendered value is a number token (digits, `e . + -`, `Inf`, `NaN`) -/
  tok : NumTok (Utils.floatToGoString s.value)

/-- the millisecond count written on the line -/
def millisOf (s : Sample) : Option Int := s.ts.map (·.millis)

theorem labels_isEmpty_iff (ls : List (Str × Str)) : ls.isEmpty = (sortByKey ls).isEmpty :=
  (sortByKey_perm ls).symm.isEmpty_eq

/-- the part of a sample line before the value: its three shapes -/
def sampleHead (s : Sample) : Str :=
  if isValidLegacyMetricName s.name then
    match sortByKey s.labels with
    | [] => s.name
    | kv :: r => s.name ++ '{' :: (labelItem kv ++ tailStr r ++ ['}'])
  else '{' :: (qname s.name ++ tailStr (sortByKey s.labels) ++ ['}'])

/-- a sample line without its line feed -/
def sampleContent (s : Sample) : Str := sampleHead s ++ ' ' :: valTs (Utils.floatToGoString s.value) (millisOf s)

theorem sampleLine_eq (s : Sample) : sampleLine s = sampleContent s ++ ['\n'] := by
  unfold sampleLine sampleContent sampleHead valTs millisOf
  cases hs : sortByKey s.labels with
  | nil =>
    have he : s.labels.isEmpty = true := by rw [labels_isEmpty_iff, hs]; rfl
    by_cases hv : isValidLegacyMetricName s.name = true
    · simp [he, hv]
      cases s.ts <;> rfl
    · simp [he, hv, escapeMetricName, qname, tailStr]
      cases s.ts <;> rfl
  | cons kv r =>
    have he : s.labels.isEmpty = false := by rw [labels_isEmpty_iff, hs]; rfl
    have hne : (labelItem kv ++ tailStr r).isEmpty = false := by
      rw [labelItem_eq]; cases escapeLabelName kv.1 <;> rfl
    by_cases hv : isValidLegacyMetricName s.name = true
    · simp only [he, hv, Bool.false_eq_true, ↓reduceIte, hne, labelStr_of_sorted hs]
      simp
      cases s.ts <;> rfl
    · simp only [he, hv, Bool.false_eq_true, ↓reduceIte, hne, labelStr_of_sorted hs, escapeMetricName, qname, tailStr_cons]
      simp
      cases s.ts <;> rfl

theorem sampleContent_head {legacy : Bool} {s : Sample} (h : SampleOK legacy s) :
    ∃ a, (sampleContent s).head? = some a ∧ isPySpace a = false ∧ a ≠ '#' := by
  unfold sampleContent sampleHead
  by_cases hv : isValidLegacyMetricName s.name = true
  · obtain ⟨hne, hc⟩ := legacyName_chars hv (legacyMetric_no_newline hv)
    cases hn : s.name with
    | nil => exact absurd hn hne
    | cons a t =>
      have hl := hc a (by rw [hn]; simp)
      refine ⟨a, ?_, legacyChar_not_space hl, legacyChar_ne hl (by decide)⟩
      rw [← hn]; simp only [hv, ↓reduceIte]
      cases sortByKey s.labels <;> simp [hn]
  · simp only [hv, Bool.false_eq_true, ↓reduceIte]
    exact ⟨'{', rfl, by decide, by decide⟩

theorem strip_sampleContent {legacy : Bool} {s : Sample} (h : SampleOK legacy s) :
    strip (sampleLine s) = sampleContent s ∧ strip (sampleContent s) = sampleContent s := by
  obtain ⟨a, hhead, has, _⟩ := sampleContent_head h
  obtain ⟨b, hb, hbs⟩ := valTs_last h.tok (millisOf s)
  have hlast : (sampleContent s).getLast? = some b := by
    unfold sampleContent
    rw [List.getLast?_append, List.getLast?_cons, hb]; rfl
  exact ⟨by rw [sampleLine_eq]; exact strip_line hhead has hlast hbs, strip_eq_self hhead has hlast hbs⟩

/-- **a rendered sample line parses back to the sample**: same name, the label dict (sorted by key), the value token
read by the number parameters, the millisecond count (to be divided by 1000) -/
theorem sample_line_roundtrip (legacy : Bool) (pyInt : Str → Option Int) (pyFloat : Str → Option Nat) (s : Sample) (b : Nat)
    (h : SampleOK legacy s)
    (hi : pyInt (Utils.floatToGoString s.value) = none) (hf : pyFloat (Utils.floatToGoString s.value) = some b)
    (hms : ∀ m, millisOf s = some m → pyInt (intStr m) = some m ∧ intDivOverflows m = false) :
    parseSample legacy pyInt pyFloat (strip (sampleLine s)) =
      .ok ⟨s.name, sortByKey s.labels, .flt b, (millisOf s).map (fun m => ⟨.int m⟩)⟩ := by
  have hsorted := labelsOK_sortByKey h.labels
  have hpv : parseValue pyInt pyFloat (Utils.floatToGoString s.value) = .ok (.flt b) := by
    rw [parseValue_numTok _ _ h.tok, hi, hf]
  have hpvt : ∀ lead : Bool, parseValueAndTimestamp pyInt pyFloat ((if lead then [' '] else []) ++ valTs (Utils.floatToGoString s.value) (millisOf s)) =
      .ok (.flt b, (millisOf s).map (fun m => ⟨.int m⟩)) := by
    intro lead
    rw [pvt_valTs _ _ h.tok]
    cases hm : millisOf s with
    | none => simp only [hpv, bind, Except.bind]; rfl
    | some m =>
      obtain ⟨h1, h2⟩ := hms m hm
      have : parseValue pyInt pyFloat (intStr m) = .ok (.int m) := by
        rw [parseValue_numTok _ _ (intStr_numTok m), h1]
      simp only [hpv, this, bind, Except.bind, divThousand, h2, Bool.false_eq_true, ↓reduceIte]
      rfl
  have hpvt0 := hpvt false
  have hpvt1 := hpvt true
  simp only [Bool.false_eq_true, ↓reduceIte, List.nil_append, List.singleton_append] at hpvt0 hpvt1
  rw [(strip_sampleContent h).1]
  unfold sampleContent sampleHead
  by_cases hv : isValidLegacyMetricName s.name = true
  · simp only [hv, ↓reduceIte]
    cases hs : sortByKey s.labels with
    | nil =>
      simp only []
      rw [parseSample_bare legacy pyInt pyFloat hv (legacyMetric_no_newline hv) h.tok, hpvt0]
      rfl
    | cons kv r =>
      simp only []
      rw [hs] at hsorted
      rw [parseSample_labels legacy pyInt pyFloat hv kv r _ hsorted, hpvt1]
      rfl
  · simp only [hv, Bool.false_eq_true, ↓reduceIte]
    rw [parseSample_quoted legacy pyInt pyFloat s.name _ _ hsorted, hpvt1]
    rfl

end PromVerif.Lemmas.TextParse
