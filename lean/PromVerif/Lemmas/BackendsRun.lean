/-
C12: the coupling invariant `Core` holds after the constructors (`core_init`), is preserved by every call of a history
without remove/clear (`step_core`), hence holds after the whole history (`run_core`) — for the reference histories of
exactly the calls the in-memory run accepted.
-/
import PromVerif.Lemmas.BackendsCore

namespace PromVerif.Lemmas.Backends
open PromVerif.Py PromVerif.Generated.Multiprocess
open PromVerif.Model.Metrics (Val Decl Kind Child Action Addr Reg callMethod tlookup)
open PromVerif.Model.Multiprocess
open PromVerif.Model.Values
open PromVerif.Model.Backends
open PromVerif.Spec.Metrics (Hist appendAt modifyNth recordOn record keyOf)
open PromVerif.Spec.Backends (hasSet)
open PromVerif.Lemmas.Metrics (childOf metricOf RegAbs recAll upd)
set_option autoImplicit false
set_option linter.unusedSectionVars false

variable {V : Type} [Val V]


theorem modifyNth_congr {α : Type} (f g : α → α) (i : Nat) (l : List α) (x : α) (h : l[i]? = some x) (e : f x = g x) :
    modifyNth f i l = modifyNth g i l := by
  obtain ⟨hi, rfl⟩ := List.getElem?_eq_some_iff.mp h
  rw [modifyNth_eq_modify, modifyNth_eq_modify, List.modify_eq_take_cons_drop hi, List.modify_eq_take_cons_drop hi, e]

theorem modifyNth_modifyNth {α : Type} (f g : α → α) (i : Nat) (l : List α) :
    modifyNth g i (modifyNth f i l) = modifyNth (fun x => g (f x)) i l := by
  rw [modifyNth_eq_modify, modifyNth_eq_modify, modifyNth_eq_modify, List.modify_modify_eq]
  rfl

theorem modifyNth_id {α : Type} (f : α → α) : ∀ (i : Nat) (l : List α) (x : α), l[i]? = some x → f x = x →
    modifyNth f i l = l :=
  fun i l x h e => (modifyNth_congr f id i l x h e).trans (by rw [modifyNth_eq_modify, List.modify_id])

theorem appendAt_fresh_snoc (key : List Str) (a : Action V) (t : List (List Str × List (Action V)))
    (h : key ∉ t.map (·.1)) : appendAt key a (t ++ [(key, [])]) = appendAt key a t := by
  induction t with
  | nil => simp [appendAt]
  | cons x xs ih =>
    simp only [List.map_cons, List.mem_cons, not_or] at h
    have hne : ¬ x.1 = key := fun e => h.1 e.symm
    simp [appendAt, hne, ih h.2]

theorem flatMap_key_single {α κ γ : Type} [DecidableEq κ] (key : α → κ) (k : κ) (e : List γ) (g : α → List γ) :
    ∀ (l : List α), (l.map key).Nodup → (∀ x ∈ l, g x = if key x = k then e else []) →
      l.flatMap g = if k ∈ l.map key then e else []
  | [], _, _ => rfl
  | x :: l, hnd, hg => by
    simp only [List.map_cons, List.nodup_cons] at hnd
    rw [List.flatMap_cons, hg x List.mem_cons_self,
      flatMap_key_single key k e g l hnd.2 (fun y hy => hg y (List.mem_cons_of_mem _ hy))]
    by_cases hk : key x = k
    · rw [if_pos hk, if_neg (hk ▸ hnd.1), List.append_nil, if_pos (by simp [hk])]
    · rw [if_neg hk, List.nil_append]
      simp only [List.map_cons, List.mem_cons, Ne.symm hk, false_or]

theorem tlookup_none_iff {β : Type} (k : List Str) (t : List (List Str × β)) : tlookup k t = none ↔ k ∉ t.map (·.1) := by
  induction t with
  | nil => simp [tlookup]
  | cons x xs ih =>
    simp only [tlookup, List.map_cons, List.mem_cons, not_or]
    by_cases e : x.1 = k
    · simp [e]
    · simp [e, ih, Ne.symm e]

theorem tlookup_some_mem {β : Type} (k : List Str) (t : List (List Str × β)) (v : β) (h : tlookup k t = some v) :
    (k, v) ∈ t := by
  induction t with
  | nil => cases h
  | cons x xs ih =>
    rw [tlookup] at h
    split at h
    · next e =>
      cases h
      subst e
      exact List.mem_cons_self
    · exact List.mem_cons_of_mem _ (ih h)


/-- the value objects an unlabelled metric's constructor creates -/
def block (d : MDecl V) : List Params := if d.decl.labelnames.isEmpty then cellParams d [] else []

theorem initParams_eq (ds : List (MDecl V)) : initParams ds = ds.flatMap block := rfl

theorem block_metric (d : MDecl V) (p : Params) (h : p ∈ block d) : p.metric = d.decl.name := by
  unfold block at h
  split at h
  · exact (cellParams_metric d [] p h).1
  · cases h

theorem block_keys_nodup (d : MDecl V) (hw : WFDecl d) : ((block d).map mmapKey).Nodup := by
  unfold block
  split
  · next h => exact cellKeys_nodup d hw [] (by rw [List.nil_of_isEmpty h])
  · simp

theorem init_keys_nodup (ds : List (MDecl V)) (hn : (ds.map (fun d => d.decl.name)).Nodup) (hw : ∀ d ∈ ds, WFDecl d) :
    ((ds.flatMap block).map mmapKey).Nodup := by
  rw [List.map_flatMap]
  refine List.pairwise_flatMap.mpr ⟨fun d hd => block_keys_nodup d (hw d hd), (List.pairwise_map.mp hn).imp ?_⟩
  -- cells of metrics with different names have different keys
  intro d d' hne a ha b hb e
  obtain ⟨p, hp, rfl⟩ := List.mem_map.mp ha
  obtain ⟨q, hq, rfl⟩ := List.mem_map.mp hb
  have : p.metric = q.metric := congrArg Key.metric e
  rw [block_metric d p hp, block_metric d' q hq] at this
  exact hne this

theorem filter_init (ds : List (MDecl V)) (d : MDecl V) (hn : (ds.map (fun d => d.decl.name)).Nodup) (hdm : d ∈ ds) :
    (ds.flatMap block).filter (fun p => decide (p.metric = d.decl.name)) = block d := by
  rw [List.filter_flatMap, flatMap_key_single (fun d' : MDecl V => d'.decl.name) d.decl.name (block d) _ ds hn,
    if_pos (List.mem_map_of_mem hdm)]
  intro d' hd'
  split
  · next e =>
    obtain rfl := inj_of_nodup_map _ ds hn d' hd' d hdm e
    exact filter_eq_self_of _ _ (fun x hx => by simpa using block_metric d' x hx)
  · next e =>
    refine filter_eq_nil_of _ _ (fun x hx => ?_)
    rw [block_metric d' x hx]
    exact decide_eq_false e

theorem core_init (ds : List (MDecl V)) (hwf : WFAll ds) (pid : Str) :
    Core ds pid (ds.map (fun _ => (Hist.empty : Hist V))) (initParams ds)
      (run (voOf V) (St.init pid) ((initParams ds).map Op.construct)) := by
  obtain ⟨r1, r2, r3⟩ := run_constructs (voOf V) pid (initParams ds) (St.init pid) (vinv_init _ pid)
    (ids_nodup_of_keys _ (init_keys_nodup ds hwf.names hwf.decls)) (by intro q _ h; simp [idsOf, St.init] at h)
  refine ⟨r1, by rw [r2]; simp [St.init], ?_, ?_⟩
  · intro p hp
    rw [initParams_eq] at hp
    obtain ⟨d, hd, hp'⟩ := List.mem_flatMap.mp hp
    exact ⟨d, hd, block_metric d p hp'⟩
  · intro i d h hd hh
    rw [List.getElem?_map, hd] at hh
    cases hh
    have hord := filter_init ds d hwf.names (List.mem_of_getElem? hd)
    rw [← initParams_eq] at hord
    -- no child yet, or (no labels) the metric itself, created with no call yet
    have hnil : MetricCore d pid [] (St.init (V := V) pid).disk [] :=
      ⟨rfl, fun _ h => (nomatch h), List.nodup_nil, fun _ h => (nomatch h), fun _ _ h => (nomatch h)⟩
    unfold block at hord
    unfold childList Hist.empty
    cases hl : d.decl.labelnames.isEmpty with
    | false =>
      rw [hl] at hord
      exact hnil.frame _ _ hord (fun _ h => nomatch h)
    | true =>
      rw [hl] at hord
      have hm := hnil.create [] (fun h => nomatch h) (by rw [List.nil_of_isEmpty hl]) _ (fun _ => r3 _ _) (fun _ _ => rfl)
      exact hm.frame _ _ (hord.trans (by rw [hm.order]; simp)) (fun _ _ _ _ => rfl)


/-- the method that reaches the metric object (`Gauge.inc/dec` in a mostrecent mode never does) -/
def frontAct (ds : List (MDecl V)) (i : Nat) (act : Action V) : Action V :=
  if mrBlocked ds (.call i .none act) then .touch else act

theorem front_call (ds : List (MDecl V)) (i : Nat) (addr : Addr) (act : Action V) :
    front ds (.call i addr act) = .call i addr (frontAct ds i act) := by
  unfold front frontAct
  have : mrBlocked ds (.call i addr act) = mrBlocked ds (.call i .none act) := by cases act <;> rfl
  rw [this]
  split <;> rfl

theorem frontAct_mostRecent (ds : List (MDecl V)) (i : Nat) (d : MDecl V) (hd : ds[i]? = some d) (hmr : isMostRecent d = true)
    (act : Action V) : (∀ x, frontAct ds i act ≠ .inc x) ∧ (∀ x, frontAct ds i act ≠ .dec x) := by
  unfold frontAct
  cases act <;> simp [mrBlocked, hd, hmr]

/-- the common tail of a call on an existing child: the method's value-object calls if it returns, nothing if it raises -/
theorem core_method {ds : List (MDecl V)} (hwf : WFAll ds) {pid : Str} {hs : List (Hist V)} {ps : List Params} {st : St V}
    (hc : Core ds pid hs ps st) {i : Nat} {d : MDecl V} {h : Hist V} (hd : ds[i]? = some d) (hh : hs[i]? = some h)
    {key : List Str} {acts : List (Action V)} (hka : (key, acts) ∈ childList d h) (act : Action V) (t : V)
    (ht : (voOf V).truthy t = true ∧ Val.lt (Val.zero : V) t = true)
    (hfa : isMostRecent d = true → (∀ x, act ≠ .inc x) ∧ (∀ x, act ≠ .dec x)) :
    Core ds pid
      (modifyNth (hsAct d key (if (callMethod d.decl true act (some (childOf d.decl acts))).2 = .ok then act else .touch)) i hs) ps
      (run (voOf V) st (if (callMethod d.decl true act (some (childOf d.decl acts))).2 = .ok
        then (cellUpdates d t act).flatMap (toVop ps (cellParams d key)) else [])) := by
  have hwd := hwf.decls d (List.mem_of_getElem? hd)
  by_cases hout : (callMethod d.decl true act (some (childOf d.decl acts))).2 = .ok
  · rw [if_pos hout, if_pos hout]
    refine core_update hwf hc hd hh hka act (cellUpdates d t act) ⟨?_, ?_⟩
    · rw [Lemmas.Metrics.childOf_snoc]
      exact upd_cells d hwd.sup t act _ hout
    · intro hmr
      obtain ⟨n1, n2⟩ := hfa hmr
      have hk := kind_of_mostRecent d hmr
      cases act with
      | touch => exact Or.inl ⟨by simp [cellUpdates], rfl⟩
      | inc x => exact absurd rfl (n1 x)
      | dec x => exact absurd rfl (n2 x)
      | set x => exact Or.inr ⟨x, t, by simp [cellUpdates, hk, hmr], ht.1, ht.2, rfl⟩
      -- a gauge has none of the other methods
      | observe _ | reset | info _ | state _ => simp [callMethod, hk] at hout
  · rw [if_neg hout, if_neg hout]
    refine core_update hwf hc hd hh hka .touch [] ⟨?_, ?_⟩
    · rw [Lemmas.Metrics.childOf_snoc, Lemmas.Metrics.upd_touch]; rfl
    · intro _; exact Or.inl ⟨rfl, rfl⟩

theorem resolve_len (ln : List Str) (args : List Model.Metrics.PyVal) (kw : List (Str × Model.Metrics.PyVal)) (key : List Str)
    (h : Model.Metrics.resolveLabels ln args kw = .ok key) : key.length = ln.length ∧ ln.isEmpty = false := by
  have hb := Lemmas.Metrics.resolve_ok ln args kw key h
  rw [Lemmas.Metrics.resolve_good ln args kw hb] at h
  cases h
  unfold Lemmas.Metrics.BadLabels at hb
  refine ⟨?_, List.isEmpty_eq_false_iff.mpr (fun e => hb (Or.inl e))⟩
  by_cases hkw : kw = []
  · rw [if_pos hkw, List.length_map]
    exact Classical.byContradiction fun hne => hb (Or.inr (Or.inr (Or.inr ⟨hkw, hne⟩)))
  · rw [if_neg hkw, List.length_map]


theorem target_none (d : MDecl V) (h : Hist V) :
    target (metricOf d.decl h) .none = if d.decl.labelnames.isEmpty then some ([], false) else none := by
  unfold target metricOf
  cases d.decl.labelnames.isEmpty <;> rfl

theorem target_labels (d : MDecl V) (h : Hist V) (args : List Model.Metrics.PyVal) (kw : List (Str × Model.Metrics.PyVal)) :
    target (metricOf d.decl h) (.labels args kw) = match Model.Metrics.resolveLabels d.decl.labelnames args kw with
      | .ok key => some (key, (tlookup key h.table).isNone)
      | .error _ => none := by
  show (match Model.Metrics.resolveLabels d.decl.labelnames args kw with
    | .ok key => some (key, (tlookup key (metricOf d.decl h).children).isNone)
    | .error _ => none) = _
  cases Model.Metrics.resolveLabels d.decl.labelnames args kw with
  | error e => rfl
  | ok key => simp [metricOf, Lemmas.Metrics.tlookup_map]

theorem stepVops_call (ds : List (MDecl V)) (clock : Nat → V) (s : CSt V) (i : Nat) (addr : Addr) (act0 : Action V)
    (d : MDecl V) (m : Model.Metrics.Metric V) (hd : ds[i]? = some d) (hm : s.reg[i]? = some m) :
    stepVops ds clock s (.call i addr act0) =
      match target m addr with
      | none => ([], [])
      | some (key, fresh) =>
        ((if fresh then cellParams d key else []).map Op.construct ++
          (if (Model.Metrics.step s.reg (.call i addr (frontAct ds i act0))).2 = .ok then
            (cellUpdates d (clock s.n) (frontAct ds i act0)).flatMap
              (toVop (s.ps ++ (if fresh then cellParams d key else [])) (cellParams d key))
           else []),
         if fresh then cellParams d key else []) := by
  simp only [stepVops, front_call, hd, hm]
  cases target m addr with
  | none => rfl
  | some kf => rfl

theorem stepVops_nodecl (ds : List (MDecl V)) (clock : Nat → V) (s : CSt V) (i : Nat) (addr : Addr) (act0 : Action V)
    (h : ds[i]? = none ∨ s.reg[i]? = none) : stepVops ds clock s (.call i addr act0) = ([], []) := by
  simp only [stepVops, front_call]
  rcases h with h | h
  · rw [h]
  · rw [h]; cases ds[i]? <;> rfl

/-- a method called through `labels(…)` that resolves to `key`: whether it returns does not depend on the child -/
theorem acceptedM_labels (d : Decl V) (h : Hist V) (i : Nat) (args : List Model.Metrics.PyVal)
    (kw : List (Str × Model.Metrics.PyVal)) (key : List Str) (act : Action V)
    (hres : Model.Metrics.resolveLabels d.labelnames args kw = .ok key) (c : Child V) :
    (Model.Metrics.stepM (metricOf d h) (.call i (.labels args kw) act)).2 = (callMethod d true act (some c)).2 ∧
      Lemmas.Metrics.acceptedM (metricOf d h) (.call i (.labels args kw) act)
        = some (.call i (.labels args kw) (if (callMethod d true act (some c)).2 = .ok then act else .touch)) := by
  have hres' : Model.Metrics.resolveLabels (metricOf d h).decl.labelnames args kw = .ok key := hres
  have hout : (Model.Metrics.stepM (metricOf d h) (.call i (.labels args kw) act)).2
      = (callMethod d true act (some c)).2 := by
    simp only [Model.Metrics.stepM]
    rw [Lemmas.Metrics.stepCall_labels_ok (metricOf d h) args kw key _ hres']
    exact Lemmas.Metrics.callMethod_out_indep _ _ _ _
  refine ⟨hout, ?_⟩
  cases hcm : (callMethod d true act (some c)).2 with
  | ok => rw [Lemmas.Metrics.acceptedM_of_ok _ _ (hout.trans hcm), if_pos rfl]
  | raised e =>
    rw [Lemmas.Metrics.acceptedM_of_raised _ _ e (hout.trans hcm), if_neg Model.Metrics.Out.noConfusion]
    simp [Model.Metrics.Op.touchOf, Lemmas.Metrics.stepM_touch_labels _ i args kw key hres']

/-- the child `key` that `labels()` returns on a labelled metric: it exists, or it is created and its value objects are
constructed first; a call on it is then recorded as on the old histories -/
theorem core_child {ds : List (MDecl V)} (hwf : WFAll ds) {pid : Str} {hs : List (Hist V)} {ps : List Params} {st : St V}
    (hc : Core ds pid hs ps st) {i : Nat} {d : MDecl V} {h : Hist V} (hd : ds[i]? = some d) (hh : hs[i]? = some h)
    (hl : d.decl.labelnames.isEmpty = false) (key : List Str) (hklen : key.length = d.decl.labelnames.length) :
    ∃ (acts : List (Action V)) (hs1 : List (Hist V)) (h1 : Hist V),
      Core ds pid hs1 (ps ++ (if (tlookup key h.table).isNone then cellParams d key else []))
        (run (voOf V) st ((if (tlookup key h.table).isNone then cellParams d key else []).map Op.construct)) ∧
      hs1[i]? = some h1 ∧ (key, acts) ∈ childList d h1 ∧
      ∀ a, modifyNth (hsAct d key a) i hs1 = modifyNth (hsAct d key a) i hs := by
  cases hlk : tlookup key h.table with
  | some acts =>
    exact ⟨acts, hs, h, by simpa [run] using hc, hh,
      by rw [childList_labelled hl]; exact tlookup_some_mem key h.table acts hlk, fun _ => rfl⟩
  | none =>
    have hknew : key ∉ h.table.map (·.1) := (tlookup_none_iff key h.table).mp hlk
    refine ⟨[], _, { h with table := h.table ++ [(key, [])] }, core_create hwf hc hd hh hl key hknew hklen, ?_,
      by simp [childList, hl], ?_⟩
    · rw [getElem?_modifyNth]; simp [hh]
    · intro a
      rw [modifyNth_modifyNth]
      apply modifyNth_congr _ _ i hs h hh
      simp [hsAct, hl, appendAt_fresh_snoc key a h.table hknew]

theorem step_core (ds : List (MDecl V)) (hwf : WFAll ds) (pid : Str) (clock : Nat → V)
    (hclk : ClockOK clock)
    (s : CSt V) (hs : List (Hist V)) (st : St V)
    (habs : RegAbs (ds.map (·.decl)) s.reg hs) (hc : Core ds pid hs s.ps st)
    (i : Nat) (addr : Addr) (act0 : Action V) :
    Core ds pid (recAll (ds.map (·.decl)) hs (Model.Metrics.acceptedOp s.reg (front ds (.call i addr act0))))
      (s.ps ++ (stepVops ds clock s (.call i addr act0)).2)
      (run (voOf V) st (stepVops ds clock s (.call i addr act0)).1) := by
  have hunch : Core ds pid hs (s.ps ++ []) (run (voOf V) st []) := by simpa [run] using hc
  rw [front_call, Lemmas.Metrics.acceptedOp_eq]
  simp only [Model.Metrics.Op.metric]
  cases hd : ds[i]? with
  | none =>
    have hr : s.reg[i]? = none := by
      rw [habs.eq]; exact Lemmas.Metrics.zipWith_getElem?_none _ _ _ _ (by rw [List.getElem?_map, hd]; rfl)
    rw [stepVops_nodecl ds clock s i addr act0 (Or.inl hd), hr]
    exact hunch
  | some d =>
    have hd' : (ds.map (·.decl))[i]? = some d.decl := by rw [List.getElem?_map, hd]; rfl
    obtain ⟨h, hh, hokd⟩ := Lemmas.Metrics.forall2_getElem? Lemmas.Metrics.AllOk _ hs i d.decl habs.ok hd'
    have hr : s.reg[i]? = some (metricOf d.decl h) := by
      rw [habs.eq]; exact Lemmas.Metrics.zipWith_getElem? _ _ _ _ d.decl h hd' hh
    rw [hr, stepVops_call ds clock s i addr act0 d _ hd hr]
    simp only
    -- recording an accepted call on the child `key` (`[]`: the metric itself)
    have hrec : ∀ (addr : Addr) (key : List Str) (a : Action V),
        recordOn d.decl.labelnames h (.call i addr a) = hsAct d key a h →
        recAll (ds.map (·.decl)) hs (some (.call i addr a)) = modifyNth (hsAct d key a) i hs := by
      intro addr key a e
      simp only [recAll, record, Model.Metrics.Op.metric, hd']
      exact modifyNth_congr _ _ i hs h hh e
    have hstepout : (Model.Metrics.step s.reg (.call i addr (frontAct ds i act0))).2
        = (Model.Metrics.stepM (metricOf d.decl h) (.call i addr (frontAct ds i act0))).2 := by
      rw [Lemmas.Metrics.step_eq]
      simp only [Model.Metrics.Op.metric, hr]
    have hfa := fun hmr => frontAct_mostRecent ds i d hd hmr act0
    cases addr with
    | none =>
      rw [target_none]
      cases hl : d.decl.labelnames.isEmpty with
      | false =>
        -- a method on the labelled parent: no value object is touched; the histories change at most in `single`
        simp only [Bool.false_eq_true, if_false]
        cases hst : (Model.Metrics.stepM (metricOf d.decl h) (.call i .none (frontAct ds i act0))).2 with
        | raised e =>
          rw [Lemmas.Metrics.acceptedM_of_raised _ _ e hst]
          exact hunch
        | ok =>
          rw [Lemmas.Metrics.acceptedM_of_ok _ _ hst, List.append_nil]
          simp only [recAll, record, Model.Metrics.Op.metric, hd']
          exact core_same_children hwf hc hd hh _ (by simp [childList, hl, recordOn, keyOf])
      | true =>
        -- a method on the unlabelled metric itself
        have hka : (([] : List Str), h.single) ∈ childList d h := by simp [childList, hl]
        have hout : (Model.Metrics.stepM (metricOf d.decl h) (.call i .none (frontAct ds i act0))).2
            = (callMethod d.decl true (frontAct ds i act0) (some (childOf d.decl h.single))).2 := by
          simp [Model.Metrics.stepM, Model.Metrics.stepCall, metricOf, hl]
        have hm := core_method hwf hc hd hh hka (frontAct ds i act0) (clock s.n) (hclk s.n) hfa
        simp only [if_true, Bool.false_eq_true, if_false, List.map_nil, List.nil_append, List.append_nil, hstepout]
        rw [hout]
        cases hcm : (callMethod d.decl true (frontAct ds i act0) (some (childOf d.decl h.single))).2 with
        | ok =>
          rw [hcm, if_pos rfl, if_pos rfl] at hm
          rw [if_pos rfl, Lemmas.Metrics.acceptedM_of_ok _ _ (hout.trans hcm),
            hrec .none [] _ (by simp [recordOn, keyOf, hsAct, hl])]
          exact hm
        | raised e =>
          rw [if_neg Model.Metrics.Out.noConfusion, Lemmas.Metrics.acceptedM_of_raised _ _ e (hout.trans hcm)]
          simpa [Model.Metrics.Op.touchOf, recAll, run] using hc
    | labels args kw =>
      rw [target_labels]
      cases hres : Model.Metrics.resolveLabels d.decl.labelnames args kw with
      | error e =>
        have hres' : Model.Metrics.resolveLabels (metricOf d.decl h).decl.labelnames args kw = .error e := hres
        have hacc : Lemmas.Metrics.acceptedM (metricOf d.decl h) (.call i (.labels args kw) (frontAct ds i act0)) = none := by
          simp [Lemmas.Metrics.acceptedM, Model.Metrics.stepM,
            Lemmas.Metrics.stepCall_labels_err (metricOf d.decl h) args kw e _ hres', Model.Metrics.Op.touchOf]
        rw [hacc]
        exact hunch
      | ok key =>
        obtain ⟨hklen, hl⟩ := resolve_len _ _ _ _ hres
        have hkeyOf := Lemmas.Metrics.resolve_keyOf d.decl.labelnames args kw key hres
        obtain ⟨acts, hs1, h1, hc1, hh1, hka1, hsame⟩ := core_child hwf hc hd hh hl key hklen
        obtain ⟨hout, hacc⟩ :=
          acceptedM_labels d.decl h i args kw key (frontAct ds i act0) hres (childOf d.decl acts)
        have hm := core_method hwf hc1 hd hh1 hka1 (frontAct ds i act0) (clock s.n) (hclk s.n) hfa
        rw [hsame] at hm
        simp only
        rw [hstepout, hout, hacc, hrec _ key _ (by simp [recordOn, hkeyOf, hsAct, hl]), run_append]
        exact hm


/-- a history without `remove()` / `clear()` -/
def NoRemoval (h : List (Model.Metrics.Op V)) : Prop := ∀ op ∈ h, ∃ i addr act, op = Model.Metrics.Op.call i addr act

theorem foldl_record_toList (dd : List (Decl V)) (hs : List (Hist V)) (o : Option (Model.Metrics.Op V)) :
    o.toList.foldl (record dd) hs = recAll dd hs o := by
  cases o <;> rfl

theorem run_core (ds : List (MDecl V)) (hwf : WFAll ds) (pid : Str) (clock : Nat → V)
    (hclk : ClockOK clock) :
    ∀ (h : List (Model.Metrics.Op V)) (s : CSt V) (hs : List (Hist V)) (st : St V), NoRemoval h →
      RegAbs (ds.map (·.decl)) s.reg hs → Core ds pid hs s.ps st →
      ∃ ps', Core ds pid ((Model.Metrics.accepted s.reg (h.map (front ds))).foldl (record (ds.map (·.decl))) hs) ps'
        (run (voOf V) st (compileFrom ds clock s h))
  | [], s, hs, st, _, _, hc => ⟨s.ps, by simpa [Model.Metrics.accepted, compileFrom, run] using hc⟩
  | op :: ops, s, hs, st, hnr, habs, hc => by
    obtain ⟨i, addr, act, rfl⟩ := hnr _ List.mem_cons_self
    have h1 := step_core ds hwf pid clock hclk s hs st habs hc i addr act
    have habs' := Lemmas.Metrics.step_abs (ds.map (·.decl)) s.reg hs (front ds (.call i addr act)) habs
    obtain ⟨ps', hps'⟩ := run_core ds hwf pid clock hclk ops (stepC ds clock s (.call i addr act)) _ _
      (fun op hop => hnr op (List.mem_cons_of_mem _ hop)) habs' h1
    refine ⟨ps', ?_⟩
    simp only [List.map_cons, Model.Metrics.accepted, List.foldl_append, foldl_record_toList, compileFrom, run_append]
    exact hps'

theorem runMmap_core (ds : List (MDecl V)) (hwf : WFAll ds) (pid : Str) (clock : Nat → V)
    (hclk : ClockOK clock)
    (h : List (Model.Metrics.Op V)) (hnr : NoRemoval h) :
    ∃ ps', Core ds pid
      (Spec.Metrics.history (ds.map (·.decl)) (Model.Metrics.accepted (regFresh ds) (h.map (front ds)))) ps'
      (runMmap ds pid clock h) := by
  have h0 := core_init ds hwf pid
  have habs := Lemmas.Metrics.regAbs_fresh (ds.map (·.decl))
  have e : (ds.map (·.decl)).map (fun _ => (Hist.empty : Hist V)) = ds.map (fun _ => (Hist.empty : Hist V)) := by
    rw [List.map_map]; rfl
  rw [e] at habs
  obtain ⟨ps', hps'⟩ := run_core ds hwf pid clock hclk h (initCSt ds) _ _ hnr habs h0
  refine ⟨ps', ?_⟩
  unfold runMmap compile Spec.Metrics.history
  rw [run_append, e]
  exact hps'

end PromVerif.Lemmas.Backends
