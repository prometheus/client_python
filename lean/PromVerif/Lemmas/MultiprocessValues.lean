/-
The cells `(file, key)` of the directory and what the pieces of a public call of the `MultiProcessValue` closure
(Model/Values.lean) do to them: `read_value`, `write_value`, `__reset`, `__check_for_pid_change`; file names; the binding
invariant of the closure state.
-/
import PromVerif.Lemmas.MultiprocessDict
import PromVerif.Model.Values

namespace PromVerif.Model.Values
open PromVerif.Py PromVerif.Generated.Multiprocess PromVerif.Model.Multiprocess
set_option autoImplicit false

variable {V : Type}

/-- the entry of `key` in file `fn` (absent file = empty store) -/
def cellGet (disk : List (Str × Store V)) (fn : Str) (k : Key) : Option (V × V) := AL.get? (AL.getD disk fn []) k

/-- … with an absent entry read as zero (an entry is created at zero before it is ever used) -/
def cellVal (vo : VOps V) (disk : List (Str × Store V)) (fn : Str) (k : Key) : V × V :=
  (cellGet disk fn k).getD (vo.zero, vo.zero)

section Cells
variable (vo : VOps V) (disk : List (Str × Store V))

theorem cellGet_set (fn fn' : Str) (s : Store V) (k : Key) :
    cellGet (AL.set disk fn s) fn' k = if fn = fn' then AL.get? s k else cellGet disk fn' k := by
  unfold cellGet
  simp only [AL.getD_eq, AL.get?_set]
  split <;> rfl

theorem cellGet_openFile (fn fn' : Str) (k : Key) :
    cellGet (openFile disk fn) fn' k = cellGet disk fn' k := by
  unfold openFile
  cases h : AL.get? disk fn with
  | some s => rfl
  | none =>
    simp only [cellGet_set]
    split
    · next e => subst e; simp [cellGet, AL.getD_eq, h]
    · rfl

theorem file_openFile (fn fn' : Str) (h : fn ≠ fn') :
    AL.get? (openFile disk fn) fn' = AL.get? disk fn' := by
  unfold openFile
  cases AL.get? disk fn with
  | some s => rfl
  | none => exact AL.get?_set_ne _ _ _ _ h

theorem readValue_some (fn : Str) (k : Key) (vt : V × V)
    (h : AL.get? (AL.getD disk fn []) k = some vt) : readValue vo disk fn k = (vt, disk) := by
  unfold readValue; simp only [h]

theorem readValue_none (fn : Str) (k : Key)
    (h : AL.get? (AL.getD disk fn []) k = none) :
    readValue vo disk fn k
      = ((vo.zero, vo.zero), AL.set disk fn (AL.set (AL.getD disk fn []) k (vo.zero, vo.zero))) := by
  unfold readValue; simp only [h]

theorem cellGet_writeValue (fn fn' : Str) (k0 k : Key) (v t : V) :
    cellGet (writeValue disk fn k0 v t) fn' k = if fn = fn' ∧ k0 = k then some (v, t) else cellGet disk fn' k := by
  unfold writeValue
  rw [cellGet_set]
  by_cases e : fn = fn'
  · subst e
    simp only [if_true, true_and, AL.get?_set]
    split <;> rfl
  · simp [e]

theorem cellVal_writeValue (f : Str) (k0 : Key) (x t : V) (fn : Str) (k : Key) :
    cellVal vo (writeValue disk f k0 x t) fn k = if f = fn ∧ k0 = k then (x, t) else cellVal vo disk fn k := by
  unfold cellVal
  rw [cellGet_writeValue]
  split <;> rfl

theorem file_writeValue (fn fn' : Str) (k : Key) (v t : V) (h : fn ≠ fn') :
    AL.get? (writeValue disk fn k v t) fn' = AL.get? disk fn' := AL.get?_set_ne _ _ _ _ h

theorem readValue_eq (fn : Str) (k : Key) :
    readValue vo disk fn k = (cellVal vo disk fn k,
      match cellGet disk fn k with | some _ => disk | none => writeValue disk fn k vo.zero vo.zero) := by
  unfold cellVal cellGet writeValue
  cases h : AL.get? (AL.getD disk fn []) k with
  | some vt => rw [readValue_some vo disk fn k vt h]; rfl
  | none => rw [readValue_none vo disk fn k h]; rfl

theorem readValue_fst (fn : Str) (k : Key) :
    (readValue vo disk fn k).1 = cellVal vo disk fn k := by
  rw [readValue_eq]

theorem cellGet_readValue (fn fn' : Str) (k0 k : Key) :
    cellGet (readValue vo disk fn k0).2 fn' k
      = if fn = fn' ∧ k0 = k ∧ cellGet disk fn k0 = none then some (vo.zero, vo.zero) else cellGet disk fn' k := by
  rw [readValue_eq]
  cases h : cellGet disk fn k0 with
  | some vt => simp
  | none => simp only [and_true]; exact cellGet_writeValue disk fn fn' k0 k _ _

theorem file_readValue (fn fn' : Str) (k : Key) (h : fn ≠ fn') :
    AL.get? (readValue vo disk fn k).2 fn' = AL.get? disk fn' := by
  rw [readValue_eq]
  cases cellGet disk fn k with
  | some vt => rfl
  | none => exact file_writeValue disk fn fn' k _ _ h

theorem cellVal_readValue (fn fn' : Str) (k0 k : Key) :
    cellVal vo (readValue vo disk fn k0).2 fn' k = cellVal vo disk fn' k := by
  unfold cellVal
  rw [cellGet_readValue]
  split
  · next h => obtain ⟨e1, e2, e3⟩ := h; subst e1; subst e2; simp [e3]
  · rfl

theorem cellGet_readValue_self (fn : Str) (k : Key) :
    cellGet (readValue vo disk fn k).2 fn k = some (cellVal vo disk fn k) := by
  rw [cellGet_readValue]
  unfold cellVal
  cases h : cellGet disk fn k <;> simp

end Cells

theorem fileName_eq (pre pid : Str) : fileName pre pid = pre ++ '_' :: (pid ++ ['.', 'd', 'b']) := by
  simp [fileName, fileNameParts]

theorem fileName_inj_prefix (pre pre' pid : Str) (h : fileName pre pid = fileName pre' pid) : pre = pre' := by
  rw [fileName_eq, fileName_eq] at h
  exact List.append_cancel_right h

theorem split_last_sep (a b x y : Str) (hx : '_' ∉ x) (hy : '_' ∉ y) (h : a ++ '_' :: x = b ++ '_' :: y) :
    a = b ∧ x = y := by
  rcases List.append_eq_append_iff.mp h with ⟨c, rfl, hc⟩ | ⟨c, rfl, hc⟩
  · cases c with
    | nil => exact ⟨(List.append_nil a).symm, (List.cons.inj hc).2⟩
    | cons d c' => exact absurd ((List.cons.inj hc).2 ▸ List.mem_append_right c' List.mem_cons_self) hx
  · cases c with
    | nil => exact ⟨List.append_nil b, (List.cons.inj hc).2.symm⟩
    | cons d c' => exact absurd ((List.cons.inj hc).2 ▸ List.mem_append_right c' List.mem_cons_self) hy

theorem fileName_inj (pre pre' pid pid' : Str) (h1 : '_' ∉ pid) (h2 : '_' ∉ pid')
    (h : fileName pre pid = fileName pre' pid') : pre = pre' ∧ pid = pid' := by
  rw [fileName_eq, fileName_eq] at h
  obtain ⟨e1, e2⟩ := split_last_sep _ _ _ _ (pid_db_no_sep pid h1) (pid_db_no_sep pid' h2) h
  exact ⟨e1, List.append_cancel_right e2⟩

/-- every open store belongs to the remembered identity -/
def FilesOK (pid : Str) (files : List (Str × Str)) : Prop := ∀ p fn, AL.get? files p = some fn → fn = fileName p pid

theorem filesOK_nil (pid : Str) : FilesOK pid [] := by intro p fn h; simp at h

/-- what `__reset` guarantees -/
structure ResetPost (vo : VOps V) (pid : Str) (disk : List (Str × Store V)) (p : Params)
    (r : ValueObj V × List (Str × Str) × List (Str × Store V)) : Prop where
  params : r.1.params = p
  key : r.1.key = mmapKey p
  file : r.1.file = fileName (filePrefix p) pid
  files : FilesOK pid r.2.1
  cellval : ∀ fn k, cellVal vo r.2.2 fn k = cellVal vo disk fn k
  persists : ∀ fn k, (cellGet disk fn k).isSome = true → (cellGet r.2.2 fn k).isSome = true
  cached : cellGet r.2.2 r.1.file r.1.key = some (r.1.value, r.1.ts)
  continues : (r.1.value, r.1.ts) = cellVal vo disk r.1.file r.1.key
  foreign : ∀ fn, fn ≠ fileName (filePrefix p) pid → AL.get? r.2.2 fn = AL.get? disk fn

theorem isSome_readValue (vo : VOps V) (disk : List (Str × Store V)) (fn fn' : Str) (k0 k : Key)
    (h : (cellGet disk fn' k).isSome = true) : (cellGet (readValue vo disk fn k0).2 fn' k).isSome = true := by
  rw [cellGet_readValue]
  split
  · rfl
  · exact h

theorem reset_some (vo : VOps V) (pid : Str) (files : List (Str × Str)) (disk : List (Str × Store V)) (p : Params)
    (fn0 : Str) (hg : AL.get? files (filePrefix p) = some fn0) :
    reset vo pid files disk p
      = (⟨p, (readValue vo disk fn0 (mmapKey p)).1.1, (readValue vo disk fn0 (mmapKey p)).1.2, fn0, mmapKey p⟩,
          files, (readValue vo disk fn0 (mmapKey p)).2) := by
  unfold reset
  simp only [hg, AL.getD_eq, Option.getD_some]

theorem reset_none (vo : VOps V) (pid : Str) (files : List (Str × Str)) (disk : List (Str × Store V)) (p : Params)
    (hg : AL.get? files (filePrefix p) = none) :
    reset vo pid files disk p
      = (⟨p, (readValue vo (openFile disk (fileName (filePrefix p) pid)) (fileName (filePrefix p) pid) (mmapKey p)).1.1,
            (readValue vo (openFile disk (fileName (filePrefix p) pid)) (fileName (filePrefix p) pid) (mmapKey p)).1.2,
            fileName (filePrefix p) pid, mmapKey p⟩,
          AL.set files (filePrefix p) (fileName (filePrefix p) pid),
          (readValue vo (openFile disk (fileName (filePrefix p) pid)) (fileName (filePrefix p) pid) (mmapKey p)).2) := by
  unfold reset
  simp only [hg, AL.getD_eq, Option.getD_some, AL.get?_set_self]

theorem reset_post (vo : VOps V) (pid : Str) (files : List (Str × Str)) (disk : List (Str × Store V)) (p : Params)
    (hf : FilesOK pid files) : ResetPost vo pid disk p (reset vo pid files disk p) := by
  cases hg : AL.get? files (filePrefix p) with
  | some fn0 =>
    have hfn : fn0 = fileName (filePrefix p) pid := hf _ _ hg
    rw [reset_some vo pid files disk p fn0 hg]
    subst hfn
    refine ⟨rfl, rfl, rfl, hf, ?_, ?_, ?_, ?_, ?_⟩
    · intro fn k; exact cellVal_readValue vo disk _ fn _ k
    · intro fn k h; exact isSome_readValue vo disk _ fn _ k h
    · simp only [Prod.eta, readValue_fst]; exact cellGet_readValue_self vo disk _ _
    · simp only [Prod.eta, readValue_fst]
    · intro fn hne; exact file_readValue vo disk _ fn _ (Ne.symm hne)
  | none =>
    rw [reset_none vo pid files disk p hg]
    refine ⟨rfl, rfl, rfl, ?_, ?_, ?_, ?_, ?_, ?_⟩
    · intro q fn h
      simp only at h
      rw [AL.get?_set] at h
      split at h
      · next e => subst e; exact (Option.some.inj h).symm
      · exact hf q fn h
    · intro fn k
      simp only
      rw [cellVal_readValue]
      unfold cellVal
      rw [cellGet_openFile]
    · intro fn k h
      apply isSome_readValue
      rw [cellGet_openFile]; exact h
    · simp only [Prod.eta, readValue_fst]; exact cellGet_readValue_self vo _ _ _
    · simp only [Prod.eta, readValue_fst]
      unfold cellVal
      rw [cellGet_openFile]
    · intro fn hne
      simp only
      rw [file_readValue vo _ _ fn _ (Ne.symm hne), file_openFile _ _ fn (Ne.symm hne)]

/-! ### `for value in values: value.__reset()` -/

structure ResetAllPost (vo : VOps V) (pid : Str) (disk : List (Str × Store V)) (vs : List (ValueObj V))
    (r : List (ValueObj V) × List (Str × Str) × List (Str × Store V)) : Prop where
  params : r.1.map (·.params) = vs.map (·.params)
  bound : ∀ v ∈ r.1, v.key = mmapKey v.params ∧ v.file = fileName (filePrefix v.params) pid
  files : FilesOK pid r.2.1
  cellval : ∀ fn k, cellVal vo r.2.2 fn k = cellVal vo disk fn k
  persists : ∀ fn k, (cellGet disk fn k).isSome = true → (cellGet r.2.2 fn k).isSome = true
  cached : ∀ v ∈ r.1, (cellGet r.2.2 v.file v.key).isSome = true ∧ cellVal vo r.2.2 v.file v.key = (v.value, v.ts)
  foreign : ∀ fn, (∀ pre, fn ≠ fileName pre pid) → AL.get? r.2.2 fn = AL.get? disk fn

theorem resetAll_post (vo : VOps V) (pid : Str) (vs : List (ValueObj V)) (files : List (Str × Str))
    (disk : List (Str × Store V)) (hf : FilesOK pid files) :
    ResetAllPost vo pid disk vs (resetAll vo pid vs files disk) := by
  induction vs generalizing files disk with
  | nil =>
    exact ⟨rfl, (fun v hv => by cases hv), hf, (fun _ _ => rfl), (fun _ _ h => h), (fun v hv => by cases hv), (fun _ _ => rfl)⟩
  | cons v r ih =>
    have h1 := reset_post vo pid files disk v.params hf
    have h2 := ih (reset vo pid files disk v.params).2.1 (reset vo pid files disk v.params).2.2 h1.files
    simp only [resetAll]
    refine ⟨?_, ?_, h2.files, ?_, ?_, ?_, ?_⟩
    · simp only [List.map_cons, h1.params, h2.params]
    · exact List.forall_mem_cons.mpr ⟨⟨by rw [h1.key, h1.params], by rw [h1.file, h1.params]⟩, h2.bound⟩
    · intro fn k; rw [h2.cellval, h1.cellval]
    · intro fn k h; exact h2.persists fn k (h1.persists fn k h)
    · refine List.forall_mem_cons.mpr ⟨?_, h2.cached⟩
      have hc := h1.cached
      refine ⟨h2.persists _ _ (by rw [hc]; rfl), ?_⟩
      rw [h2.cellval]
      unfold cellVal
      rw [hc]; rfl
    · intro fn hne
      rw [h2.foreign fn hne, h1.foreign fn (hne _)]

/-- identity of a value object: which cell of each identity's directory it owns -/
def idOf (p : Params) : Str × Key := (filePrefix p, mmapKey p)

/-- every live value is bound to the remembered identity's file of its prefix, and its entry exists there -/
structure Bound (st : St V) : Prop where
  files : FilesOK st.pid st.files
  bound : ∀ v ∈ st.values, v.key = mmapKey v.params ∧ v.file = fileName (filePrefix v.params) st.pid
  exist : ∀ v ∈ st.values, (cellGet st.disk v.file v.key).isSome = true

/-- every live value's cached pair is what its file holds -/
def Cached (vo : VOps V) (st : St V) : Prop :=
  ∀ v ∈ st.values, cellVal vo st.disk v.file v.key = (v.value, v.ts)

theorem bound_init (actual : Str) : Bound (St.init (V := V) actual) :=
  ⟨filesOK_nil _, (fun v hv => by cases hv), (fun v hv => by cases hv)⟩

theorem cached_init (vo : VOps V) (actual : Str) : Cached vo (St.init (V := V) actual) := fun v hv => by cases hv

/-- `__check_for_pid_change` -/
structure CheckPost (vo : VOps V) (st st1 : St V) : Prop where
  pid : st1.pid = st.actual
  actual : st1.actual = st.actual
  params : st1.values.map (·.params) = st.values.map (·.params)
  bound : Bound st1
  cellval : ∀ fn k, cellVal vo st1.disk fn k = cellVal vo st.disk fn k
  persists : ∀ fn k, (cellGet st.disk fn k).isSome = true → (cellGet st1.disk fn k).isSome = true
  foreign : ∀ fn, (∀ pre, fn ≠ fileName pre st.actual) → AL.get? st1.disk fn = AL.get? st.disk fn
  /-- after an identity change every cache was re-read; otherwise nothing moved -/
  cached : (st.pid ≠ st.actual ∨ Cached vo st) → Cached vo st1

theorem checkPid_same (vo : VOps V) (st : St V) (h : st.pid = st.actual) : checkPid vo st = st := by
  unfold checkPid; simp [h]

theorem checkPid_post (vo : VOps V) (st : St V) (hb : Bound st) : CheckPost vo st (checkPid vo st) := by
  by_cases h : st.pid = st.actual
  · rw [checkPid_same vo st h]
    exact ⟨h, rfl, rfl, hb, fun _ _ => rfl, fun _ _ x => x, fun _ _ => rfl, fun hc => hc.resolve_left (fun hne => hne h)⟩
  · unfold checkPid
    simp only [ne_eq, h, not_false_eq_true, if_true]
    have hp := resetAll_post vo st.actual st.values [] st.disk (filesOK_nil _)
    refine ⟨rfl, rfl, hp.params, ⟨hp.files, hp.bound, fun v hv => (hp.cached v hv).1⟩, hp.cellval, hp.persists,
      hp.foreign, ?_⟩
    intro _ v hv
    exact (hp.cached v hv).2

end PromVerif.Model.Values
