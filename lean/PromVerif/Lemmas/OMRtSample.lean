/-
C04: the sample line.  What `openmetrics.exposition` writes for a sample (`lineBody`), and `_parse_sample` on it for the
three shapes of the head: bare name with a label block, quoted name inside the braces (both instances of `parseSample_braced`),
and bare name alone, where an exemplar's '{' is not taken for a label block because ` # ` precedes it.
-/
import PromVerif.Lemmas.OMRtRem

set_option autoImplicit false

namespace PromVerif.Lemmas.OMRt
open PromVerif.Py PromVerif.Model PromVerif.Model.Escape PromVerif.Model.ParseCore PromVerif.Model.Validation
open PromVerif.Model.OMParse PromVerif.Spec.OMRoundtrip PromVerif.Lemmas.Escape PromVerif.Lemmas.Scanner
open PromVerif.Lemmas.TextParse PromVerif.Model.TextExpo

/-- name and label block -/
def lineHead (s : Sample) : Str :=
  if isValidLegacyMetricName s.name then
    s.name ++ (match sortByKey s.labels with
      | [] => []
      | kv :: r => '{' :: (labelItem kv ++ tailStr r ++ ['}']))
  else '{' :: (qname s.name ++ spTail (sortByKey s.labels) ++ ['}'])

/-- the tokens after the head -/
def lineRem (s : Sample) : Str :=
  remText (Utils.floatToGoString s.value) (s.ts.map (fun t => OMExpo.tsStr t.ts))
    (s.exemplar.map (fun e => (sortByKey e.labels, Utils.floatToGoString e.value, e.ts.map OMExpo.tsStr)))

/-- a sample line without its line feed -/
def lineBody (s : Sample) : Str := lineHead s ++ ' ' :: lineRem s

theorem exemplarItem_eq : OMExpo.exemplarItem = labelItem := rfl

theorem join_items (L : List (Str × Str)) : joinStr [','] (L.map labelItem) = exBlock L := by
  cases L with
  | nil => rfl
  | cons kv r =>
    rw [List.map_cons, joinStr_comma]
    simp [exBlock, tailStr, List.flatMap_map]

theorem exemplarStr_eq (e : Exemplar) :
    OMExpo.exemplarStr e = ' ' :: exTail (sortByKey e.labels) (Utils.floatToGoString e.value) (e.ts.map OMExpo.tsStr) := by
  unfold OMExpo.exemplarStr
  rw [exemplarItem_eq, join_items]
  cases e.ts <;> simp [exTail, optTok]

/-- `sampleLine` = `lineBody` plus a line feed, unless the exemplar sits on an ineligible sample -/
theorem sampleLine_eq (fam : Family) (s : Sample)
    (helig : s.exemplar.isSome = true → OMExpo.isValidExemplarMetric fam.typ fam.name s.name = true) :
    OMExpo.sampleLine fam s = .ok (lineBody s ++ ['\n']) := by
  unfold OMExpo.sampleLine
  extract_lets legacy l0 l1 labelstr ex timestamp value
  have hhead : (if legacy = true then s.name ++ labelstr else labelstr) = lineHead s := by
    have hemp : s.labels.isEmpty = (sortByKey s.labels).isEmpty := labels_isEmpty_iff s.labels
    unfold lineHead
    simp only [labelstr, l1, l0, legacy, hemp, labelItem_eq_text, join_items]
    by_cases hv : isValidLegacyMetricName s.name = true
    · cases hL : sortByKey s.labels with
      | nil => simp [hv]
      | cons kv r =>
        have hi : labelItem kv ≠ [] := List.isEmpty_eq_false_iff.mp (item_nonempty kv)
        simp [hv, exBlock, hi]
    · have hq : escapeMetricName s.name = qname s.name := by simp [escapeMetricName, hv, qname]
      have hq0 : qname s.name ≠ [] := by simp [qname]
      cases hL : sortByKey s.labels with
      | nil => simp [hv, hq, hq0, spTail]
      | cons kv r => simp [hv, hq, hq0, spTail, exBlock]
  have hex : ∃ X, ex = .ok X ∧ ∀ v t, remText v t
      (s.exemplar.map (fun e => (sortByKey e.labels, Utils.floatToGoString e.value, e.ts.map OMExpo.tsStr))) = v ++ optTok t ++ X := by
    cases hx : s.exemplar with
    | none => exact ⟨[], by simp only [ex, hx], fun v t => rfl⟩
    | some e =>
      have hel := helig (by rw [hx]; rfl)
      exact ⟨_, by simp only [ex, hx, hel, Bool.not_true, Bool.false_eq_true, ↓reduceIte, exemplarStr_eq]; rfl, fun v t => rfl⟩
  obtain ⟨X, hX, hrem⟩ := hex
  rw [hX]
  unfold lineBody lineRem
  rw [hrem, ← hhead]
  by_cases hv : legacy = true
  · cases hts : s.ts <;> simp [hv, hts, optTok, timestamp, value]
  · cases hts : s.ts <;> simp [hv, hts, optTok, timestamp, value]

/-- the result of `_parse_sample` once name and labels are known -/
def sampleOf (P : Params) (name : Str) (L : List (Str × Str)) (rem : Str) : PyM OSample :=
  match parseRemainingText P rem with
  | .ok (v, ts, ex) => .ok ⟨name, some L, some v, ts, ex, none⟩
  | .error e => .error e

theorem sName_eq : sName = "__name__".toList := String.toList_ofList.symm

theorem keys_ne_sName {legacy : Bool} {L : List (Str × Str)} (hok : ∀ x ∈ L, labelNameOK legacy x.1 = true) :
    dictHas L sName = false ∧ L.filter (fun kv => kv.1 != sName) = L := by
  rw [sName_eq]
  exact keys_ne_name hok

theorem nameFromLabels_outside {legacy : Bool} {n : Str} (hne : n ≠ []) {L : List (Str × Str)}
    (hok : ∀ x ∈ L, labelNameOK legacy x.1 = true) : nameFromLabels n L = .ok (n, L) := by
  have hnem : n.isEmpty = false := List.isEmpty_eq_false_iff.mpr hne
  simp [nameFromLabels, hnem, (keys_ne_sName hok).1]

theorem nameFromLabels_slot {legacy : Bool} (n : Str) {L : List (Str × Str)} (hok : ∀ x ∈ L, labelNameOK legacy x.1 = true) :
    nameFromLabels [] (("__name__".toList, n) :: L) = .ok (n, L) := by
  have hget : dictGet (("__name__".toList, n) :: L) sName = some n := by
    unfold dictGet; rw [sName_eq]; simp
  have hfil : (("__name__".toList, n) :: L).filter (fun kv => kv.1 != sName) = L := by
    rw [List.filter_cons]
    have : ((("__name__".toList, n) : Str × Str).1 != sName) = false := by rw [sName_eq]; simp
    simp only [this, Bool.false_eq_true, ↓reduceIte]
    exact (keys_ne_sName hok).2
  unfold nameFromLabels
  simp only [List.isEmpty_nil, ↓reduceIte, hget, hfil]

/-- `_parse_sample` on `H{B} rem`, where `H` has no unquoted '{' and no ` # `, and `H{B` no unquoted '}': the label block is `B`,
the name comes from `H` or from the block, the rest is `rem` -/
theorem parseSample_braced (P : Params) (H B rem : Str) (hH : Pass lbChs H) (hsep : isInfix OMParse.sepHash H = false)
    (hB : Pass rbChs (H ++ '{' :: B)) :
    parseSample P (H ++ '{' :: (B ++ '}' :: ' ' :: rem)) =
      (match parseLabels P.legacy B true with
       | .error e => .error e
       | .ok labels =>
         match nameFromLabels H labels with
         | .error e => .error e
         | .ok nl => sampleOf P nl.1 nl.2 rem) := by
  have hls : nextUnquotedChar (H ++ '{' :: (B ++ '}' :: ' ' :: rem)) (· == '{') = some H.length :=
    scan_pass_hit hH '{' _ (by decide) (by decide)
  have hle : nextUnquotedChar (H ++ '{' :: (B ++ '}' :: ' ' :: rem)) (· == '}') = some (H ++ '{' :: B).length := by
    have := scan_pass_hit hB '}' (' ' :: rem) (by decide) (by decide)
    rw [← this]; congr 1; simp
  have hname : pySlice (H ++ '{' :: (B ++ '}' :: ' ' :: rem)) 0 (H.length : Int) = H := pySlice_left _ _
  have hblock : pySlice (H ++ '{' :: (B ++ '}' :: ' ' :: rem)) ((H.length : Int) + 1) ((H ++ '{' :: B).length : Int) = B := by
    simpa using pySlice_mid H ['{'] B ('}' :: ' ' :: rem)
  have hrem : pyFrom (H ++ '{' :: (B ++ '}' :: ' ' :: rem)) (((H ++ '{' :: B).length : Int) + 2) = rem := by
    simpa using pyFrom_right (H ++ '{' :: B) ['}', ' '] rem
  unfold parseSample sampleOf
  simp only [hls, hle, List.take_left, hsep, Bool.false_eq_true, ↓reduceIte, optIdx, Int.ofNat_eq_natCast, hname, hblock, hrem,
    bind, Except.bind]
  cases parseLabels P.legacy B true with
  | error e => rfl
  | ok labels =>
    dsimp only
    cases nameFromLabels H labels with
    | error e => rfl
    | ok nl =>
      dsimp only
      cases parseRemainingText P rem with
      | error e => rfl
      | ok x => obtain ⟨v, ts, ex⟩ := x; rfl

theorem pass_lbrace {chs : Char → Bool} (h : chs '{' = false) : Pass chs ['{'] :=
  pass_plain (by simp [PlainFor, h])

theorem pass_braceBlock {legacy : Bool} (L : List (Str × Str)) (h : ∀ kv ∈ L, labelNameOK legacy kv.1 = true) :
    Pass rbChs ('{' :: exBlock L) :=
  pass_append (a := ['{']) (pass_lbrace (by decide)) (exPass_block L h)

theorem pass_braceNamed {legacy : Bool} (n : Str) (L : List (Str × Str)) (h : ∀ kv ∈ L, labelNameOK legacy kv.1 = true) :
    Pass rbChs ('{' :: (qname n ++ spTail L)) := by
  have hT : Pass rbChs (spTail L) := by
    cases L with
    | nil => exact ⟨rfl, rfl⟩
    | cons kv r => exact pass_append (a := [',', ' ']) (pass_plain (by unfold PlainFor; decide)) (exPass_block (kv :: r) h)
  exact pass_append (a := ['{']) (pass_lbrace (by decide)) (pass_append (quoted_pass rbChs rbChs_safe.quote n) hT)

theorem pass_legacyName {chs : Char → Bool} (hl : ∀ c, isLegacyChar c = true → chs c = false) {n : Str}
    (hv : isValidLegacyMetricName n = true) : Pass chs n :=
  pass_plain (plainFor_legacy hl (legacyName_chars hv (legacyMetric_no_newline hv)).2)

theorem parseSample_labels (P : Params) {n : Str} (hv : isValidLegacyMetricName n = true) (kv : Str × Str) (r : List (Str × Str))
    (hok : ∀ x ∈ kv :: r, labelNameOK P.legacy x.1 = true) (hnd : ((kv :: r).map (·.1)).Nodup) (rem : Str) :
    parseSample P (n ++ '{' :: (labelItem kv ++ tailStr r ++ '}' :: ' ' :: rem)) = sampleOf P n (kv :: r) rem := by
  obtain ⟨hne, hc⟩ := legacyName_chars hv (legacyMetric_no_newline hv)
  have hH : Pass lbChs n := pass_legacyName (fun c h => legacyChar_eq_false h (by decide)) hv
  have hB : Pass rbChs (n ++ '{' :: (labelItem kv ++ tailStr r)) :=
    pass_append (pass_legacyName (fun c h => legacyChar_eq_false h (by decide)) hv) (pass_braceBlock (kv :: r) hok)
  have hinf : isInfix OMParse.sepHash n = false :=
    isInfix_of_not_mem (c := ' ') (by decide) (fun hm => legacyChar_ne (hc _ hm) (by decide) rfl)
  rw [parseSample_braced P n _ rem hH hinf hB, parseLabels_om_items kv r hok hnd]
  simp only [nameFromLabels_outside hne hok]

theorem parseSample_quoted (P : Params) (n : Str) (L : List (Str × Str))
    (hok : ∀ x ∈ L, labelNameOK P.legacy x.1 = true) (hnd : (L.map (·.1)).Nodup) (rem : Str) :
    parseSample P ('{' :: (qname n ++ spTail L ++ '}' :: ' ' :: rem)) = sampleOf P n L rem := by
  have := parseSample_braced P [] (qname n ++ spTail L) rem ⟨rfl, rfl⟩ (by decide) (pass_braceNamed n L hok)
  simp only [List.nil_append] at this
  rw [this, parseLabels_om_named n L hok hnd]
  simp only [nameFromLabels_slot n hok]

/-- the tokens of a remainder are number tokens -/
structure RemTok (vtok : Str) (ts : Option Str) (ex : Option (List (Str × Str) × Str × Option Str)) : Prop where
  v : NumTok vtok
  ts : ∀ t, ts = some t → NumTok t
  ev : ∀ x, ex = some x → NumTok x.2.1
  ets : ∀ x, ex = some x → ∀ t, x.2.2 = some t → NumTok t

theorem remText_none (vtok : Str) (ts : Option Str) : remText vtok ts none = vtok ++ optTok ts := by
  simp [remText]

theorem remText_some (vtok : Str) (ts : Option Str) (L : List (Str × Str)) (etok : Str) (ets : Option Str) :
    remText vtok ts (some (L, etok, ets)) =
      (vtok ++ optTok ts ++ [' ']) ++ '#' :: ' ' :: '{' :: (exBlock L ++ '}' :: ' ' :: (etok ++ optTok ets)) := by
  simp [remText, exTail]

def hashChs : Char → Bool := (· == '#')

theorem scan_rem_some (sp : Bool) {vtok : Str} (hv : NumTok vtok) (ts : Option Str) (hts : ∀ t, ts = some t → NumTok t)
    (L : List (Str × Str)) (etok : Str) (ets : Option Str) :
    scan hashChs ((if sp then [' '] else []) ++ remText vtok ts (some (L, etok, ets))) false false =
      some ((if sp then [' '] else []) ++ (vtok ++ optTok ts ++ [' '])).length ∧
    scan lbChs ((if sp then [' '] else []) ++ remText vtok ts (some (L, etok, ets))) false false =
      some (((if sp then [' '] else []) ++ (vtok ++ optTok ts ++ [' '])).length + 2) := by
  rw [remText_some]
  refine ⟨?_, ?_⟩
  · have hp : Pass hashChs ((if sp then [' '] else []) ++ (vtok ++ optTok ts ++ [' '])) :=
      pass_plain (plainFor_append (plainFor_sp (by decide) sp)
        (plainFor_append (plainFor_valts (by decide) (fun c h => numChar_eq_false h (by decide)) hv ts hts) (plainFor_sp (by decide) true)))
    rw [← List.append_assoc]
    exact scan_pass_hit hp '#' _ (by decide) (by decide)
  · have hp : Pass lbChs ((if sp then [' '] else []) ++ (vtok ++ optTok ts ++ [' ']) ++ ['#', ' ']) := by
      refine pass_plain (plainFor_append (plainFor_append (plainFor_sp (by decide) sp)
        (plainFor_append (plainFor_valts (by decide) (fun c h => numChar_eq_false h (by decide)) hv ts hts) (plainFor_sp (by decide) true))) ?_)
      unfold PlainFor; decide
    rw [show (if sp then [' '] else []) ++ ((vtok ++ optTok ts ++ [' ']) ++ '#' :: ' ' :: '{' :: (exBlock L ++ '}' :: ' ' :: (etok ++ optTok ets)))
      = ((if sp then [' '] else []) ++ (vtok ++ optTok ts ++ [' ']) ++ ['#', ' ']) ++ '{' :: (exBlock L ++ '}' :: ' ' :: (etok ++ optTok ets)) by simp]
    refine (scan_pass_hit hp '{' _ (by decide) (by decide)).trans ?_
    simp; omega

theorem scan_rem_none (sp : Bool) {vtok : Str} (hv : NumTok vtok) (ts : Option Str) (hts : ∀ t, ts = some t → NumTok t) :
    scan lbChs ((if sp then [' '] else []) ++ remText vtok ts none) false false = none := by
  rw [remText_none]
  exact scan_pass_none
    (pass_plain (plainFor_append (plainFor_sp (by decide) sp) (plainFor_valts (by decide) (fun c h => numChar_eq_false h (by decide)) hv ts hts)))

theorem isInfix_suffix (sub a : Str) (hne : sub ≠ []) : isInfix sub (a ++ sub) = true := by
  induction a with
  | nil =>
    cases sub with
    | nil => exact absurd rfl hne
    | cons c cs =>
      simp only [List.nil_append, isInfix, Bool.or_eq_true]
      left
      exact List.isPrefixOf_iff_prefix.mpr (List.prefix_refl _)
  | cons x xs ih =>
    simp only [List.cons_append, isInfix, Bool.or_eq_true]
    right; exact ih

def spChs : Char → Bool := (· == ' ')

theorem parseSample_bare (P : Params) {n : Str} (hv : isValidLegacyMetricName n = true) {vtok : Str} {ts : Option Str}
    {ex : Option (List (Str × Str) × Str × Option Str)} (ht : RemTok vtok ts ex) :
    parseSample P (n ++ ' ' :: remText vtok ts ex) = sampleOf P n [] (remText vtok ts ex) := by
  have hn_lb : Pass lbChs n := pass_legacyName (fun c h => legacyChar_eq_false h (by decide)) hv
  have hn_sp : Pass spChs n := pass_legacyName (fun c h => legacyChar_eq_false h (by decide)) hv
  have hend : nextUnquotedChar (n ++ ' ' :: remText vtok ts ex) (· == ' ') = some n.length :=
    scan_pass_hit hn_sp ' ' _ (by decide) (by decide)
  have hname : pySlice (n ++ ' ' :: remText vtok ts ex) 0 (n.length : Int) = n := pySlice_left _ _
  have hrem : pyFrom (n ++ ' ' :: remText vtok ts ex) ((n.length : Int) + 1) = remText vtok ts ex := by
    simpa using pyFrom_right n [' '] (remText vtok ts ex)
  unfold parseSample sampleOf
  extract_lets +onlyGivenNames labelStart noLabels
  -- no unquoted '{' at all, or one behind ` # `: the line is read as having no label block
  have hno : noLabels = true := by
    cases ex with
    | none =>
      have : labelStart = none := by
        have h := scan_rem_none true ht.v ts ht.ts
        simp only [↓reduceIte, List.cons_append, List.nil_append] at h
        show scan lbChs _ false false = none
        rw [scan_append_of_noHit _ _ _ _ _ hn_lb.1, hn_lb.2, h]; rfl
      simp only [noLabels, this]
    | some x =>
      obtain ⟨L, etok, ets⟩ := x
      have h := (scan_rem_some true ht.v ts ht.ts L etok ets).2
      simp only [↓reduceIte, List.cons_append, List.nil_append] at h
      have hls : labelStart = some (n ++ ' ' :: (vtok ++ optTok ts) ++ [' ', '#', ' ']).length := by
        show scan lbChs _ false false = _
        rw [scan_append_of_noHit _ _ _ _ _ hn_lb.1, hn_lb.2, h]
        simp; omega
      simp only [noLabels, hls]
      rw [show n ++ ' ' :: remText vtok ts (some (L, etok, ets)) =
        (n ++ ' ' :: (vtok ++ optTok ts) ++ [' ', '#', ' ']) ++ '{' :: (exBlock L ++ '}' :: ' ' :: (etok ++ optTok ets)) by
          simp [remText_some]]
      rw [List.take_left]
      exact isInfix_suffix OMParse.sepHash _ (by decide)
  simp only [hno, ↓reduceIte, hend, optIdx, Int.ofNat_eq_natCast, hname, hv, Bool.not_true, Bool.false_eq_true, hrem,
    bind, Except.bind, pure, Except.pure]
  cases parseRemainingText P (remText vtok ts ex) with
  | error e => rfl
  | ok x => obtain ⟨v, ts, ex⟩ := x; rfl

end PromVerif.Lemmas.OMRt
