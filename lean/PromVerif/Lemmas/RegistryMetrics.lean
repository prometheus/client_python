/-
Bridge between the in-process metric model (`Model/Metrics.lean`, property C01) and the registry model: a metric
object of one of the six built-in classes seen as a registry `Collector`, and the fact that every sample name its
`collect()` emits is among the names `_get_names` records for its `describe()` family.

`Model.Metrics.metricSamples` builds the samples exactly as `_samples` / `_multi_samples` / `_child_samples` do but
leaves the `_created` samples out (they are emitted by Counter, Summary and Histogram when
`PROMETHEUS_DISABLE_CREATED_SERIES` is not set); the bridge takes that switch as the parameter `created` and adds one
`<name>_created` sample per child, so the cover is shown with and without them.
-/
import PromVerif.Model.Metrics
import PromVerif.Lemmas.RegistryCollect

namespace PromVerif.Model.Registry
open PromVerif.Spec.Registry

variable {V : Type} [Metrics.Val V]

/-- `cls._type` of the six classes -/
def kindType : Metrics.Kind V → MType
  | .counter => .counter
  | .gauge => .gauge
  | .summary => .summary
  | .histogram _ => .histogram
  | .info => .info
  | .enum _ => .stateset

/-- the classes whose `_child_samples` appends a `_created` sample when created series are enabled -/
def hasCreated : Metrics.Kind V → Bool
  | .counter => true
  | .summary => true
  | .histogram _ => true
  | _ => false

/-- number of `_child_samples` calls of one `collect()`: the children of a labelled parent, else the metric itself -/
def childCount (m : Metrics.Metric V) : Nat :=
  if !m.decl.labelnames.isEmpty then m.children.length else m.single.toList.length

def createdSuffix : List Char := ['_', 'c', 'r', 'e', 'a', 't', 'e', 'd']

/-- the sample names of `metric.collect()[0].samples` -/
def emittedNames (created : Bool) (m : Metrics.Metric V) : List Name :=
  (Metrics.metricSamples m).map (fun s => s.name) ++
    (if created && hasCreated m.decl.kind then List.replicate (childCount m) (m.decl.name ++ createdSuffix) else [])

/-- a built-in metric object as a registry collector: `describe()` = `[Metric(name, documentation, type, unit)]`
without samples, `collect()` = the same family with the samples (payloads opaque, numbered) -/
def metricCollector (id : Nat) (help unit : List Char) (created : Bool) (m : Metrics.Metric V) : Collector :=
  { id := id
    describe := some [(m.decl.name, kindType m.decl.kind)]
    families := [{ name := m.decl.name, typ := kindType m.decl.kind, help := help, unit := unit
                   samples := (emittedNames created m).zipIdx.map (fun ni => ⟨ni.1, .idx ni.2⟩) }] }

/-- the suffixes `_child_samples` of the class with this `_type` uses (`unknown` and `gaugehistogram` have no class) -/
def sampleSuffixes : MType → List (List Char)
  | .counter => [['_', 't', 'o', 't', 'a', 'l']]
  | .gauge => [[]]
  | .summary => [['_', 'c', 'o', 'u', 'n', 't'], ['_', 's', 'u', 'm']]
  | .histogram => [['_', 'b', 'u', 'c', 'k', 'e', 't'], ['_', 'c', 'o', 'u', 'n', 't'], ['_', 's', 'u', 'm']]
  | .info => [['_', 'i', 'n', 'f', 'o']]
  | .stateset => [[]]
  | _ => []

private theorem enumSamples_name (name : List Char) (cur : Nat) (states : List (List Char)) :
    ∀ (i : Nat) (s : Metrics.Sample V), s ∈ Metrics.enumSamples name cur i states → s.name = [] := by
  induction states with
  | nil => intro i s h; exact nomatch h
  | cons st rest ih =>
    intro i s h
    rcases List.mem_cons.1 h with rfl | h
    · rfl
    · exact ih _ _ h

-- `Model/Metrics.lean` writes the suffixes as `"…".toList`.  A string literal is read as `String.ofList […]`, so the
-- characters come out by `String.toList_ofList`; evaluating `toList` instead decodes the UTF-8 bytes, at great length.
private theorem lit_total : "_total".toList = ['_', 't', 'o', 't', 'a', 'l'] := String.toList_ofList
private theorem lit_count : "_count".toList = ['_', 'c', 'o', 'u', 'n', 't'] := String.toList_ofList
private theorem lit_sum : "_sum".toList = ['_', 's', 'u', 'm'] := String.toList_ofList
private theorem lit_bucket : "_bucket".toList = ['_', 'b', 'u', 'c', 'k', 'e', 't'] := String.toList_ofList
private theorem lit_info : "_info".toList = ['_', 'i', 'n', 'f', 'o'] := String.toList_ofList

theorem childSamples_suffix (d : Metrics.Decl V) (c : Metrics.Child V) (s : Metrics.Sample V)
    (h : s ∈ Metrics.childSamples d c) : s.name ∈ sampleSuffixes (kindType d.kind) := by
  unfold Metrics.childSamples at h
  cases hk : d.kind with
  | counter =>
    simp only [hk, List.mem_singleton] at h
    subst h
    exact lit_total ▸ List.mem_cons_self
  | gauge =>
    simp only [hk, List.mem_singleton] at h
    subst h
    exact List.mem_cons_self
  | summary =>
    simp only [hk, List.mem_cons, List.not_mem_nil, or_false] at h
    rcases h with rfl | rfl
    · exact lit_count ▸ List.mem_cons_self
    · exact lit_sum ▸ List.mem_cons_of_mem _ List.mem_cons_self
  | histogram bs =>
    simp only [hk, List.mem_append, List.mem_map, List.mem_singleton] at h
    rcases h with (⟨_, _, rfl⟩ | rfl) | h
    · exact lit_bucket ▸ List.mem_cons_self
    · exact lit_count ▸ List.mem_cons_of_mem _ List.mem_cons_self
    · split at h
      · rw [List.mem_singleton.1 h]
        exact lit_sum ▸ List.mem_cons_of_mem _ (List.mem_cons_of_mem _ List.mem_cons_self)
      · exact nomatch h
  | info =>
    simp only [hk, List.mem_singleton] at h
    subst h
    exact lit_info ▸ List.mem_cons_self
  | enum states =>
    simp only [hk] at h
    rw [enumSamples_name d.name c.state states 0 s h]
    exact List.mem_cons_self

theorem metricSamples_name (m : Metrics.Metric V) (s : Metrics.Sample V) (h : s ∈ Metrics.metricSamples m) :
    ∃ suf, suf ∈ sampleSuffixes (kindType m.decl.kind) ∧ s.name = m.decl.name ++ suf := by
  obtain ⟨r, hr, rfl⟩ := List.mem_map.1 h
  refine ⟨r.name, ?_, rfl⟩
  split at hr
  · obtain ⟨kc, _, hkc⟩ := List.mem_flatMap.1 hr
    obtain ⟨s0, hs0, rfl⟩ := List.mem_map.1 hkc
    exact childSamples_suffix _ _ s0 hs0
  · split at hr
    · exact childSamples_suffix _ _ _ hr
    · exact nomatch hr

theorem sampleSuffixes_claimed (t : MType) : ∀ suf ∈ sampleSuffixes t, suf = [] ∨ suf ∈ suffixes t := by
  cases t <;> decide +kernel

omit [Metrics.Val V] in
theorem created_claimed (k : Metrics.Kind V) (h : hasCreated k = true) : createdSuffix ∈ suffixes (kindType k) := by
  cases k with
  | counter => show createdSuffix ∈ suffixes .counter; decide +kernel
  | summary => show createdSuffix ∈ suffixes .summary; decide +kernel
  | histogram bs => show createdSuffix ∈ suffixes .histogram; decide +kernel
  | gauge => exact nomatch h
  | info => exact nomatch h
  | enum states => exact nomatch h

theorem emittedNames_claimed (created : Bool) (m : Metrics.Metric V) (n : Name) (h : n ∈ emittedNames created m) :
    n ∈ familyClaims m.decl.name (kindType m.decl.kind) := by
  rcases List.mem_append.1 h with h | h
  · obtain ⟨s, hs, rfl⟩ := List.mem_map.1 h
    obtain ⟨suf, hsuf, hn⟩ := metricSamples_name m s hs
    exact hn ▸ mem_familyClaims _ (sampleSuffixes_claimed _ suf hsuf)
  · split at h
    · next hc =>
      rw [List.eq_of_mem_replicate h]
      exact mem_familyClaims _ (.inr (created_claimed _ (Bool.and_eq_true _ _ ▸ hc).2))
    · exact nomatch h

/-- a collector all of whose sample names are among the names the registry records for it -/
def SamplesCovered (autoDescribe : Bool) (c : Collector) : Prop :=
  ∀ f, f ∈ c.families → ∀ smp, smp ∈ f.samples → smp.name ∈ getNames autoDescribe c

end PromVerif.Model.Registry
