/-
C12 toolbox: label dictionaries.  `sorted(d.items())` of two dicts with the same items is the same list (a strictly
sorted list is determined by its elements), `zip(labelnames, labelvalues)` dict determines the label values.
-/
import PromVerif.Lemmas.GatewaySort
import PromVerif.Lemmas.MetricsLabels
import PromVerif.Lemmas.MultiprocessLabels

namespace PromVerif.Lemmas.Backends
open PromVerif.Py
open PromVerif.Model.Multiprocess
open PromVerif.Lemmas.GatewaySort (KeyLe sortByKey_sorted)
set_option autoImplicit false

variable {β : Type}

/-- strictly increasing keys -/
def StrictSorted (l : List (Str × β)) : Prop := l.Pairwise (fun a b => strLt a.1 b.1 = true)

theorem strLt_of_not_gt_ne (a b : Str) (h : strLt b a = false) (hne : a ≠ b) : strLt a b = true := by
  cases hab : strLt a b with
  | true => rfl
  | false => exact absurd (PromVerif.Lemmas.Metrics.strLt_connected a b hab h) hne

theorem strictSorted_of_keyLe_nodup (l : List (Str × β)) (h : l.Pairwise KeyLe) (hnd : (l.map (·.1)).Nodup) :
    StrictSorted l :=
  (h.and (List.pairwise_map.mp hnd)).imp (fun hab => strLt_of_not_gt_ne _ _ hab.1 hab.2)

theorem strictSorted_nodupKeys (l : List (Str × β)) (h : StrictSorted l) : (l.map (·.1)).Nodup :=
  List.pairwise_map.mpr (h.imp (fun hlt e => by rw [e, PromVerif.Lemmas.Metrics.strLt_irrefl] at hlt; cases hlt))

theorem perm_strictSorted_unique (l1 l2 : List (Str × β)) (hp : l1.Perm l2) (h1 : StrictSorted l1) (h2 : StrictSorted l2) :
    l1 = l2 :=
  List.Perm.eq_of_pairwise
    (fun a b _ _ hab hba => by rw [PromVerif.Lemmas.GatewaySort.strLt_asymm _ _ hab] at hba; cases hba) h1 h2 hp

theorem perm_nodupKeys (l1 l2 : List (Str × β)) (hp : l1.Perm l2) (h : (l1.map (·.1)).Nodup) : (l2.map (·.1)).Nodup :=
  (hp.map (·.1)).nodup_iff.mp h

theorem sortByKey_strictSorted (l : List (Str × β)) (hnd : (l.map (·.1)).Nodup) : StrictSorted (sortByKey l) :=
  strictSorted_of_keyLe_nodup _ (sortByKey_sorted l) (perm_nodupKeys _ _ (GatewaySort.sortByKey_perm l).symm hnd)

/-- `sorted(d1.items()) == sorted(d2.items())` when the two dicts have the same items -/
theorem sortByKey_eq_of_perm (l1 l2 : List (Str × β)) (hp : l1.Perm l2) (hnd : (l1.map (·.1)).Nodup) :
    sortByKey l1 = sortByKey l2 :=
  perm_strictSorted_unique _ _ (((GatewaySort.sortByKey_perm l1).trans hp).trans (GatewaySort.sortByKey_perm l2).symm)
    (sortByKey_strictSorted l1 hnd) (sortByKey_strictSorted l2 (perm_nodupKeys _ _ hp hnd))

theorem sortByKey_of_strictSorted (l : List (Str × β)) (h : StrictSorted l) : sortByKey l = l :=
  perm_strictSorted_unique _ _ (GatewaySort.sortByKey_perm l) (sortByKey_strictSorted l (strictSorted_nodupKeys l h)) h

theorem sortByKey_idem (l : List (Str × β)) (hnd : (l.map (·.1)).Nodup) : sortByKey (sortByKey l) = sortByKey l :=
  sortByKey_of_strictSorted _ (sortByKey_strictSorted l hnd)

theorem sortByKey_nodupKeys (l : List (Str × β)) (hnd : (l.map (·.1)).Nodup) : ((sortByKey l).map (·.1)).Nodup :=
  perm_nodupKeys _ _ (GatewaySort.sortByKey_perm l).symm hnd

theorem filter_sortByKey (p : Str × β → Bool) (l : List (Str × β)) (hnd : (l.map (·.1)).Nodup) :
    (sortByKey l).filter p = sortByKey (l.filter p) := by
  have hnd' : ((l.filter p).map (·.1)).Nodup := (List.filter_sublist.map _).nodup hnd
  apply perm_strictSorted_unique
  · exact ((GatewaySort.sortByKey_perm l).filter p).trans (GatewaySort.sortByKey_perm (l.filter p)).symm
  · exact List.Pairwise.sublist List.filter_sublist (sortByKey_strictSorted l hnd)
  · exact sortByKey_strictSorted _ hnd'


theorem map_fst_zip_of_length {α γ : Type} (a : List α) (b : List γ) (h : b.length = a.length) : (a.zip b).map (·.1) = a :=
  List.map_fst_zip (by omega)

theorem zip_keys_sublist : ∀ (ln lv : List Str), ((ln.zip lv).map (·.1)).Sublist ln
  | [], _ => by simp
  | _ :: _, [] => by simp
  | a :: ln, x :: lv => by
    simp only [List.zip_cons_cons, List.map_cons]
    exact (zip_keys_sublist ln lv).cons_cons a

theorem zip_nodupKeys (ln lv : List Str) (hnd : ln.Nodup) : ((ln.zip lv).map (·.1)).Nodup :=
  (zip_keys_sublist ln lv).nodup hnd

theorem zip_inj (ln lv lv' : List Str) (hnd : ln.Nodup) (h1 : lv.length = ln.length) (h2 : lv'.length = ln.length)
    (hsub : ∀ e, e ∈ ln.zip lv → e ∈ ln.zip lv') : lv = lv' := by
  apply List.ext_getElem (h1.trans h2.symm)
  intro i hi _
  have hlt : i < (ln.zip lv).length := by
    rw [List.length_zip, h1, Nat.min_self, ← h1]
    exact hi
  -- the pair at position `i` of the one list is in the other, where the name `ln[i]` stands at position `i` only
  obtain ⟨j, hj, e⟩ := List.mem_iff_getElem.mp (hsub _ (List.getElem_mem hlt))
  rw [List.getElem_zip, List.getElem_zip, Prod.mk.injEq] at e
  obtain rfl : j = i := (List.getElem_inj hnd).mp e.1
  exact e.2.symm

theorem sorted_zip_inj (ln lv lv' : List Str) (hnd : ln.Nodup) (h1 : lv.length = ln.length) (h2 : lv'.length = ln.length)
    (h : sortByKey (ln.zip lv) = sortByKey (ln.zip lv')) : lv = lv' := by
  apply zip_inj ln lv lv' hnd h1 h2
  intro e he
  have := (PromVerif.Lemmas.GatewaySort.mem_sortByKey (ln.zip lv) e).mpr he
  rw [h] at this
  exact (PromVerif.Lemmas.GatewaySort.mem_sortByKey _ e).mp this

theorem find?_key_of_mem (l : Labels) (k v : Str) (hnd : (l.map (·.1)).Nodup) (hm : (k, v) ∈ l) :
    l.find? (fun kv => kv.1 = k) = some (k, v) := by
  induction l with
  | nil => cases hm
  | cons x xs ih =>
    simp only [List.map_cons, List.nodup_cons] at hnd
    rcases List.mem_cons.mp hm with e | hm'
    · subst e; simp
    · have hne : x.1 ≠ k := fun e => hnd.1 (e ▸ List.mem_map_of_mem hm')
      simp [List.find?, hne, ih hnd.2 hm']

theorem find?_key_none (l : Labels) (k : Str) (h : k ∉ l.map (·.1)) : l.find? (fun kv => kv.1 = k) = none := by
  rw [List.find?_eq_none]
  intro x hx
  simp only [decide_eq_true_eq]
  intro e
  exact h (e ▸ List.mem_map_of_mem hx)


theorem nodup_map_of_injOn {α γ : Type} (f : α → γ) : ∀ (l : List α), l.Nodup →
    (∀ a ∈ l, ∀ b ∈ l, f a = f b → a = b) → (l.map f).Nodup :=
  fun _ hnd hinj => List.pairwise_map.mpr (hnd.imp_of_mem (fun ha hb hne e => hne (hinj _ ha _ hb e)))

theorem nodup_of_nodup_map {α γ : Type} (f : α → γ) : ∀ (l : List α), (l.map f).Nodup → l.Nodup :=
  fun _ h => List.Pairwise.of_map f (fun _ _ hne e => hne (congrArg f e)) h

theorem inj_of_nodup_map {α β : Type} (f : α → β) : ∀ (l : List α), (l.map f).Nodup → ∀ a ∈ l, ∀ b ∈ l, f a = f b → a = b :=
  fun _ h _ ha _ hb e =>
    -- two members at different positions have different images, whichever comes first
    have hp := List.pairwise_map.mp h
    List.Pairwise.forall_of_forall_of_flip (R := fun a b => f a = f b → a = b) (fun _ _ _ => rfl)
      (hp.imp (fun hne e => absurd e hne)) (hp.imp (fun hne e => absurd e.symm hne)) ha hb e

end PromVerif.Lemmas.Backends
