/-
C12, the writer side without identity changes: one process, `process_identifier()` constant.  Then
`__check_for_pid_change` does nothing and the directory is a simple function of the value objects constructed so far:
file `<prefix>_<pid>.db` holds exactly the keys of the objects of that prefix, in construction order (`VInv.keys`),
no other file exists (`VInv.origin`), and — by C09's coherence invariant `Values.Inv`, which `VInv` carries — every
entry is what the owning object's cache holds.

A write through a live object keeps all that (`vinv_writeAt`).  `MmapedValue.inc` / `.set` on the (value, set-time) pairs
of a child's cells (`pairUpd`) is, on the values, the same function of the old cell as `MutexValue.inc` / `.set`
(`pairs_fst`).
-/
import PromVerif.Lemmas.MultiprocessHistory
import PromVerif.Lemmas.MultiprocessHist
import PromVerif.Lemmas.BackendsStatic

namespace PromVerif.Lemmas.Backends
open PromVerif.Py PromVerif.Generated.Multiprocess
open PromVerif.Model.Metrics (Val)
open PromVerif.Model.Multiprocess PromVerif.Model.Values
open PromVerif.Model.Backends
set_option autoImplicit false

variable {V : Type}

/-- the file a value object with parameters `p` is bound to under identity `pid` -/
def fileOf (pid : Str) (p : Params) : Str := fileName (filePrefix p) pid

def storeOf (disk : List (Str × Store V)) (fn : Str) : Store V := AL.getD disk fn []

theorem storeOf_set (disk : List (Str × Store V)) (fn fn' : Str) (s : Store V) :
    storeOf (AL.set disk fn s) fn' = if fn = fn' then s else storeOf disk fn' := by
  unfold storeOf
  simp only [AL.getD_eq, AL.get?_set]
  split <;> rfl

theorem storeOf_openFile (disk : List (Str × Store V)) (fn fn' : Str) : storeOf (openFile disk fn) fn' = storeOf disk fn' := by
  unfold openFile
  cases h : AL.get? disk fn with
  | some s => rfl
  | none =>
    simp only [storeOf_set]
    split
    · next e => subst e; simp [storeOf, AL.getD_eq, h]
    · rfl

theorem mem_keys_openFile (disk : List (Str × Store V)) (fn fn' : Str) :
    fn' ∈ AL.keys (openFile disk fn) ↔ fn' = fn ∨ fn' ∈ AL.keys disk := by
  unfold openFile
  cases h : AL.get? disk fn with
  | some s =>
    simp only
    constructor
    · exact Or.inr
    · rintro (e | e)
      · subst e
        exact (AL.get?_isSome_iff disk fn').mp (by rw [h]; rfl)
      · exact e
  | none => exact AL.mem_keys_set _ _ _ _

theorem nodup_keys_openFile (disk : List (Str × Store V)) (fn : Str) (h : (AL.keys disk).Nodup) :
    (AL.keys (openFile disk fn)).Nodup := by
  unfold openFile
  cases AL.get? disk fn with
  | some s => exact h
  | none => exact AL.nodup_set _ _ _ h

theorem isLast_of_nodup (ids : List (Str × Key)) (h : ids.Nodup) (i : Nat) : IsLast ids i := by
  intro j a hij hj hi
  exact nodup_getElem?_ne ids h i j a a hi hj (Nat.ne_of_lt hij) rfl

/-- a single-identity state with C09's invariant (stale objects allowed) -/
structure HInv (vo : VOps V) (pid : Str) (st : St V) : Prop where
  hpid : st.pid = pid
  hactual : st.actual = pid
  inv : Inv vo st

/-- the invariant of a single-identity run in which no object is stale -/
structure VInv (vo : VOps V) (pid : Str) (st : St V) : Prop extends HInv vo pid st where
  /-- one value object per (prefix, key): every object is the youngest on its key (what C09's coherence asks of updates) -/
  uniq : (idsOf st).Nodup
  /-- file contents, as key lists: the keys of the objects bound to the file, in construction order -/
  keys : ∀ fn, AL.keys (storeOf st.disk fn)
    = ((st.values.map (·.params)).filter (fun p => decide (fileOf pid p = fn))).map mmapKey
  /-- every file belongs to some constructed object -/
  origin : ∀ fn ∈ AL.keys st.disk, ∃ p ∈ st.values.map (·.params), fileOf pid p = fn
  nodupFiles : (AL.keys st.disk).Nodup

theorem idsOf_eq (st : St V) : idsOf st = (st.values.map (·.params)).map idOf := by
  unfold idsOf
  rw [List.map_map]
  rfl

theorem vinv_init (vo : VOps V) (pid : Str) : VInv vo pid (St.init (V := V) pid) :=
  ⟨⟨rfl, rfl, inv_init vo pid⟩, by simp [idsOf, St.init], by intro fn; simp [St.init, storeOf, AL.getD_eq, AL.keys],
    by intro fn h; simp [St.init, AL.keys] at h, by simp [St.init, AL.keys]⟩

theorem cellGet_none_of_new {vo : VOps V} {pid : Str} {st : St V} (h : VInv vo pid st) (p : Params)
    (hnew : idOf p ∉ idsOf st) : cellGet st.disk (fileOf pid p) (mmapKey p) = none := by
  unfold cellGet
  rw [AL.get?_eq_none_iff]
  have hk := h.keys (fileOf pid p)
  unfold storeOf at hk
  rw [hk]
  intro hm
  obtain ⟨q, hq, e⟩ := List.mem_map.mp hm
  obtain ⟨hq, fq⟩ := List.mem_filter.mp hq
  rw [idsOf_eq] at hnew
  exact hnew (List.mem_map.mpr ⟨q, hq, Prod.ext (fileName_inj_prefix _ _ pid (of_decide_eq_true fq)) e⟩)

/-- the cell of an object not yet constructed reads zero: it does not exist -/
theorem cellVal_of_new {vo : VOps V} {pid : Str} {st : St V} (h : VInv vo pid st) (p : Params)
    (hnew : idOf p ∉ idsOf st) : cellVal vo st.disk (fileOf pid p) (mmapKey p) = (vo.zero, vo.zero) := by
  unfold cellVal
  rw [cellGet_none_of_new h p hnew]
  rfl

theorem vinv_writeAt {vo : VOps V} {pid : Str} {st : St V} (h : VInv vo pid st) (i : Nat) (w : ValueObj V → V × V) :
    VInv vo pid (writeAt st i w) ∧ (writeAt st i w).values.map (·.params) = st.values.map (·.params) := by
  have hb := h.inv.bound
  have hparams := writeAt_params st i w
  have hids : idsOf (writeAt st i w) = idsOf st := by rw [idsOf_eq, idsOf_eq, hparams]
  obtain ⟨i1, i2, _⟩ := writeAt_ids st i w
  cases hv : st.values[i]? with
  | none =>
    have e : writeAt st i w = st := by unfold writeAt; rw [hv]
    rw [e]
    exact ⟨h, rfl⟩
  | some v =>
    have hvm : v ∈ st.values := List.mem_of_getElem? hv
    have hd : (writeAt st i w).disk = AL.set st.disk v.file (AL.set (AL.getD st.disk v.file []) v.key (w v)) := by
      unfold writeAt; rw [hv]; rfl
    refine ⟨⟨⟨i1.trans h.hpid, i2.trans h.hactual, writeAt_inv vo st h.inv i w (isLast_of_nodup _ h.uniq i)⟩,
      hids ▸ h.uniq, ?_, ?_, ?_⟩, hparams⟩
    · intro fn
      rw [hparams, hd, storeOf_set]
      split
      · next efn =>
        subst efn
        rw [AL.keys_set, if_pos ((AL.get?_isSome_iff _ _).mp (hb.exist v hvm))]
        exact h.keys _
      · exact h.keys fn
    · intro fn hfn
      rw [hparams]
      rw [hd] at hfn
      rcases (AL.mem_keys_set _ _ _ _).mp hfn with e' | e'
      · refine ⟨v.params, List.mem_map_of_mem hvm, ?_⟩
        rw [e', (hb.bound v hvm).2, h.hpid]
        rfl
      · exact h.origin fn e'
    · rw [hd]
      exact AL.nodup_set _ _ _ h.nodupFiles

theorem store_eq {vo : VOps V} {pid : Str} {st : St V} (h : VInv vo pid st) (fn : Str) :
    storeOf st.disk fn = (AL.keys (storeOf st.disk fn)).map (fun k => (k, cellVal vo st.disk fn k)) := by
  have hnd : (AL.keys (storeOf st.disk fn)).Nodup := by
    rw [h.keys]
    have hu := h.uniq
    rw [idsOf_eq] at hu
    -- objects bound to one file have one prefix, so equal keys mean equal (prefix, key) identities
    refine nodup_map_of_injOn mmapKey _ (List.filter_sublist.nodup (nodup_of_nodup_map idOf _ hu)) ?_
    intro a ha b hb' hab
    obtain ⟨ha, fa⟩ := List.mem_filter.mp ha
    obtain ⟨hb', fb⟩ := List.mem_filter.mp hb'
    have hpre : filePrefix a = filePrefix b :=
      fileName_inj_prefix _ _ pid ((of_decide_eq_true fa).trans (of_decide_eq_true fb).symm)
    exact inj_of_nodup_map idOf _ hu a ha b hb' (Prod.ext hpre hab)
  exact AL.eq_map_keys _ _ (fun kv hkv => by
    unfold cellVal cellGet
    have := AL.get?_of_mem _ hnd kv.1 kv.2 hkv
    unfold storeOf at this
    rw [this]; rfl)


theorem pidx_spec (p : Params) : ∀ (ps : List Params), p ∈ ps → ps[pidx p ps]? = some p
  | [], h => by cases h
  | q :: r, h => by
    unfold pidx
    by_cases e : p ∈ r
    · simp only [e, if_true, List.getElem?_cons_succ]
      exact pidx_spec p r e
    · simp only [e, if_false, List.getElem?_cons_zero, Option.some.injEq]
      rcases List.mem_cons.mp h with e' | e'
      · exact e'.symm
      · exact absurd e' e

theorem pidx_last (p : Params) : ∀ (ps : List Params) (j : Nat), pidx p ps < j → ps[j]? ≠ some p
  | [], j, _ => by simp
  | q :: r, j, hj => by
    unfold pidx at hj
    by_cases e : p ∈ r
    · simp only [e, if_true] at hj
      cases j with
      | zero => omega
      | succ j =>
        rw [List.getElem?_cons_succ]
        exact pidx_last p r j (by omega)
    · cases j with
      | zero => simp [e] at hj
      | succ j =>
        rw [List.getElem?_cons_succ]
        intro hget
        exact e (List.mem_of_getElem? hget)

theorem value_at_pidx (st : St V) (ps : List Params) (hps : st.values.map (·.params) = ps) (p : Params) (hp : p ∈ ps) :
    ∃ v, st.values[pidx p ps]? = some v ∧ v.params = p := by
  subst hps
  have := pidx_spec p _ hp
  rw [List.getElem?_map] at this
  exact Option.map_eq_some_iff.mp this

theorem run_append (vo : VOps V) (st : St V) (a b : List (Op V)) : run vo st (a ++ b) = run vo (run vo st a) b := by
  simp [run, List.foldl_append]


/-- the position an update addresses -/
def updPos : CellUpd V → Nat
  | .inc pos _ => pos
  | .set pos _ _ => pos

/-- `MmapedValue.inc` / `.set` on a (value, timestamp) pair -/
def updVal (vo : VOps V) : CellUpd V → V × V → V × V
  | .inc _ a, old => (vo.add old.1 a, vo.zero)
  | .set _ x t, _ => (x, tsOr0 vo t)

/-- … on the pairs of a child's cells -/
def pairUpd (vo : VOps V) (f : Nat → V × V) (u : CellUpd V) : Nat → V × V :=
  fun j => if j = updPos u then updVal vo u (f (updPos u)) else f j

def pairsAfter (vo : VOps V) (f : Nat → V × V) (us : List (CellUpd V)) : Nat → V × V := us.foldl (pairUpd vo) f

theorem run_toVop (vo : VOps V) (ps cells : List Params) (u : CellUpd V) (st : St V) (hpa : st.pid = st.actual) :
    run vo st (toVop ps cells u) = match cells[updPos u]? with
      | some p => writeAt st (pidx p ps) (fun v => updVal vo u (v.value, v.ts))
      | none => st := by
  cases u with
  | inc pos a =>
    simp only [toVop, updPos]
    cases cells[pos]? with
    | none => rfl
    | some p => exact (step_inc vo st _ a).trans (by rw [checkPid_same vo st hpa]; rfl)
  | set pos x t =>
    simp only [toVop, updPos]
    cases cells[pos]? with
    | none => rfl
    | some p => exact (step_set vo st _ x t).trans (by rw [checkPid_same vo st hpa]; rfl)

theorem applyUpd_eq [Val V] (vals : List V) (u : CellUpd V) (t : V) :
    applyUpd vals u = match vals[updPos u]? with
      | some w => vals.set (updPos u) (updVal (voOf V) u (w, t)).1
      | none => vals := by
  cases u with
  | inc pos a => rfl
  | set pos x t =>
    simp only [applyUpd, updPos, updVal]
    cases h : vals[pos]? with
    | some w => rfl
    | none => exact List.set_eq_of_length_le (List.getElem?_eq_none_iff.mp h)

theorem pairs_fst [Val V] : ∀ (us : List (CellUpd V)) (f : Nat → V × V) (vals : List V),
    (∀ j v, vals[j]? = some v → (f j).1 = v) →
    ∀ j v, (applyUpds vals us)[j]? = some v → (pairsAfter (voOf V) f us j).1 = v
  | [], f, vals, h => fun j v hv => h j v hv
  | u :: us, f, vals, h => by
    simp only [applyUpds, pairsAfter, List.foldl_cons]
    apply pairs_fst us
    intro j v hv
    rw [applyUpd_eq vals u (f (updPos u)).2] at hv
    unfold pairUpd
    cases hp : vals[updPos u]? with
    | none =>
      rw [hp] at hv
      rw [if_neg (fun e => by rw [e, hp] at hv; cases hv)]
      exact h j v hv
    | some w =>
      rw [hp] at hv
      simp only [List.getElem?_set] at hv
      by_cases e : j = updPos u
      · subst e
        rw [if_pos rfl] at hv ⊢
        split at hv
        · rw [← Option.some.inj hv, ← h _ w hp]
        · cases hv
      · rw [if_neg (Ne.symm e)] at hv
        rw [if_neg e]
        exact h j v hv
theorem applyUpds_length [Val V] : ∀ (us : List (CellUpd V)) (vals : List V), (applyUpds vals us).length = vals.length
  | [], _ => rfl
  | u :: us, vals => by
    simp only [applyUpds, List.foldl_cons]
    have := applyUpds_length us (applyUpd vals u)
    unfold applyUpds at this
    rw [this, applyUpd_eq vals u Val.zero]
    cases vals[updPos u]? with
    | none => rfl
    | some w => exact List.length_set

end PromVerif.Lemmas.Backends
