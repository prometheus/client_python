/-
Lemmas about `Model/Builtins.lean`: what a `build` returns is `Built` (a constructor call that returned + `add_metric`
calls), and the exact family a `build` of one of the three value-style classes produces (`build_eq`: the only way such a
`build` fails is the validation of the family name).
-/
import PromVerif.Model.Builtins
import PromVerif.Lemmas.Families

set_option autoImplicit false

namespace PromVerif.Model.Builtins
open PromVerif.Py PromVerif.Model.Families
open PromVerif.Model.Registry (Name MType dSet)
open PromVerif.Generated.Builtins PromVerif.Generated.Families

variable {α : Type}

theorem mapE_cons_eq_ok {β γ ε : Type} {f : β → Except ε γ} {b : β} {bs : List β} {r : List γ}
    (h : mapE f (b :: bs) = .ok r) : ∃ c cs, f b = .ok c ∧ mapE f bs = .ok cs ∧ r = c :: cs := by
  unfold mapE at h
  cases hb : f b with
  | error e => rw [hb] at h; cases h
  | ok c =>
    cases hbs : mapE f bs with
    | error e => rw [hb, hbs] at h; cases h
    | ok cs => rw [hb, hbs] at h; cases h; exact ⟨c, cs, rfl, rfl, rfl⟩

theorem mapE_ok_mem {β γ ε : Type} (f : β → Except ε γ) : ∀ (l : List β) (r : List γ), mapE f l = .ok r →
    ∀ c, c ∈ r → ∃ b, b ∈ l ∧ f b = .ok c := by
  intro l
  induction l with
  | nil => intro r h c hc; cases h; cases hc
  | cons b bs ih =>
    intro r h c hc
    obtain ⟨c0, cs, hc0, hcs, rfl⟩ := mapE_cons_eq_ok h
    rcases List.mem_cons.1 hc with rfl | h2
    · exact ⟨b, List.mem_cons_self, hc0⟩
    · obtain ⟨b', hb, hf⟩ := ih cs hcs c h2
      exact ⟨b', List.mem_cons_of_mem _ hb, hf⟩

theorem mapE_ok_cons {β γ ε : Type} {f : β → Except ε γ} {b : β} {bs : List β} {c : γ} {cs : List γ}
    (hb : f b = .ok c) (hbs : mapE f bs = .ok cs) : mapE f (b :: bs) = .ok (c :: cs) := by
  unfold mapE
  rw [hb, hbs]

theorem mapE_cons_cases {β γ ε : Type} {f : β → Except ε γ} {b : β} {bs : List β} {c : γ} {cs : List γ} {e : ε}
    (hb : f b = .ok c ∨ f b = .error e) (hbs : mapE f bs = .ok cs ∨ mapE f bs = .error e) :
    mapE f (b :: bs) = .ok (c :: cs) ∨ mapE f (b :: bs) = .error e := by
  unfold mapE
  rcases hb with hb | hb
  · rcases hbs with hbs | hbs
    · rw [hb, hbs]; exact .inl rfl
    · rw [hb, hbs]; exact .inr rfl
  · rw [hb]; exact .inr rfl

theorem pick_mem (locals : List (Option (Fam α))) (idx : List Nat) (r : List (Fam α)) (h : pick locals idx = .ok r)
    (f : Fam α) (hf : f ∈ r) : some f ∈ locals := by
  obtain ⟨i, _, hi⟩ := mapE_ok_mem _ idx r h f hf
  split at hi
  · next g hg =>
    cases hi
    exact List.mem_of_getElem? hg
  · cases hi

theorem exists_ok_of_isOk {ε β : Type} {x : Except ε β} {P : β → Prop} (hok : x.isOk = true)
    (hP : ∀ b, x = .ok b → P b) : ∃ b, x = .ok b ∧ P b := by
  cases x with
  | error e => cases hok
  | ok b => exact ⟨b, rfl, hP b rfl⟩

theorem build_built {env : Env} {s : Site} {pfx : Name} {labels : Option (List Name)} {value : Option α}
    {adds : List (List Name × α)} {f : Fam α} (h : build env s pfx labels value adds = .ok f) : Built env f := by
  unfold build at h
  split at h
  · cases h
  · next c _ =>
    split at h
    · cases h
    · next f0 hr =>
      split at h
      · cases h
      · cases h
        exact ⟨c, f0, _, hr, rfl⟩

def Simple (cls : Cls) : Prop := cls = .unknown ∨ cls = .counter ∨ cls = .gauge

/-- the suffix of the one sample `add_metric(labels, value)` appends -/
def simpleSuffix : Cls → List Char
  | .unknown => unknownSample
  | .counter => counterTotal
  | _ => gaugeSample

/-- the sample `add_metric(labels, value)` appends (no `created`, timestamp or exemplar is passed) -/
def simpleSample (f : Fam α) (a : List Name × α) : Sample α :=
  ⟨f.name ++ simpleSuffix f.cls, zipDict f.labelnames a.1, .obj a.2, none, none⟩

theorem newSamples_simple (env : Env) (f : Fam α) (hs : Simple f.cls) (a : List Name × α) :
    newSamples env f (addCall f.cls a.1 a.2) = ([simpleSample f a], none) := by
  unfold simpleSample
  rcases hs with h | h | h
  · rw [h]; exact if_pos h
  · rw [h]; exact if_pos h
  · rw [h]; exact if_pos h

theorem runAdds_simple (env : Env) (l : List (List Name × α)) : ∀ (f : Fam α), Simple f.cls →
    runAdds env f (l.map fun a => addCall f.cls a.1 a.2) =
      ({ f with samples := f.samples ++ l.map (simpleSample f) }, l.map fun _ => none) := by
  induction l with
  | nil => intro f _; exact congrArg (fun ss => ({ f with samples := ss }, [])) (List.append_nil f.samples).symm
  | cons a l ih =>
    intro f hs
    rw [List.map_cons, runAdds, addMetric, newSamples_simple env f hs a]
    dsimp only [Fam.extend]
    rw [ih { f with samples := f.samples ++ [simpleSample f a] } hs]
    show (({ f with samples := (f.samples ++ [simpleSample f a]) ++ l.map (simpleSample f) } : Fam α), _) = _
    rw [List.append_assoc]
    rfl

theorem find_none {β : Type} (l : List β) : (l.map fun _ => (none : Option PyErr)).find? Option.isSome = none :=
  List.find?_eq_none.2 fun x hx => by obtain ⟨_, _, rfl⟩ := List.mem_map.1 hx; exact Bool.false_ne_true

/-- `K(n, d, labels=ls)` after `add_metric(labels, value)` for every `(labels, value)` of `adds` -/
def simpleFam (cls : Cls) (n d : List Char) (ls : List Name) (adds : List (List Name × α)) : Fam α :=
  { cls := cls, name := n, documentation := d, typ := cls.mtype, unit := [], labelnames := ls,
    samples := adds.map fun a => ⟨n ++ simpleSuffix cls, zipDict ls a.1, .obj a.2, none, none⟩ }

/-- `_validate_metric_name(n)`, then the object `f` -/
def validated (env : Env) (n : List Char) (f : Fam α) : PyM (Fam α) :=
  match Validation.validateMetricName env.legacy n with
  | .error e => .error e
  | .ok () => .ok f

/-- the constructor's `value=v` is `add_metric([], v)` -/
def firstAdd (value : Option α) : List (List Name × α) := value.toList.map fun v => ([], v)

theorem familyInit_value (env : Env) (cls : Cls) (n d typ : List Char) (value : Option α) (labels : Option (List Name))
    (add : Fam α → α → List (Sample α) × Option PyErr) (ht : resolveType typ = some cls.mtype)
    (hadd : ∀ v, add (simpleFam cls n d (labels.getD []) []) v =
      ([simpleSample (simpleFam cls n d (labels.getD []) []) ([], v)], none))
    (hb : (labels.isSome && value.isSome) = false) :
    familyInit env cls n d typ [] (labels.isSome && value.isSome) labels (fun self => value.map (add self)) =
      validated env n (simpleFam cls n d (labels.getD []) (firstAdd value)) := by
  unfold familyInit Metric.init validated
  simp only [hb, ht, List.isEmpty_nil, Bool.not_true, Bool.false_and, Bool.false_eq_true, if_false]
  cases Validation.validateMetricName env.legacy n with
  | error e => rfl
  | ok u =>
    cases value with
    | none => rfl
    | some v => exact congrArg (fun r => match r.2 with
        | some e => Except.error e
        | none => Except.ok (Fam.extend (simpleFam cls n d (labels.getD []) []) r).1) (hadd v)

/-- `CounterMetricFamily.__init__`'s `if name.endswith('_total'): name = name[:-6]` -/
def counterName (n : List Char) : List Char :=
  if counterStrips && pyEndsWith n counterStrip then pySliceNeg n counterStripLen else n

/-- the name of the family `K(n, …)` constructs -/
def ctorName : Cls → List Char → List Char
  | .counter, n => counterName n
  | _, n => n

/-- the name argument of a site's constructor call -/
def siteName (s : Site) (pfx : Name) : Name := if s.prefixed then pfx ++ s.name else s.name

theorem siteCtor_run (env : Env) (s : Site) (pfx : Name) (labels : Option (List Name)) (value : Option α) (cls : Cls)
    (hcls : clsOfIdx s.cls = some cls) (hs : Simple cls) (hb : (labels.isSome && value.isSome) = false) :
    ∃ c, siteCtor s pfx labels value = .ok c ∧
      c.run env = validated env (ctorName cls (siteName s pfx))
        (simpleFam cls (ctorName cls (siteName s pfx)) s.doc (labels.getD []) (firstAdd value)) := by
  unfold siteCtor
  rw [hcls]
  rcases hs with rfl | rfl | rfl
  · exact ⟨_, rfl, familyInit_value env .unknown (siteName s pfx) s.doc unknownType value labels
      (fun self v => UnknownMetricFamily.addMetric self [] v none) (resolveType_cls .unknown) (fun _ => rfl) hb⟩
  · exact ⟨_, rfl, familyInit_value env .counter (counterName (siteName s pfx)) s.doc counterType value labels
      (fun self v => CounterMetricFamily.addMetric self [] v none none none) (resolveType_cls .counter) (fun _ => rfl) hb⟩
  · exact ⟨_, rfl, familyInit_value env .gauge (siteName s pfx) s.doc gaugeType value labels
      (fun self v => GaugeMetricFamily.addMetric self [] v none) (resolveType_cls .gauge) (fun _ => rfl) hb⟩

theorem build_eq (env : Env) (s : Site) (pfx : Name) (labels : Option (List Name)) (value : Option α)
    (adds : List (List Name × α)) (cls : Cls) (hcls : clsOfIdx s.cls = some cls) (hs : Simple cls)
    (hb : (labels.isSome && value.isSome) = false) :
    build env s pfx labels value adds = validated env (ctorName cls (siteName s pfx))
      (simpleFam cls (ctorName cls (siteName s pfx)) s.doc (labels.getD []) (firstAdd value ++ adds)) := by
  obtain ⟨c, hc, hr⟩ := siteCtor_run env s pfx labels value cls hcls hs hb
  unfold build
  rw [hc]
  dsimp only
  rw [hr]
  unfold validated
  cases Validation.validateMetricName env.legacy (ctorName cls (siteName s pfx)) with
  | error e => rfl
  | ok u =>
    dsimp only
    rw [runAdds_simple env adds _ hs, find_none]
    unfold simpleFam
    rw [List.map_append]
    rfl

theorem validate_cases (b : Bool) (n : Name) :
    Validation.validateMetricName b n = .ok () ∨ Validation.validateMetricName b n = .error .valueError := by
  unfold Validation.validateMetricName
  split
  · exact .inr rfl
  · split
    · exact .inr rfl
    · exact .inl rfl

theorem validate_of_isOk {n : Name} (h : ∀ b, (Validation.validateMetricName b n).isOk = true) (b : Bool) :
    Validation.validateMetricName b n = .ok () := by
  rcases validate_cases b n with hv | hv
  · exact hv
  · have hb := h b
    rw [hv] at hb
    cases hb

theorem validated_cases (env : Env) (n : List Char) (f : Fam α) :
    validated env n f = .ok f ∨ validated env n f = .error .valueError := by
  unfold validated
  rcases validate_cases env.legacy n with h | h
  · rw [h]; exact .inl rfl
  · rw [h]; exact .inr rfl

/-- `GaugeMetricFamily(n, d, value=v)` -/
def gaugeValueFam (n d : List Char) (v : α) : Fam α :=
  { cls := .gauge, name := n, documentation := d, typ := .gauge, unit := [],
    samples := [⟨n, [], .obj v, none, none⟩], labelnames := [] }

/-- `CounterMetricFamily(n + '_total', d, value=v)` -/
def counterValueFam (n d : List Char) (v : α) : Fam α :=
  { cls := .counter, name := n, documentation := d, typ := .counter, unit := [],
    samples := [⟨n ++ counterTotal, [], .obj v, none, none⟩], labelnames := [] }

theorem simpleFam_gauge_value (n d : List Char) (v : α) : simpleFam .gauge n d [] [([], v)] = gaugeValueFam n d v := by
  show (⟨.gauge, n, d, .gauge, [], [⟨n ++ [], [], .obj v, none, none⟩], []⟩ : Fam α) = _
  rw [List.append_nil]
  rfl

theorem build_gauge_value (env : Env) (s : Site) (pfx : Name) (v : α) (hcls : clsOfIdx s.cls = some .gauge) :
    build env s pfx none (some v) [] = .ok (gaugeValueFam (siteName s pfx) s.doc v) ∨
      build env s pfx none (some v) [] = .error .valueError := by
  rw [build_eq env s pfx none (some v) [] .gauge hcls (.inr (.inr rfl)) rfl, ← simpleFam_gauge_value]
  exact validated_cases _ _ _

theorem build_counter_value (env : Env) (s : Site) (pfx : Name) (v : α) (hcls : clsOfIdx s.cls = some .counter) :
    build env s pfx none (some v) [] = .ok (counterValueFam (counterName (siteName s pfx)) s.doc v) ∨
      build env s pfx none (some v) [] = .error .valueError := by
  rw [build_eq env s pfx none (some v) [] .counter hcls (.inr (.inl rfl)) rfl]
  exact validated_cases _ _ _

theorem counterName_total (n : List Char) : counterName (n ++ counterStrip) = n := by
  have h1 : pyEndsWith (n ++ counterStrip) counterStrip = true := by
    simp [pyEndsWith]
  have h2 : pySliceNeg (n ++ counterStrip) counterStripLen = n := by
    simp [pySliceNeg, counterStrip, counterStripLen]
  simp [counterName, h1, h2, counterStrips]

end PromVerif.Model.Builtins
