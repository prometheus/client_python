/-
C11: cut points — the states a file goes through between consecutive effects — and what all of them satisfy (`AllCuts`),
the order `Ext` on the entry lists they represent, chains `Mono` of represented files, and the states of a growth.
-/
import PromVerif.Lemmas.MmapOps
namespace PromVerif.Lemmas.Mmap
open PromVerif.Py PromVerif.Model.MmapDict PromVerif.Generated.Mmap
open PromVerif.Spec.MmapDict (Store PrefixFrom)

/-- all states the file goes through while the effects are applied one by one (first = before, last = after) -/
def states (f : Option Bytes) : List Effect → List (Option Bytes)
  | [] => [f]
  | e :: es => f :: states (applyEffect f e) es

theorem applyEffects_append (f : Option Bytes) (a b : List Effect) :
    applyEffects f (a ++ b) = applyEffects (applyEffects f a) b := by simp [applyEffects]

theorem head_mem_states (f : Option Bytes) (tr : List Effect) : f ∈ states f tr := by
  cases tr <;> simp [states]

theorem applyEffects_mem_states (f : Option Bytes) (tr : List Effect) : applyEffects f tr ∈ states f tr := by
  induction tr generalizing f with
  | nil => simp [states, applyEffects]
  | cons e tr ih => simp only [states, applyEffects, List.foldl_cons, List.mem_cons]; right; exact ih _

theorem mem_states_append {s f a b} : s ∈ states f (a ++ b) ↔ s ∈ states f a ∨ s ∈ states (applyEffects f a) b := by
  induction a generalizing f with
  | nil =>
    simp only [List.nil_append, states, List.mem_singleton, applyEffects, List.foldl_nil]
    exact (or_iff_right_of_imp fun h => h ▸ head_mem_states _ _).symm
  | cons e a ih =>
    simp only [List.cons_append, states, List.mem_cons, applyEffects, List.foldl_cons] at ih ⊢
    rw [ih]
    simp [or_assoc]

theorem cut_mem_states (f : Option Bytes) (tr : List Effect) (k : Nat) : applyEffects f (tr.take k) ∈ states f tr := by
  have := mem_states_append (s := applyEffects f (tr.take k)) (f := f) (a := tr.take k) (b := tr.drop k)
  rw [List.take_append_drop] at this
  exact this.mpr (Or.inl (applyEffects_mem_states _ _))

/-- every state the effects `tr` lead through from the file `f` is a file, and satisfies `P` -/
def AllCuts (f : Bytes) (tr : List Effect) (P : Bytes → Prop) : Prop :=
  ∀ s ∈ states (some f) tr, ∃ g, s = some g ∧ P g

theorem AllCuts.nil {f : Bytes} {P : Bytes → Prop} (h : P f) : AllCuts f [] P :=
  fun _ hs => ⟨f, List.mem_singleton.mp hs, h⟩

theorem AllCuts.imp {f tr} {P Q : Bytes → Prop} (h : AllCuts f tr P) (hpq : ∀ g, P g → Q g) : AllCuts f tr Q :=
  fun s hs => (h s hs).imp fun g hg => ⟨hg.1, hpq g hg.2⟩

theorem AllCuts.append {f a f1 b} {P : Bytes → Prop} (h1 : AllCuts f a P) (ha : applyEffects (some f) a = some f1)
    (h2 : AllCuts f1 b P) : AllCuts f (a ++ b) P := by
  intro s hs
  rcases mem_states_append.mp hs with hs | hs
  · exact h1 s hs
  · exact h2 s (ha ▸ hs)

theorem AllCuts.snoc {f tr f1 e f'} {P : Bytes → Prop} (h : AllCuts f tr P) (ha : applyEffects (some f) tr = some f1)
    (he : applyEffect (some f1) e = some f') (hp : P f') : AllCuts f (tr ++ [e]) P := by
  refine h.append ha fun s hs => ?_
  rcases List.mem_cons.mp hs with rfl | hs
  · exact h _ (ha ▸ applyEffects_mem_states _ _)
  · exact ⟨f', (List.mem_singleton.mp hs).trans he, hp⟩

theorem applyEffects_ctor (initSize : Nat) (hi : 8 ≤ initSize) (tr : List Effect) :
    applyEffects none (.createEmpty :: .truncate initSize :: .sliceWrite 0 (le 4 8) :: tr)
      = applyEffects (some (freshStore initSize).file) tr := by
  simp [applyEffects, applyEffect, truncate, sliceWrite_header_zeros initSize hi, freshStore]

/-- a file a reader or a new writer can be handed: header + entries with distinct keys + anything -/
def CutRep (file : Bytes) (es : List Entry) : Prop := ∃ u tl, FileRep file u es tl ∧ (keys es).Nodup

theorem Rep.cutRep {d es tail} (h : Rep d es tail) : CutRep d.file es := ⟨_, _, h.file, h.nodup⟩

theorem init_cutrep {file es} (h : CutRep file es) (initSize : Nat) :
    ∃ d tl, init initSize file = .ok (d, []) ∧ Rep d es tl ∧ d.file = file := by
  obtain ⟨u, tl, hf, hn⟩ := h
  have hr : Rep ⟨file, file.length, u, posOf 8 es⟩ es tl := ⟨hf, rfl, rfl, hn⟩
  exact ⟨_, tl, init_reopen hr initSize, hr, rfl⟩

/-- `es2` extends `es1`: the same keys in the same order first (values may differ), then possibly more entries -/
def Ext (es1 es2 : List Entry) : Prop := ∃ a b, es2 = a ++ b ∧ keys a = keys es1

theorem Ext.refl (es : List Entry) : Ext es es := ⟨es, [], by simp, rfl⟩

theorem Ext.of_keys {es1 es2 : List Entry} (h : keys es2 = keys es1) : Ext es1 es2 := ⟨es2, [], by simp, h⟩

theorem Ext.snoc (es : List Entry) (e : Entry) : Ext es (es ++ [e]) := ⟨es, [e], rfl, rfl⟩

theorem Ext.trans {e1 e2 e3 : List Entry} (h12 : Ext e1 e2) (h23 : Ext e2 e3) : Ext e1 e3 := by
  obtain ⟨a, b, rfl, ha⟩ := h12
  obtain ⟨c, d, rfl, hc⟩ := h23
  refine ⟨c.take a.length, c.drop a.length ++ d, by rw [← List.append_assoc, List.take_append_drop], ?_⟩
  have : keys (c.take a.length) = (keys c).take a.length := by simp [keys, List.map_take]
  rw [this, hc, keys_append, ← ha]
  have hl : a.length = (keys a).length := by simp [keys]
  rw [hl, List.take_left']
  rfl

/-- from file `f` (representing `es`) the effects `tr` lead to `f'` (representing `es'`), every step extending -/
inductive Mono : Bytes → List Entry → List Effect → Bytes → List Entry → Prop
  | nil {f es} : CutRep f es → Mono f es [] f es
  | cons {f es e f1 es1 tr f' es'} : CutRep f es → applyEffect (some f) e = some f1 → Ext es es1 →
      Mono f1 es1 tr f' es' → Mono f es (e :: tr) f' es'

theorem Mono.start {f es tr f' es'} (h : Mono f es tr f' es') : CutRep f es := by
  cases h <;> assumption

theorem Mono.append {f es a f1 es1 b f2 es2} (h1 : Mono f es a f1 es1) (h2 : Mono f1 es1 b f2 es2) :
    Mono f es (a ++ b) f2 es2 := by
  induction h1 with
  | nil _ => exact h2
  | cons hc he hx _ ih => exact Mono.cons hc he hx (ih h2)

theorem Mono.apply {f es tr f' es'} (h : Mono f es tr f' es') : applyEffects (some f) tr = some f' := by
  induction h with
  | nil _ => rfl
  | cons _ he _ _ ih => simpa [applyEffects, he] using ih

theorem Mono.const {es : List Entry} : ∀ (tr : List Effect) {f f' : Bytes},
    AllCuts f tr (CutRep · es) → applyEffects (some f) tr = some f' → Mono f es tr f' es := by
  intro tr
  induction tr with
  | nil =>
    intro f f' hs hf
    obtain ⟨g, hg, hc⟩ := hs _ (head_mem_states _ _)
    cases hg
    cases hf
    exact Mono.nil hc
  | cons e tr ih =>
    intro f f' hs hf
    obtain ⟨g, hg, hc⟩ := hs _ (head_mem_states _ _)
    cases hg
    obtain ⟨f1, h1, _⟩ := hs (applyEffect (some f) e) (List.mem_cons_of_mem _ (head_mem_states _ _))
    have hs1 : AllCuts f1 tr (CutRep · es) := fun s hm => hs s (List.mem_cons_of_mem _ (h1 ▸ hm))
    exact Mono.cons hc h1 (Ext.refl es) (ih hs1 (by simpa [applyEffects, h1] using hf))

theorem Mono.at {f es tr f' es'} (h : Mono f es tr f' es') : ∀ j, ∃ g e,
    applyEffects (some f) (tr.take j) = some g ∧ Ext es e ∧ Mono g e (tr.drop j) f' es' := by
  induction h with
  | @nil f es hc => intro j; exact ⟨f, es, by simp [applyEffects], Ext.refl _, by simpa using Mono.nil hc⟩
  | @cons f es e f1 es1 tr f' es' hc he hx hm ih =>
    intro j
    cases j with
    | zero => exact ⟨f, es, by simp [applyEffects], Ext.refl _, Mono.cons hc he hx hm⟩
    | succ j =>
      obtain ⟨g, e', h1, h3, h4⟩ := ih j
      refine ⟨g, e', ?_, hx.trans h3, by simpa using h4⟩
      simp only [List.take_succ_cons, applyEffects, List.foldl_cons, he]
      exact h1

theorem Mono.pair {f es tr f' es'} (h : Mono f es tr f' es') (j1 j2 : Nat) (hj : j1 ≤ j2) : ∃ g1 e1 g2 e2,
    applyEffects (some f) (tr.take j1) = some g1 ∧ CutRep g1 e1 ∧
    applyEffects (some f) (tr.take j2) = some g2 ∧ CutRep g2 e2 ∧ Ext e1 e2 := by
  obtain ⟨g1, e1, h1, _, hrest⟩ := h.at j1
  obtain ⟨g2, e2, h2, hx, hrest2⟩ := hrest.at (j2 - j1)
  refine ⟨g1, e1, g2, e2, h1, hrest.start, ?_, hrest2.start, hx⟩
  have : tr.take j2 = tr.take j1 ++ (tr.drop j1).take (j2 - j1) := by
    rw [← List.take_add, Nat.add_sub_of_le hj]
  rw [this, applyEffects_append, h1, h2]

theorem allCuts_truncates : ∀ (cs : List Nat) (f : Bytes) (c0 : Nat), c0 = f.length → List.Pairwise (· ≤ ·) (c0 :: cs) →
    AllCuts f (cs.map Effect.truncate) fun g => ∃ z, g = f ++ zeros z := by
  intro cs
  induction cs with
  | nil => intro f _ _ _; exact AllCuts.nil ⟨0, by simp [zeros]⟩
  | cons c cs ih =>
    intro f c0 h0 hp s hs
    subst h0
    rw [List.pairwise_cons] at hp
    have hc : f.length ≤ c := hp.1 c (by simp)
    simp only [List.map_cons, states, List.mem_cons, applyEffect, Option.map_some] at hs
    rcases hs with rfl | hs
    · exact ⟨f, rfl, 0, by simp [zeros]⟩
    · rw [truncate_ge f c hc] at hs
      obtain ⟨g, hg, z, hz⟩ := ih (f ++ zeros (c - f.length)) c
        (by rw [List.length_append, zeros_length, Nat.add_sub_of_le hc]) hp.2 s hs
      exact ⟨g, hg, c - f.length + z, by rw [hz, List.append_assoc, zeros_append]⟩

end PromVerif.Lemmas.Mmap
