/-
C04: the label block of the OpenMetrics exposition through `parse_labels(..., openmetrics=True)`.

The OpenMetrics exposition joins the `name="value"` items with ',' and, for a metric name outside the legacy alphabet,
writes `{"name", k="v",…}` (comma AND blank after the quoted name) or `{"name"}`.  The C03 library
(Lemmas/TextParseLabels.lean) proves the text-mode variant on the same shared core; here the OpenMetrics-mode loop.
-/
import PromVerif.Lemmas.OMRtBasic
import PromVerif.Lemmas.OMSafe

set_option autoImplicit false

namespace PromVerif.Lemmas.OMRt
open PromVerif.Py PromVerif.Model PromVerif.Model.Escape PromVerif.Model.ParseCore PromVerif.Model.Validation
open PromVerif.Model.OMParse PromVerif.Spec.OMRoundtrip PromVerif.Lemmas.Escape PromVerif.Lemmas.Scanner
open PromVerif.Lemmas.TextParse PromVerif.Model.TextExpo
open PromVerif.Lemmas.TextTotal (oneLabelBody)
open PromVerif.Lemmas.OM (parseOneLabel_om_eq omTail nextTerm_om_no_comma nextTerm_om_comma_cons)

theorem labelItem_eq_text : OMExpo.labelItem = TextExpo.labelItem := rfl

theorem omTail_pass {tm : Str} (hp : Pass termChs tm) (hne : tm ≠ []) (R : Str) :
    omTail (tm ++ ',' :: R) = .ok (strip tm, strip (',' :: R)) ∧ omTail tm = .ok (strip tm, []) := by
  have he : tm.isEmpty = false := List.isEmpty_eq_false_iff.mpr hne
  have h1 : nextUnquotedChar (tm ++ ',' :: R) termChs = some tm.length := scan_pass_hit hp ',' R (by decide) (by decide)
  have h2 : nextUnquotedChar tm termChs = none := scan_pass_none hp
  unfold termChs at h1 h2
  unfold omTail
  refine ⟨?_, ?_⟩
  · simp only [h1, List.take_left, List.drop_left, he, Bool.false_and, Bool.false_eq_true, ↓reduceIte]
  · simp only [h2, List.take_length, List.drop_length, he, Bool.false_and, Bool.false_eq_true, ↓reduceIte, strip_nil]

theorem omTail_term {tm : Str} (hp : Pass termChs tm) (hne : tm ≠ []) (r : List (Str × Str)) :
    omTail (tm ++ tailStr r) = .ok (strip tm, tailStr r) := by
  cases r with
  | nil => simpa [tailStr] using (omTail_pass hp hne []).2
  | cons kv r => rw [tailStr_cons, (omTail_pass hp hne _).1, ← tailStr_cons, strip_tail]

theorem space_item_pass {legacy : Bool} {kv : Str × Str} (h : labelNameOK legacy kv.1 = true) (pad : Bool) :
    Pass termChs ((if pad then [' '] else []) ++ labelItem kv) := by
  have hi : Pass termChs (labelItem kv) := item_pass termChs_safe (by decide) h
  cases pad with
  | false => simpa using hi
  | true =>
    have hs : Pass termChs [' '] := pass_plain (by unfold PlainFor; decide)
    exact pass_append hs hi

theorem strip_space_item {legacy : Bool} {kv : Str × Str} (h : labelNameOK legacy kv.1 = true) (pad : Bool) :
    strip ((if pad then [' '] else []) ++ labelItem kv) = labelItem kv := by
  cases pad with
  | false => simpa using strip_item h
  | true =>
    have : strip (' ' :: labelItem kv) = strip (labelItem kv) := by
      unfold strip stripSet lstripSet
      rw [List.dropWhile_cons_of_pos (by decide)]
    simpa [this] using strip_item h

/-- `,item…` or `, item…` (and, for the first item of a block without a quoted name, `item…`) -/
theorem parseOneLabel_om_item {legacy : Bool} {kv : Str × Str} (h : labelNameOK legacy kv.1 = true) (r : List (Str × Str))
    (lead pad : Bool) (acc : List (Str × Str)) (hfresh : acc.any (fun x => x.1 == kv.1) = false) :
    parseOneLabel legacy true ((if lead then [','] else []) ++ ((if pad then [' '] else []) ++ labelItem kv ++ tailStr r)) acc =
      .ok (acc ++ [kv], tailStr r) := by
  have hp := space_item_pass h pad
  obtain ⟨a, t, e, hac, _⟩ := item_head h
  have hne : (if pad then [' '] else []) ++ labelItem kv ≠ [] := by
    rw [e]; cases pad <;> simp
  have hnt : nextTerm ((if lead then [','] else []) ++ ((if pad then [' '] else []) ++ labelItem kv ++ tailStr r)) true =
      .ok (labelItem kv, tailStr r) := by
    have hhead : ∃ d ds, (if pad then [' '] else []) ++ labelItem kv ++ tailStr r = d :: ds ∧ d ≠ ',' := by
      cases pad with
      | true => exact ⟨' ', labelItem kv ++ tailStr r, by simp, by decide⟩
      | false => exact ⟨a, t ++ tailStr r, by simp [e], hac⟩
    obtain ⟨d, ds, hd, hdc⟩ := hhead
    have ht := omTail_term hp hne r
    rw [strip_space_item h pad] at ht
    cases lead with
    | false =>
      simp only [Bool.false_eq_true, ↓reduceIte, List.nil_append]
      rw [hd, nextTerm_om_no_comma d ds hdc, ← hd]; exact ht
    | true =>
      simp only [↓reduceIte, List.cons_append, List.nil_append]
      rw [hd, nextTerm_om_comma_cons d ds hdc, ← hd]; exact ht
  rw [parseOneLabel_om_eq, hnt]
  simp only [bind, Except.bind, item_nonempty, Bool.false_eq_true, ↓reduceIte]
  exact oneLabelBody_item h _ acc hfresh

theorem parseOneLabel_om_qname (legacy : Bool) (n : Str) (R : Str) :
    parseOneLabel legacy true (qname n ++ ',' :: R) [] = .ok ([("__name__".toList, n)], strip (',' :: R)) ∧
    parseOneLabel legacy true (qname n) [] = .ok ([("__name__".toList, n)], []) := by
  obtain ⟨h1, h2⟩ := omTail_pass (tm := qname n) (quoted_pass termChs termChs_safe.quote n) (by simp [qname]) R
  rw [show strip (qname n) = qname n from strip_quoted _] at h1 h2
  have hbody : ∀ {text rest : Str}, nextTerm text true = .ok (qname n, rest) →
      parseOneLabel legacy true text [] = .ok ([("__name__".toList, n)], rest) := by
    intro text rest hnt
    have hne : (qname n).isEmpty = false := rfl
    rw [parseOneLabel_om_eq, hnt]
    simp only [bind, Except.bind, hne, Bool.false_eq_true, ↓reduceIte]
    exact oneLabelBody_qname legacy n _
  exact ⟨hbody ((nextTerm_om_no_comma '"' _ (by decide)).trans h1), hbody ((nextTerm_om_no_comma '"' _ (by decide)).trans h2)⟩

theorem loop_nil_om (legacy : Bool) (fuel : Nat) (acc : List (Str × Str)) :
    parseLabelsLoop legacy true fuel [] acc = .ok acc := by
  cases fuel <;> simp [parseLabelsLoop]

theorem parseOneLabel_om_comma_item {legacy : Bool} (kv : Str × Str) (r acc : List (Str × Str))
    (h : labelNameOK legacy kv.1 = true) (hf : acc.any (fun x => x.1 == kv.1) = false) :
    parseOneLabel legacy true (',' :: (labelItem kv ++ tailStr r)) acc = .ok (acc ++ [kv], tailStr r) := by
  simpa using parseOneLabel_om_item h r true false acc hf

/-- the tail after a quoted metric name: `, item,item…` -/
def spTail (l : List (Str × Str)) : Str :=
  match l with
  | [] => []
  | kv :: r => ',' :: ' ' :: (labelItem kv ++ tailStr r)

theorem strip_last_quote {s : Str} {a : Char} (hh : s.head? = some a) (ha : isPySpace a = false)
    (hl : s.getLast? = some '"') : strip s = s :=
  strip_eq_self (a := a) (b := '"') hh ha hl (by decide)

theorem block_last (pre : Str) (kv : Str × Str) (r : List (Str × Str)) :
    (pre ++ (labelItem kv ++ tailStr r)).getLast? = some '"' := by
  rw [List.getLast?_append, List.getLast?_append]
  by_cases hr : r = []
  · subst hr; simp [tailStr, item_last]
  · rw [tail_last r hr]; rfl

theorem parseLabels_om_items {legacy : Bool} (kv : Str × Str) (r : List (Str × Str))
    (hok : ∀ x ∈ kv :: r, labelNameOK legacy x.1 = true) (hnd : ((kv :: r).map (·.1)).Nodup) :
    parseLabels legacy (labelItem kv ++ tailStr r) true = .ok (kv :: r) := by
  have hkv := hok kv (by simp)
  obtain ⟨a, t, e, hac, hs⟩ := item_head hkv
  have hfirst := parseOneLabel_om_item hkv r false false [] rfl
  simp only [Bool.false_eq_true, ↓reduceIte, List.nil_append] at hfirst
  exact parseLabels_first e hs hac (item_last kv) kv r hfirst parseOneLabel_om_comma_item (List.forall_mem_cons.mp hok).2 hnd

theorem parseLabels_om_named {legacy : Bool} (n : Str) (L : List (Str × Str))
    (hok : ∀ x ∈ L, labelNameOK legacy x.1 = true) (hnd : (L.map (·.1)).Nodup) :
    parseLabels legacy (qname n ++ spTail L) true = .ok (("__name__".toList, n) :: L) := by
  have hhd : ((qname n ++ spTail L).head? == some ',') = false := rfl
  have hne : (qname n ++ spTail L).isEmpty = false := rfl
  cases L with
  | nil =>
    have hfirst := (parseOneLabel_om_qname legacy n []).2
    exact parseLabels_first (tm := qname n) (L := []) rfl (by decide) (by decide) (getLast?_cons_concat _ _ _) _
      (by simpa [tailStr] using hfirst) parseOneLabel_om_comma_item (fun x hx => by cases hx) (by simp)
  | cons kv r =>
    have hkv := hok kv (by simp)
    have hlast : (qname n ++ spTail (kv :: r)).getLast? = some '"' := by
      simpa [spTail] using block_last (qname n ++ [',', ' ']) kv r
    have hstrip : strip (qname n ++ spTail (kv :: r)) = qname n ++ spTail (kv :: r) :=
      strip_last_quote (a := '"') rfl (by decide) hlast
    have hrest : strip (spTail (kv :: r)) = spTail (kv :: r) :=
      strip_last_quote (a := ',') rfl (by decide) (block_last [',', ' '] kv r)
    have hfirst := (parseOneLabel_om_qname legacy n (' ' :: (labelItem kv ++ tailStr r))).1
    rw [show ',' :: ' ' :: (labelItem kv ++ tailStr r) = spTail (kv :: r) from rfl, hrest] at hfirst
    have hfresh : ([("__name__".toList, n)] : List (Str × Str)).any (fun x => x.1 == kv.1) = false := by
      simp only [List.any_cons, List.any_nil, Bool.or_false]
      exact beq_eq_false_iff_ne.mpr (Ne.symm (labelNameOK_ne_name hkv))
    have hsecond := parseOneLabel_om_item hkv r true true [("__name__".toList, n)] hfresh
    simp only [↓reduceIte, List.cons_append, List.nil_append] at hsecond
    have hnd2 : (([("__name__".toList, n), kv] ++ r).map (·.1)).Nodup := by
      rw [List.cons_append, List.singleton_append, List.map_cons, List.nodup_cons]
      exact ⟨name_not_mem_keys hok, hnd⟩
    have hlen1 : (qname n ++ spTail (kv :: r)).length + 1 = ((qname n ++ spTail (kv :: r)).length - 1) + 1 + 1 := by
      simp [qname, spTail]
    unfold parseLabels
    simp only [hstrip, hhd, Bool.and_false, Bool.false_eq_true, ↓reduceIte]
    rw [hlen1, parseLabelsLoop]
    simp only [hne, Bool.false_eq_true, ↓reduceIte, bind, Except.bind, hfirst]
    rw [parseLabelsLoop]
    simp only [spTail, hsecond, bind, Except.bind]
    rw [loop_tail_of_step parseOneLabel_om_comma_item r [("__name__".toList, n), kv] _ (by have := tailStr_length r; simp; omega)
      (List.forall_mem_cons.mp hok).2 hnd2]
    rfl

end PromVerif.Lemmas.OMRt
