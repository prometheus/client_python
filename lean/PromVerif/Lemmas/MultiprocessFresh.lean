/-
A weaker precondition for the cell theorems: FRESHNESS.  A value object is fresh when nothing else has written its
entry since it last read or wrote it: every object is fresh right after an identity change (all are re-bound and
re-read) and right after its construction; an update through an object makes it fresh and makes every OTHER object
on the same (prefix, key) stale.  An increment is safe iff it goes through a fresh object; a `set` is always safe.
This covers "only the youngest object on a key is updated" and also a kept old handle used again after an identity
change, as long as, within one identity epoch, the updates of a key do not alternate between objects.
-/
import PromVerif.Lemmas.MultiprocessWorld

namespace PromVerif.Model.Values
open PromVerif.Py PromVerif.Generated.Multiprocess PromVerif.Model.Multiprocess
open PromVerif.Spec.Multiprocess (Upd aggSum incTotal)
set_option autoImplicit false

variable {V : Type}

abbrev Flags := Nat → Bool

/-- after the identity check: every object was re-bound (fresh) if the identity changed -/
def rebindFlags (st : St V) (fl : Flags) : Flags := if st.pid ≠ st.actual then (fun _ => true) else fl

/-- an update through object `i`: it is fresh, every other object on the same (prefix, key) is stale -/
def staleOthers (ids : List (Str × Key)) (i : Nat) (fl : Flags) : Flags :=
  fun j => if j = i then true else if ids[j]? = ids[i]? then false else fl j

def flagsStep (st : St V) (fl : Flags) : Op V → Flags
  | .setPid _ => fl
  | .construct _ => fun j => if j = st.values.length then true else rebindFlags st fl j
  | .inc i _ => staleOthers (idsOf st) i (rebindFlags st fl)
  | .set i _ _ => staleOthers (idsOf st) i (rebindFlags st fl)
  | .get _ => rebindFlags st fl

/-- an increment must go through a fresh object (a `set` overwrites and needs nothing) -/
def opFresh (st : St V) (fl : Flags) : Op V → Bool
  | .inc i _ => rebindFlags st fl i
  | _ => true

/-! The invariant is `CachedAt` for the flagged objects: fresh objects cache what their file holds. -/

theorem check_fresh (vo : VOps V) (st : St V) (fl : Flags) (hb : Bound st) (h : CachedAt vo st (fl · = true)) :
    CachedAt vo (checkPid vo st) (rebindFlags st fl · = true) :=
  cachedAt_check vo st hb h (fun hp i hq => by simpa [rebindFlags, hp] using hq)

theorem fresh_writeAt (vo : VOps V) (st1 : St V) (fl1 : Flags) (hb1 : Bound st1) (h1 : CachedAt vo st1 (fl1 · = true))
    (i : Nat) (w : ValueObj V → V × V) : CachedAt vo (writeAt st1 i w) (staleOthers (idsOf st1) i fl1 · = true) := by
  apply cachedAt_writeAt vo st1 hb1 h1 i w
  intro j a hf hji hja
  simp only [staleOthers, if_neg hji] at hf
  split at hf
  · cases hf
  · next hne => exact ⟨hf, fun hia => hne (hja.trans hia.symm)⟩

theorem idsOf_check' (vo : VOps V) (st : St V) (hb : Bound st) : idsOf (checkPid vo st) = idsOf st := idsOf_check vo st hb

/-- the flags stay truthful under EVERY op, fresh increment or not: `opFresh` is needed for what an increment stores
    (`wrun_cell_fresh`), not for the invariant -/
theorem fresh_step (vo : VOps V) (st : St V) (fl : Flags) (op : Op V) (hb : Bound st) (h : CachedAt vo st (fl · = true)) :
    CachedAt vo (step vo st op).1 (flagsStep st fl op · = true) := by
  have hc := checkPid_post vo st hb
  have h1 := check_fresh vo st fl hb h
  have hids := idsOf_check vo st hb
  cases op with
  | setPid p => exact h
  | get i => exact h1
  | inc i a => rw [step_inc, flagsStep, ← hids]; exact fresh_writeAt vo _ _ hc.bound h1 i _
  | set i x t => rw [step_set, flagsStep, ← hids]; exact fresh_writeAt vo _ _ hc.bound h1 i _
  | construct p =>
    rw [step_construct]
    apply cachedAt_construct vo _ hc.bound p h1
    intro j hj hf
    have hlen : (checkPid vo st).values.length = st.values.length := by
      simpa using congrArg List.length hc.params
    simp only [flagsStep] at hf
    rw [if_neg (by omega)] at hf
    exact hf

/-- every increment of the world history goes through a fresh object (`fl`: the freshness flags of the acting worker's
    objects at the start) -/
def wFresh (vo : VOps V) : St V → Flags → List (Ev V) → Bool
  | _, _, [] => true
  | st, fl, .op o :: r => opFresh st fl o && wFresh vo (step vo st o).1 (flagsStep st fl o) r
  | st, _, .spawn p :: r => wFresh vo (wstep vo st (.spawn p)).1 (fun _ => true) r
  | st, fl, .dead q :: r => wFresh vo (wstep vo st (.dead q)).1 fl r

/-- same conclusion as `wrun_cell`, under freshness -/
theorem wrun_cell_fresh (vo : VOps V) (pre : Str) (k : Key) (p : Str) (hp : '_' ∉ p) (evs : List (Ev V)) (st : St V)
    (fl : Flags) (hb : Bound st) (hfi : CachedAt vo st (fl · = true)) (hid : IdOK st) (hev : evsIdOK evs)
    (hf : wFresh vo st fl evs = true) :
    cellVal vo (wrun vo st evs).disk (fileName pre p) k
      = (wLog vo pre k st.pid st.actual (st.values.map (·.params)) evs).foldl
          (wOwnStep vo (isLiveFileOf p (fileName pre p)) p) (cellVal vo st.disk (fileName pre p) k) := by
  induction evs generalizing st fl with
  | nil => rfl
  | cons e r ih =>
    obtain ⟨he, hev'⟩ := List.forall_mem_cons.mp hev
    have hb1 := wstep_bound vo st e hb hid he
    have hid1 := wstep_idOK vo st e hb hid he
    have hform : ∀ o, e = .op o →
        cellVal vo (step vo st o).1.disk (fileName pre p) k = cellFormula vo st o (fileName pre p) k := by
      intro o ho
      subst ho
      simp only [wFresh, Bool.and_eq_true] at hf
      apply step_cell_sem vo st o hb
      intro i a e v hv
      subst e
      exact check_fresh vo st fl hb hfi i v hv hf.1
    rw [wrun_cons, wLog_cons vo pre k st hb e r, List.foldl_append, ← wstep_cell vo pre k p hp st hid e he hform]
    cases e with
    | spawn q => exact ih _ (fun _ => true) hb1 (cachedAt_no_values vo _ _ _ _ _) hid1 hev' hf
    | op o =>
      simp only [wFresh, Bool.and_eq_true] at hf
      exact ih _ _ hb1 (fresh_step vo st fl o hb hfi) hid1 hev' hf.2
    | dead q => exact ih _ fl hb1 (cachedAt_dead vo st hb hid q he hfi (fun _ _ hq => hq)) hid1 hev' hf

theorem wrun_cell_new (vo : VOps V) (q : Str) (hq : '_' ∉ q) (disk : List (Str × Store V)) (evs : List (Ev V))
    (hev : evsIdOK evs) (hu : wFresh vo ⟨q, [], [], disk, q⟩ (fun _ => true) evs = true) (pre : Str) (k : Key) (p : Str)
    (hp : '_' ∉ p) :
    cellVal vo (wrun vo ⟨q, [], [], disk, q⟩ evs).disk (fileName pre p) k
      = (wLog vo pre k q q [] evs).foldl (wOwnStep vo (isLiveFileOf p (fileName pre p)) p)
          (cellVal vo disk (fileName pre p) k) :=
  wrun_cell_fresh vo pre k p hp evs _ _ (bound_no_values _ _ _) (cachedAt_no_values vo _ _ _ _ _) ⟨hq, hq⟩ hev hu

theorem wrun_cell_init (vo : VOps V) (p0 : Str) (hp0 : '_' ∉ p0) (evs : List (Ev V)) (hev : evsIdOK evs)
    (hu : wFresh vo (St.init p0) (fun _ => true) evs = true) (pre : Str) (k : Key) (p : Str) (hp : '_' ∉ p) :
    cellVal vo (wrun vo (St.init p0) evs).disk (fileName pre p) k
      = (wLog vo pre k p0 p0 [] evs).foldl (wOwnStep vo (isLiveFileOf p (fileName pre p)) p) (vo.zero, vo.zero) :=
  wrun_cell_new vo p0 hp0 [] evs hev hu pre k p hp

/-- conservation over a world history: for a series whose files are not live-gauge files, the sum over all identities'
    files is the sum of all increments ever issued by all worker generations (deaths and pid reuse change nothing), in a
    commutative monoid, provided the series is only incremented -/
theorem wrun_sum (vo : VOps V) (hcomm : ∀ a b, vo.add a b = vo.add b a)
    (hassoc : ∀ a b c, vo.add (vo.add a b) c = vo.add a (vo.add b c)) (hzero : ∀ a, vo.add vo.zero a = a)
    (p0 : Str) (hp0 : '_' ∉ p0) (evs : List (Ev V)) (hev : evsIdOK evs)
    (hu : wFresh vo (St.init p0) (fun _ => true) evs = true)
    (pre : Str) (k : Key) (pids : List Str) (hnd : pids.Nodup) (hpids : ∀ p ∈ pids, '_' ∉ p)
    (hlive : ∀ p ∈ pids, isLiveFileOf p (fileName pre p) = false)
    (hinc : ∀ u ∈ wUpds (wLog vo pre k p0 p0 [] evs), ∃ q a, u = Upd.inc q a ∧ q ∈ pids) :
    aggSum vo (pids.map (fun p => (cellVal vo (wrun vo (St.init p0) evs).disk (fileName pre p) k).1))
      = incTotal vo (wUpds (wLog vo pre k p0 p0 [] evs)) := by
  rw [aggSum_cells vo hcomm hassoc pids hnd _ hinc _ (fun p hp => by
      rw [wrun_cell_init vo p0 hp0 evs hev hu pre k p (hpids p hp), hlive p hp, foldl_wOwn_nonlive]),
    aggSum_zeros vo hzero]
  rfl

theorem wFresh_append_spawn (vo : VOps V) (a b : List (Ev V)) (q : Str) (st : St V) (fl : Flags)
    (h : wFresh vo st fl (a ++ Ev.spawn q :: b) = true) :
    wFresh vo (wstep vo (wrun vo st a) (Ev.spawn q)).1 (fun _ => true) b = true := by
  induction a generalizing st fl with
  | nil => simpa [wFresh, wrun] using h
  | cons e r ih =>
    rw [wrun_cons]
    cases e with
    | op o =>
      simp only [List.cons_append, wFresh, Bool.and_eq_true] at h
      exact ih _ _ h.2
    | _ =>
      simp only [List.cons_append, wFresh] at h
      exact ih _ _ h

end PromVerif.Model.Values
