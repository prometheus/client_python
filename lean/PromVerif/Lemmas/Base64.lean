/-
URL-safe base64: the decoder of `Spec.Gateway` inverts the encoder of `Model.Gateway` on every byte string,
and the unpadded encoded text has none of `/ + % =`.
-/
import PromVerif.Model.Gateway
import PromVerif.Spec.Gateway
import PromVerif.Lemmas.Str

namespace PromVerif.Lemmas.Base64
open PromVerif.Py PromVerif.Model.Gateway PromVerif.Spec.Gateway

theorem b64Val_b64Char : ∀ n, n < 64 → b64Val (b64Char n) = some n := by decide +kernel

/-- characters of the unpadded encoding -/
def IsB64Char (c : Char) : Prop := c ≠ '/' ∧ c ≠ '+' ∧ c ≠ '%' ∧ c ≠ '='

/-- below 64 the character has a `b64Val` and these four have none; from 64 on it is `_` -/
theorem b64Char_ne (n : Nat) : IsB64Char (b64Char n) := by
  unfold IsB64Char
  by_cases h : n < 64
  · have ne {c : Char} (hc : b64Val c = none) : b64Char n ≠ c := by
      intro e
      have := b64Val_b64Char n h
      rw [e, hc] at this
      cases this
    exact ⟨ne (by decide), ne (by decide), ne (by decide), ne (by decide)⟩
  · have : b64Char n = '_' := by
      unfold b64Char
      rw [if_neg (by omega), if_neg (by omega), if_neg (by omega), if_neg (by omega)]
    rw [this]
    decide

/-- the unpadded encoding -/
def b64raw : Bytes → List Char
  | [] => []
  | [a] => [b64Char (a.toNat / 4), b64Char (a.toNat % 4 * 16)]
  | [a, b] => [b64Char (a.toNat / 4), b64Char (a.toNat % 4 * 16 + b.toNat / 16), b64Char (b.toNat % 16 * 4)]
  | a :: b :: c :: rest =>
    b64Char (a.toNat / 4) :: b64Char (a.toNat % 4 * 16 + b.toNat / 16) ::
    b64Char (b.toNat % 16 * 4 + c.toNat / 64) :: b64Char (c.toNat % 64) :: b64raw rest

/-- number of `=` signs Python appends -/
def padLen : Bytes → Nat
  | [] => 0
  | [_] => 2
  | [_, _] => 1
  | _ :: _ :: _ :: rest => padLen rest

theorem b64encode_eq_raw_pad (bs : Bytes) : b64encode bs = b64raw bs ++ List.replicate (padLen bs) '=' := by
  fun_induction b64encode bs with
  | case1 => rfl
  | case2 a => rfl
  | case3 a b => rfl
  | case4 a b c rest ih => simp [b64raw, padLen, ih]

theorem b64raw_chars (bs : Bytes) : ∀ c ∈ b64raw bs, IsB64Char c := by
  fun_induction b64raw bs with
  | case1 => simp
  | case2 a => simp [b64Char_ne]
  | case3 a b => simp [b64Char_ne]
  | case4 a b c rest ih => simpa [b64Char_ne] using ih

theorem mul_add_lt {k m r s : Nat} (hr : r < k) (hs : s < m) : r * m + s < k * m :=
  calc r * m + s < r * m + m := Nat.add_lt_add_left hs _
    _ = (r + 1) * m := (Nat.succ_mul r m).symm
    _ ≤ k * m := Nat.mul_le_mul_right m hr

theorem mul_add_div_mod (m r s : Nat) (hs : s < m) : (r * m + s) / m = r ∧ (r * m + s) % m = s := by
  rw [Nat.mul_comm, Nat.mul_add_div (by omega), Nat.mul_add_mod, Nat.div_eq_of_lt hs, Nat.mod_eq_of_lt hs]
  exact ⟨rfl, rfl⟩

/-- Stated on numbers: a tail of one or two bytes is the case `b = 0` or `c = 0`.  Each sextet is
`r * m + s` with `s < m`, so division and remainder by `m` just take it apart (`mul_add_div_mod`); this keeps `omega`
away from nested `/` and `%`, which it handles slowly. -/
theorem sextets (a b c : Nat) (ha : a < 256) (hb : b < 256) (hc : c < 256) :
    (a / 4 < 64 ∧ a % 4 * 16 + b / 16 < 64 ∧ b % 16 * 4 + c / 64 < 64 ∧ c % 64 < 64) ∧
    a / 4 * 4 + (a % 4 * 16 + b / 16) / 16 = a ∧
    (a % 4 * 16 + b / 16) % 16 * 16 + (b % 16 * 4 + c / 64) / 4 = b ∧
    (b % 16 * 4 + c / 64) % 4 * 64 + c % 64 = c := by
  have hs : b / 16 < 16 := Nat.div_lt_of_lt_mul hb
  have hu : c / 64 < 4 := Nat.div_lt_of_lt_mul hc
  obtain ⟨d1, m1⟩ := mul_add_div_mod 16 (a % 4) (b / 16) hs
  obtain ⟨d2, m2⟩ := mul_add_div_mod 4 (b % 16) (c / 64) hu
  rw [d1, m1, d2, m2]
  exact ⟨⟨Nat.div_lt_of_lt_mul ha, mul_add_lt (Nat.mod_lt _ (by decide)) hs, mul_add_lt (Nat.mod_lt _ (by decide)) hu,
    Nat.mod_lt _ (by decide)⟩, Nat.div_add_mod' a 4, Nat.div_add_mod' b 16, Nat.div_add_mod' c 64⟩

theorem b64rawDecode_b64raw (bs : Bytes) : b64rawDecode (b64raw bs) = some bs := by
  fun_induction b64raw bs with
  | case1 => rfl
  | case2 a =>
    obtain ⟨⟨h0, h1, _, _⟩, ea, _, _⟩ := sextets a.toNat 0 0 a.toNat_lt (by decide) (by decide)
    simp only [Nat.zero_div, Nat.add_zero] at h1 ea
    simp only [b64rawDecode, b64Val_b64Char _ h0, b64Val_b64Char _ h1, ea, UInt8.ofNat_toNat]
  | case3 a b =>
    obtain ⟨⟨h0, h1, h2, _⟩, ea, eb, _⟩ := sextets a.toNat b.toNat 0 a.toNat_lt b.toNat_lt (by decide)
    simp only [Nat.zero_div, Nat.add_zero] at h2 eb
    simp only [b64rawDecode, b64Val_b64Char _ h0, b64Val_b64Char _ h1, b64Val_b64Char _ h2, ea, eb, UInt8.ofNat_toNat]
  | case4 a b c rest ih =>
    obtain ⟨⟨h0, h1, h2, h3⟩, ea, eb, ec⟩ := sextets a.toNat b.toNat c.toNat a.toNat_lt b.toNat_lt c.toNat_lt
    simp only [b64rawDecode, b64Val_b64Char _ h0, b64Val_b64Char _ h1, b64Val_b64Char _ h2, b64Val_b64Char _ h3, ih,
      ea, eb, ec, UInt8.ofNat_toNat]

theorem rstripSet_replicate (p : Char → Bool) (c : Char) (n : Nat) (h : p c = true) :
    rstripSet p (List.replicate n c) = [] :=
  (rstripSet_eq_nil_iff p _).mpr (by simp [h])

theorem rstrip_b64encode (bs : Bytes) : rstripSet (fun c => c = '=') (b64encode bs) = b64raw bs := by
  rw [b64encode_eq_raw_pad, rstripSet_append_of_eq_nil _ _ _ (rstripSet_replicate _ _ _ (by simp))]
  apply rstripSet_of_last
  intro c hc
  have := (b64raw_chars bs c (List.mem_of_getLast? hc)).2.2.2
  simpa using this

end PromVerif.Lemmas.Base64
