/-
World histories (several worker generations on one directory, `mark_process_dead`, pid reuse): the invariant carried
across `spawn`/`dead`, and every cell of the directory as a fold over the world's log (`wrun_cell`).
The shape of the directory a world history leaves (`DiskOK`): every file is `<prefix of a constructed value>_<identity>.db`,
names pairwise different, every entry's key the `mmap_key` of a constructed value of the same prefix, keys pairwise
different inside a file — what lets the collector's reader be composed with the writer's bookkeeping.
Which entries EXIST after a world history (`wrun_has`; `cellVal` reads an absent entry as zero and cannot tell): an entry
of identity `p`'s file comes into being exactly when a value object with that key is constructed, or re-bound after an
identity change, while `p` is the acting identity — and a live-gauge file goes away with `mark_process_dead(p)`.
-/
import PromVerif.Lemmas.MultiprocessHistory

namespace PromVerif.Model.Values
open PromVerif.Py PromVerif.Generated.Multiprocess PromVerif.Model.Multiprocess
open PromVerif.Spec.Multiprocess (Upd)
set_option autoImplicit false

variable {V : Type}

theorem get?_filter_key {κ β : Type} [DecidableEq κ] (d : List (κ × β)) (p : κ → Bool) (k : κ) :
    AL.get? (d.filter (fun kv => p kv.1)) k = if p k = true then AL.get? d k else none := by
  induction d with
  | nil => simp
  | cons x r ih =>
    obtain ⟨k', v⟩ := x
    by_cases hp : p k' = true
    · simp only [List.filter_cons, hp, if_true, AL.get?_cons]
      by_cases hk : k' = k
      · subst hk; simp [hp]
      · simp only [hk, if_false]; exact ih
    · simp only [List.filter_cons, hp, Bool.false_eq_true, if_false, AL.get?_cons]
      by_cases hk : k' = k
      · subst hk; simp only [hp, Bool.false_eq_true, if_false]; rw [ih]; simp [hp]
      · simp only [hk, if_false]; exact ih

theorem file_deadDisk (q : Str) (disk : List (Str × Store V)) (fn : Str) :
    AL.get? (deadDisk q disk) fn = if isLiveFileOf q fn = true then none else AL.get? disk fn := by
  unfold deadDisk
  rw [get?_filter_key disk (fun fn => !isLiveFileOf q fn) fn]
  cases isLiveFileOf q fn <;> simp

theorem cellGet_deadDisk (q : Str) (disk : List (Str × Store V)) (fn : Str) (k : Key) :
    cellGet (deadDisk q disk) fn k = if isLiveFileOf q fn = true then none else cellGet disk fn k := by
  unfold cellGet
  rw [AL.getD_eq, file_deadDisk]
  split <;> rfl

theorem cellVal_deadDisk (vo : VOps V) (q : Str) (disk : List (Str × Store V)) (fn : Str) (k : Key) :
    cellVal vo (deadDisk q disk) fn k = if isLiveFileOf q fn = true then (vo.zero, vo.zero) else cellVal vo disk fn k := by
  unfold cellVal
  rw [cellGet_deadDisk]
  split <;> rfl

theorem deadName_fileName (m pid : Str) : Multiprocess.deadName m pid = fileName (gaugeType ++ gaugePrefixSep ++ m) pid := by
  simp [Multiprocess.deadName, deadNameParts, fileName, fileNameParts, gaugeType, gaugePrefixSep]

theorem isLiveFileOf_foreign (q pre p : Str) (hq : '_' ∉ q) (hp : '_' ∉ p) (hne : p ≠ q) :
    isLiveFileOf q (fileName pre p) = false := by
  apply Bool.eq_false_iff.mpr
  intro h
  unfold isLiveFileOf at h
  rw [List.any_eq_true] at h
  obtain ⟨m, _, hm⟩ := h
  have := of_decide_eq_true hm
  rw [deadName_fileName] at this
  exact hne (fileName_inj _ _ _ _ hp hq this).2

theorem isLiveFileOf_eq (q pre p : Str) (hq : '_' ∉ q) (hp : '_' ∉ p) :
    isLiveFileOf q (fileName pre p) = (decide (q = p) && isLiveFileOf p (fileName pre p)) := by
  by_cases e : q = p
  · subst e; simp
  · simp [isLiveFileOf_foreign q pre p hq hp (Ne.symm e), e]

/-- identities are free of `_` -/
def IdOK (st : St V) : Prop := '_' ∉ st.pid ∧ '_' ∉ st.actual

def evIdOK : Ev V → Prop
  | .spawn p => '_' ∉ p
  | .dead q => '_' ∉ q
  | .op (.setPid p) => '_' ∉ p
  | _ => True

instance (e : Ev V) : Decidable (evIdOK e) := by
  unfold evIdOK; split <;> infer_instance

theorem wstep_idOK (vo : VOps V) (st : St V) (e : Ev V) (hb : Bound st) (h : IdOK st) (he : evIdOK e) :
    IdOK (wstep vo st e).1 := by
  cases e with
  | spawn p => exact ⟨he, he⟩
  | dead q =>
    simp only [wstep]
    split <;> exact h
  | op o =>
    have := step_pid vo st o hb
    simp only [wstep]
    unfold IdOK
    rw [this.1, this.2]
    cases o with
    | setPid p => exact ⟨h.1, he⟩
    | _ => exact ⟨h.2, h.2⟩

/-- what a world event must respect: a call updates only through the youngest value object on its (prefix, key) -/
def EvOK (st : St V) : Ev V → Prop
  | .op o => OpOK (idsOf st) o
  | _ => True

theorem own_files_not_live (st : St V) (hb : Bound st) (hid : IdOK st) (q : Str) (hq : '_' ∉ q) (hne : q ≠ st.pid) :
    ∀ v ∈ st.values, isLiveFileOf q v.file = false := by
  intro v hv
  rw [(hb.bound v hv).2]
  exact isLiveFileOf_foreign q _ st.pid hq hid.1 (Ne.symm hne)

theorem bound_no_values (pid actual : Str) (disk : List (Str × Store V)) : Bound (⟨pid, [], [], disk, actual⟩ : St V) :=
  ⟨filesOK_nil _, (fun v hv => by cases hv), (fun v hv => by cases hv)⟩

theorem wstep_bound (vo : VOps V) (st : St V) (e : Ev V) (hb : Bound st) (hid : IdOK st) (he : evIdOK e) :
    Bound (wstep vo st e).1 := by
  cases e with
  | op o => exact step_bound vo st o hb
  | spawn p => exact bound_no_values _ _ _
  | dead q =>
    simp only [wstep]
    split
    · exact bound_no_values _ _ _
    · next hne =>
      refine ⟨hb.files, hb.bound, ?_⟩
      intro v hv
      show (cellGet (deadDisk q st.disk) v.file v.key).isSome = true
      rw [cellGet_deadDisk, own_files_not_live st hb hid q he (fun e => hne (Or.inl e)) v hv]
      exact hb.exist v hv

/-- `mark_process_dead(q)` drops the acting worker's objects if `q` is one of its identities, and otherwise removes none of
    its files: the fourth member of the family `cachedAt_check` / `cachedAt_writeAt` / `cachedAt_construct` -/
theorem cachedAt_dead (vo : VOps V) (st : St V) (hb : Bound st) (hid : IdOK st) (q : Str) (hq : '_' ∉ q) {P Q : Nat → Prop}
    (h : CachedAt vo st P) (hQ : ¬(q = st.pid ∨ q = st.actual) → ∀ i, Q i → P i) :
    CachedAt vo (wstep vo st (.dead q)).1 Q := by
  simp only [wstep]
  split
  · exact cachedAt_no_values vo _ _ _ _ _
  · next hne =>
    intro i v hv hqi
    show cellVal vo (deadDisk q st.disk) v.file v.key = _
    rw [cellVal_deadDisk, own_files_not_live st hb hid q hq (fun e => hne (Or.inl e)) v (List.mem_of_getElem? hv)]
    exact h i v hv (hQ hne i hqi)

theorem wstep_inv (vo : VOps V) (st : St V) (e : Ev V) (h : Inv vo st) (hid : IdOK st) (he : evIdOK e)
    (hu : EvOK st e) : Inv vo (wstep vo st e).1 := by
  cases e with
  | op o => exact step_inv vo st o h hu
  | spawn p => exact ⟨bound_no_values _ _ _, cachedAt_no_values vo _ _ _ _ _⟩
  | dead q =>
    refine ⟨wstep_bound vo st (.dead q) h.bound hid he, cachedAt_dead vo st h.bound hid q he h.cached ?_⟩
    intro hne i hl
    simp only [wstep, if_neg hne] at hl
    exact hl

/-- at every point of the world history, the acting worker updates only through the youngest value object on each
    (prefix, key) — stale objects (dropped children, shadowed metrics) may exist, they must not be updated -/
def WUniq (vo : VOps V) : St V → List (Ev V) → Prop
  | _, [] => True
  | st, e :: r => EvOK st e ∧ WUniq vo (wstep vo st e).1 r

theorem wrun_cons (vo : VOps V) (st : St V) (e : Ev V) (r : List (Ev V)) :
    wrun vo st (e :: r) = wrun vo (wstep vo st e).1 r := rfl

theorem wrun_append (vo : VOps V) (st : St V) (a b : List (Ev V)) :
    wrun vo st (a ++ b) = wrun vo (wrun vo st a) b :=
  List.foldl_append

def evsIdOK (evs : List (Ev V)) : Prop := ∀ e ∈ evs, evIdOK e

instance (evs : List (Ev V)) : Decidable (evsIdOK evs) := by
  unfold evsIdOK; infer_instance

theorem wrun_inv (vo : VOps V) (evs : List (Ev V)) (st : St V) (h : Inv vo st) (hid : IdOK st) (hev : evsIdOK evs)
    (hu : WUniq vo st evs) : Inv vo (wrun vo st evs) ∧ IdOK (wrun vo st evs) := by
  induction evs generalizing st with
  | nil => exact ⟨h, hid⟩
  | cons e r ih =>
    rw [wrun_cons]
    obtain ⟨he, hev'⟩ := List.forall_mem_cons.mp hev
    exact ih _ (wstep_inv vo st e h hid he hu.1) (wstep_idOK vo st e h.bound hid he) hev' hu.2

theorem wuniq_append (vo : VOps V) (a b : List (Ev V)) (st : St V) (h : WUniq vo st (a ++ b)) :
    WUniq vo st a ∧ WUniq vo (wrun vo st a) b := by
  induction a generalizing st with
  | nil => exact ⟨trivial, h⟩
  | cons e r ih =>
    have := ih _ h.2
    exact ⟨⟨h.1, this.1⟩, this.2⟩

/-! ### executable forms of the hypotheses (for concrete histories) -/

def isLastB (ids : List (Str × Key)) (i : Nat) : Bool := (ids.drop (i + 1)).all (fun a => decide (ids[i]? ≠ some a))

theorem isLastB_sound (ids : List (Str × Key)) (i : Nat) (h : isLastB ids i = true) : IsLast ids i := by
  intro j a hij hj
  unfold isLastB at h
  rw [List.all_eq_true] at h
  have hmem : a ∈ ids.drop (i + 1) := by
    apply List.mem_of_getElem? (i := j - (i + 1))
    rw [List.getElem?_drop, show i + 1 + (j - (i + 1)) = j by omega]
    exact hj
  exact of_decide_eq_true (h a hmem)

def opOKB (ids : List (Str × Key)) : Op V → Bool
  | .inc i _ => isLastB ids i
  | .set i _ _ => isLastB ids i
  | _ => true

theorem opOKB_sound (ids : List (Str × Key)) (o : Op V) (h : opOKB ids o = true) : OpOK ids o := by
  cases o <;> first | trivial | exact isLastB_sound _ _ h

def opsOKB : List (Str × Key) → List (Op V) → Bool
  | _, [] => true
  | ids, o :: r => opOKB ids o && opsOKB (ids ++ (newParams o).map idOf) r

theorem opsOKB_sound (ops : List (Op V)) (ids : List (Str × Key)) (h : opsOKB ids ops = true) : OpsOK ids ops := by
  induction ops generalizing ids with
  | nil => trivial
  | cons o r ih =>
    simp only [opsOKB, Bool.and_eq_true] at h
    exact ⟨opOKB_sound ids o h.1, ih _ h.2⟩

def wUniqB (vo : VOps V) : St V → List (Ev V) → Bool
  | _, [] => true
  | st, e :: r => (match e with | .op o => opOKB (idsOf st) o | _ => true) && wUniqB vo (wstep vo st e).1 r

theorem wUniqB_sound (vo : VOps V) (evs : List (Ev V)) (st : St V) (h : wUniqB vo st evs = true) : WUniq vo st evs := by
  induction evs generalizing st with
  | nil => trivial
  | cons e r ih =>
    simp only [wUniqB, Bool.and_eq_true] at h
    refine ⟨?_, ih _ h.2⟩
    cases e with
    | op o => exact opOKB_sound _ o h.1
    | _ => trivial

/-- an entry of the world log: an update under some identity, or a death -/
inductive WUpd (V : Type)
  | upd (u : Upd V)
  | dead (q : Str)

/-- log state: remembered identity, current identity, parameters of the acting worker's value objects -/
def wLog (vo : VOps V) (pre : Str) (k : Key) : Str → Str → List Params → List (Ev V) → List (WUpd V)
  | _, _, _, [] => []
  | rem, cur, ps, .op o :: r =>
    (updLog vo pre k cur ps [o]).map WUpd.upd ++
      wLog vo pre k (match o with | .setPid _ => rem | _ => cur) (nextActual cur o) (ps ++ newParams o) r
  | _, _, _, .spawn p :: r => wLog vo pre k p p [] r
  | rem, cur, ps, .dead q :: r =>
    WUpd.dead q :: wLog vo pre k rem cur (if q = rem ∨ q = cur then [] else ps) r

/-- one log entry seen from identity `p`'s cell of a file whose prefix is (`live = true`) or is not a live-gauge prefix -/
def wOwnStep (vo : VOps V) (live : Bool) (p : Str) (cell : V × V) : WUpd V → V × V
  | .upd u => ownStep vo p cell u
  | .dead q => if q = p ∧ live = true then (vo.zero, vo.zero) else cell

theorem foldl_map_upd (vo : VOps V) (live : Bool) (p : Str) (us : List (Upd V)) (cell : V × V) :
    (us.map WUpd.upd).foldl (wOwnStep vo live p) cell = us.foldl (ownStep vo p) cell :=
  List.foldl_map

theorem wstep_dead (vo : VOps V) (st : St V) (q : Str) :
    (wstep vo st (.dead q)).1.pid = st.pid ∧ (wstep vo st (.dead q)).1.actual = st.actual ∧
    (wstep vo st (.dead q)).1.disk = deadDisk q st.disk ∧
    (wstep vo st (.dead q)).1.values = if q = st.pid ∨ q = st.actual then [] else st.values := by
  simp only [wstep]
  split <;> exact ⟨rfl, rfl, rfl, rfl⟩

theorem wLog_cons (vo : VOps V) (pre : Str) (k : Key) (st : St V) (hb : Bound st) (e : Ev V) (r : List (Ev V)) :
    wLog vo pre k st.pid st.actual (st.values.map (·.params)) (e :: r)
      = wLog vo pre k st.pid st.actual (st.values.map (·.params)) [e]
        ++ wLog vo pre k (wstep vo st e).1.pid (wstep vo st e).1.actual ((wstep vo st e).1.values.map (·.params)) r := by
  cases e with
  | spawn q => rfl
  | op o =>
    simp only [wstep, wLog, List.append_nil]
    rw [step_params vo st o hb, step_actual vo st o hb, (step_pid vo st o hb).2]
    cases o <;> rfl
  | dead q =>
    obtain ⟨h1, h2, _, h4⟩ := wstep_dead vo st q
    rw [h1, h2, h4]
    simp only [wLog, List.cons_append, List.nil_append]
    split <;> rfl

theorem wstep_cell (vo : VOps V) (pre : Str) (k : Key) (p : Str) (hp : '_' ∉ p) (st : St V) (hid : IdOK st) (e : Ev V)
    (he : evIdOK e)
    (hform : ∀ o, e = .op o →
      cellVal vo (step vo st o).1.disk (fileName pre p) k = cellFormula vo st o (fileName pre p) k) :
    cellVal vo (wstep vo st e).1.disk (fileName pre p) k
      = (wLog vo pre k st.pid st.actual (st.values.map (·.params)) [e]).foldl
          (wOwnStep vo (isLiveFileOf p (fileName pre p)) p) (cellVal vo st.disk (fileName pre p) k) := by
  cases e with
  | spawn q => rfl
  | op o =>
    simp only [wstep, wLog, List.append_nil, foldl_map_upd]
    rw [hform o rfl, op_cell_log vo pre k p hp st o hid.2]
  | dead q =>
    rw [(wstep_dead vo st q).2.2.1, cellVal_deadDisk, isLiveFileOf_eq q pre p he hp]
    simp only [wLog, List.foldl_cons, List.foldl_nil, wOwnStep, Bool.and_eq_true, decide_eq_true_eq]

theorem wrun_cell (vo : VOps V) (pre : Str) (k : Key) (p : Str) (hp : '_' ∉ p) (evs : List (Ev V)) (st : St V)
    (h : Inv vo st) (hid : IdOK st) (hev : evsIdOK evs) (hu : WUniq vo st evs) :
    cellVal vo (wrun vo st evs).disk (fileName pre p) k
      = (wLog vo pre k st.pid st.actual (st.values.map (·.params)) evs).foldl
          (wOwnStep vo (isLiveFileOf p (fileName pre p)) p) (cellVal vo st.disk (fileName pre p) k) := by
  induction evs generalizing st with
  | nil => rfl
  | cons e r ih =>
    obtain ⟨he, hev'⟩ := List.forall_mem_cons.mp hev
    rw [wrun_cons, ih _ (wstep_inv vo st e h hid he hu.1) (wstep_idOK vo st e h.bound hid he) hev' hu.2,
      wLog_cons vo pre k st h.bound e r, List.foldl_append,
      wstep_cell vo pre k p hp st hid e he (fun o ho => by subst ho; exact step_cell_inv vo st o h hu.1 _ _)]

/-- for a file that is not a live-gauge file, deaths are invisible: the cell is the fold of the updates alone -/
def wUpds : List (WUpd V) → List (Upd V)
  | [] => []
  | .upd u :: r => u :: wUpds r
  | .dead _ :: r => wUpds r

theorem foldl_wOwn_nonlive (vo : VOps V) (p : Str) (log : List (WUpd V)) (cell : V × V) :
    log.foldl (wOwnStep vo false p) cell = (wUpds log).foldl (ownStep vo p) cell := by
  induction log generalizing cell with
  | nil => rfl
  | cons x r ih =>
    cases x with
    | upd u => simp only [List.foldl_cons, wOwnStep, wUpds]; exact ih _
    | dead q => simp only [List.foldl_cons, wOwnStep, wUpds, Bool.false_eq_true, and_false, if_false]; exact ih _

theorem AL.mem_set {κ β : Type} [DecidableEq κ] (d : List (κ × β)) (k : κ) (v : β) (x : κ × β)
    (h : x ∈ AL.set d k v) : x ∈ d ∨ x = (k, v) := by
  induction d with
  | nil => simp [AL.set] at h; exact Or.inr h
  | cons y r ih =>
    obtain ⟨k', v'⟩ := y
    by_cases hk : k' = k
    · simp only [AL.set, hk, if_true, List.mem_cons] at h
      rcases h with h | h
      · exact Or.inr (hk ▸ h)
      · exact Or.inl (List.mem_cons_of_mem _ h)
    · simp only [AL.set, hk, if_false, List.mem_cons] at h
      rcases h with h | h
      · exact Or.inl (h ▸ List.mem_cons_self)
      · exact (ih h).imp_left (List.mem_cons_of_mem _)

/-- what one store of prefix `pre` may hold -/
def StoreOK (PS : List Params) (pre : Str) (s : Store V) : Prop :=
  (AL.keys s).Nodup ∧ ∀ e ∈ s, ∃ q' ∈ PS, e.1 = mmapKey q' ∧ filePrefix q' = pre

structure DiskOK (PS : List Params) (disk : List (Str × Store V)) : Prop where
  names : (AL.keys disk).Nodup
  files : ∀ f ∈ disk, ∃ q ∈ PS, ∃ pid, '_' ∉ pid ∧ f.1 = fileName (filePrefix q) pid ∧ StoreOK PS (filePrefix q) f.2

theorem diskOK_nil (PS : List Params) : DiskOK (V := V) PS [] := ⟨List.nodup_nil, fun f hf => by cases hf⟩

theorem storeOK_nil (PS : List Params) (pre : Str) : StoreOK (V := V) PS pre [] :=
  ⟨List.nodup_nil, fun e he => by cases he⟩

theorem storeOK_set (PS : List Params) (q : Params) (hq : q ∈ PS) (s : Store V) (h : StoreOK PS (filePrefix q) s)
    (x : V × V) : StoreOK PS (filePrefix q) (AL.set s (mmapKey q) x) := by
  refine ⟨AL.nodup_set _ _ _ h.1, ?_⟩
  intro e he
  rcases AL.mem_set _ _ _ _ he with h' | h'
  · exact h.2 e h'
  · exact ⟨q, hq, by rw [h'], rfl⟩

section
variable (vo : VOps V) (PS : List Params) (disk : List (Str × Store V)) (h : DiskOK PS disk) (q : Params) (hq : q ∈ PS)
  (pid : Str) (hpid : '_' ∉ pid)
include h hpid

theorem diskOK_getD : StoreOK PS (filePrefix q) (AL.getD disk (fileName (filePrefix q) pid) []) := by
  rw [AL.getD_eq]
  cases hg : AL.get? disk (fileName (filePrefix q) pid) with
  | none => exact storeOK_nil PS _
  | some s =>
    have hm := AL.mem_of_get? _ _ _ hg
    obtain ⟨q0, _, pid0, hp0, hn, hs⟩ := h.files _ hm
    have := (fileName_inj _ _ _ _ hpid hp0 hn).1
    simp only [Option.getD_some]
    rw [this]; exact hs

include hq

theorem diskOK_set (s : Store V) (hs : StoreOK PS (filePrefix q) s) :
    DiskOK PS (AL.set disk (fileName (filePrefix q) pid) s) := by
  refine ⟨AL.nodup_set _ _ _ h.names, ?_⟩
  intro f hf
  rcases AL.mem_set _ _ _ _ hf with h' | h'
  · exact h.files f h'
  · exact ⟨q, hq, pid, hpid, by rw [h'], by rw [h']; exact hs⟩

theorem diskOK_openFile : DiskOK PS (openFile disk (fileName (filePrefix q) pid)) := by
  unfold openFile
  cases AL.get? disk (fileName (filePrefix q) pid) with
  | some s => exact h
  | none => exact diskOK_set PS disk h q hq pid hpid [] (storeOK_nil PS _)

theorem diskOK_set_cell (x : V × V) :
    DiskOK PS (AL.set disk (fileName (filePrefix q) pid) (AL.set (AL.getD disk (fileName (filePrefix q) pid) []) (mmapKey q) x)) :=
  diskOK_set PS disk h q hq pid hpid _ (storeOK_set PS q hq _ (diskOK_getD PS disk h q pid hpid) _)

theorem diskOK_writeValue (v t : V) : DiskOK PS (writeValue disk (fileName (filePrefix q) pid) (mmapKey q) v t) :=
  diskOK_set_cell PS disk h q hq pid hpid _

theorem diskOK_readValue : DiskOK PS (readValue vo disk (fileName (filePrefix q) pid) (mmapKey q)).2 := by
  rw [readValue_eq]
  cases cellGet disk (fileName (filePrefix q) pid) (mmapKey q) with
  | some vt => exact h
  | none => exact diskOK_writeValue PS disk h q hq pid hpid _ _

end

theorem diskOK_reset (vo : VOps V) (PS : List Params) (pid : Str) (hpid : '_' ∉ pid) (files : List (Str × Str))
    (disk : List (Str × Store V)) (hf : FilesOK pid files) (h : DiskOK PS disk) (q : Params) (hq : q ∈ PS) :
    DiskOK PS (reset vo pid files disk q).2.2 := by
  cases hg : AL.get? files (filePrefix q) with
  | some fn0 =>
    rw [reset_some vo pid files disk q fn0 hg, hf _ _ hg]
    exact diskOK_readValue vo PS disk h q hq pid hpid
  | none =>
    rw [reset_none vo pid files disk q hg]
    exact diskOK_readValue vo PS _ (diskOK_openFile PS disk h q hq pid hpid) q hq pid hpid

theorem diskOK_resetAll (vo : VOps V) (PS : List Params) (pid : Str) (hpid : '_' ∉ pid) (vs : List (ValueObj V))
    (hvs : ∀ v ∈ vs, v.params ∈ PS) (files : List (Str × Str)) (disk : List (Str × Store V)) (hf : FilesOK pid files)
    (h : DiskOK PS disk) : DiskOK PS (resetAll vo pid vs files disk).2.2 := by
  induction vs generalizing files disk with
  | nil => exact h
  | cons v r ih =>
    obtain ⟨hv, hr⟩ := List.forall_mem_cons.mp hvs
    simp only [resetAll]
    exact ih hr _ _ (reset_post vo pid files disk v.params hf).files (diskOK_reset vo PS pid hpid files disk hf h v.params hv)

/-- the part of the state invariant about the directory's shape: the parameters of every value object are among `PS` -/
structure WInv (PS : List Params) (st : St V) : Prop where
  disk : DiskOK PS st.disk
  known : ∀ q ∈ st.values.map (·.params), q ∈ PS

theorem winv_check (vo : VOps V) (PS : List Params) (st : St V) (hb : Bound st) (hid : IdOK st) (h : WInv PS st) :
    WInv PS (checkPid vo st) := by
  refine ⟨?_, fun q hq => h.known q ((checkPid_post vo st hb).params ▸ hq)⟩
  by_cases hp : st.pid = st.actual
  · rw [checkPid_same vo st hp]; exact h.disk
  · unfold checkPid
    simp only [ne_eq, hp, not_false_eq_true, if_true]
    exact diskOK_resetAll vo PS st.actual hid.2 st.values (List.forall_mem_map.mp h.known) [] st.disk (filesOK_nil _) h.disk

theorem diskOK_writeAt (PS : List Params) (st : St V) (hb : Bound st) (hpid : '_' ∉ st.pid) (h : WInv PS st) (i : Nat)
    (w : ValueObj V → V × V) : DiskOK PS (writeAt st i w).disk := by
  unfold writeAt
  cases hv : st.values[i]? with
  | none => exact h.disk
  | some v =>
    have hmv : v ∈ st.values := List.mem_of_getElem? hv
    have hbv := hb.bound v hmv
    show DiskOK PS (writeValue _ v.file v.key _ _)
    rw [hbv.1, hbv.2]
    exact diskOK_writeValue PS _ h.disk v.params (h.known _ (List.mem_map_of_mem hmv)) _ hpid _ _

def evKnown (PS : List Params) : Ev V → Prop
  | .op (.construct p) => p ∈ PS
  | _ => True

instance (PS : List Params) (e : Ev V) : Decidable (evKnown PS e) := by
  unfold evKnown; split <;> infer_instance

theorem winv_wstep (vo : VOps V) (PS : List Params) (st : St V) (e : Ev V) (hb : Bound st) (hid : IdOK st)
    (hk : evKnown PS e) (h : WInv PS st) : WInv PS (wstep vo st e).1 := by
  cases e with
  | spawn p => exact ⟨h.disk, fun q hq => by cases hq⟩
  | dead q =>
    have hd : DiskOK PS (deadDisk q st.disk) := by
      unfold deadDisk
      refine ⟨?_, fun f hf => h.disk.files f (List.mem_filter.mp hf).1⟩
      exact List.Nodup.sublist ((List.filter_sublist).map _) h.disk.names
    simp only [wstep]
    split
    · exact ⟨hd, fun q hq => by cases hq⟩
    · exact ⟨hd, h.known⟩
  | op o =>
    have hc := checkPid_post vo st hb
    have h1 := winv_check vo PS st hb hid h
    have hpid1 : '_' ∉ (checkPid vo st).pid := by rw [hc.pid]; exact hid.2
    refine ⟨?_, ?_⟩
    · cases o with
      | setPid p => exact h.disk
      | get i => exact h1.disk
      | inc i a => simp only [wstep]; rw [step_inc]; exact diskOK_writeAt PS _ hc.bound hpid1 h1 i _
      | set i x t => simp only [wstep]; rw [step_set]; exact diskOK_writeAt PS _ hc.bound hpid1 h1 i _
      | construct p =>
        simp only [wstep, step]
        exact diskOK_reset vo PS _ hpid1 _ _ hc.bound.files h1.disk p hk
    · simp only [wstep]
      rw [step_params vo st o hb]
      refine List.forall_mem_append.mpr ⟨h.known, ?_⟩
      cases o with
      | construct p => exact List.forall_mem_singleton.mpr hk
      | _ => exact fun _ e => by cases e

theorem wrun_diskOK (vo : VOps V) (PS : List Params) (evs : List (Ev V)) (st : St V) (hb : Bound st) (hid : IdOK st)
    (h : WInv PS st) (hev : evsIdOK evs) (hk : ∀ e ∈ evs, evKnown PS e) :
    WInv PS (wrun vo st evs) := by
  induction evs generalizing st with
  | nil => exact h
  | cons e r ih =>
    rw [wrun_cons]
    obtain ⟨he, hev'⟩ := List.forall_mem_cons.mp hev
    obtain ⟨hke, hk'⟩ := List.forall_mem_cons.mp hk
    exact ih _ (wstep_bound vo st e hb hid he) (wstep_idOK vo st e hb hid he) (winv_wstep vo PS st e hb hid hke h) hev' hk'

theorem wrun_init_diskOK (vo : VOps V) (PS : List Params) (p0 : Str) (hp0 : '_' ∉ p0) (evs : List (Ev V))
    (hev : evsIdOK evs) (hk : ∀ e ∈ evs, evKnown PS e) : DiskOK PS (wrun vo (St.init p0) evs).disk :=
  (wrun_diskOK vo PS evs (St.init p0) (bound_init p0) ⟨hp0, hp0⟩ ⟨diskOK_nil PS, fun v hv => by cases hv⟩ hev hk).disk

/-- the entry exists -/
def has (disk : List (Str × Store V)) (fn : Str) (k : Key) : Bool := (cellGet disk fn k).isSome

theorem has_openFile (disk : List (Str × Store V)) (fn fn' : Str) (k : Key) : has (openFile disk fn) fn' k = has disk fn' k := by
  unfold has; rw [cellGet_openFile]

theorem has_writeValue (disk : List (Str × Store V)) (fn fn' : Str) (k0 k : Key) (v t : V) :
    has (writeValue disk fn k0 v t) fn' k = (has disk fn' k || decide (fn = fn' ∧ k0 = k)) := by
  unfold has
  rw [cellGet_writeValue]
  by_cases h : fn = fn' ∧ k0 = k <;> simp [h]

theorem has_readValue (vo : VOps V) (disk : List (Str × Store V)) (fn fn' : Str) (k0 k : Key) :
    has (readValue vo disk fn k0).2 fn' k = (has disk fn' k || decide (fn = fn' ∧ k0 = k)) := by
  rw [readValue_eq]
  cases hg : cellGet disk fn k0 with
  | none => exact has_writeValue disk fn fn' k0 k _ _
  | some vt =>
    by_cases h : fn = fn' ∧ k0 = k
    · simp [has, ← h.1, ← h.2, hg]
    · simp [h]

/-- `<prefix>_<pid>.db` determines prefix and identity (`owns_iff`), so what `__reset` creates is said by identity and
    (prefix, key) — the terms of `opTouch` -/
theorem has_reset (vo : VOps V) (pid : Str) (hpid : '_' ∉ pid) (files : List (Str × Str)) (disk : List (Str × Store V))
    (q : Params) (hf : FilesOK pid files) (pre p : Str) (k : Key) (hp : '_' ∉ p) :
    has (reset vo pid files disk q).2.2 (fileName pre p) k
      = (has disk (fileName pre p) k || (decide (pid = p) && decide (idOf q = (pre, k)))) := by
  rw [← Bool.decide_and, ← decide_eq_decide.mpr (owns_iff pid pre p k q hpid hp)]
  cases hg : AL.get? files (filePrefix q) with
  | some fn0 =>
    rw [reset_some vo pid files disk q fn0 hg, hf _ _ hg]
    exact has_readValue vo disk _ _ _ k
  | none =>
    rw [reset_none vo pid files disk q hg]
    simp only
    rw [has_readValue, has_openFile]

theorem has_resetAll (vo : VOps V) (pid : Str) (hpid : '_' ∉ pid) (vs : List (ValueObj V)) (files : List (Str × Str))
    (disk : List (Str × Store V)) (hf : FilesOK pid files) (pre p : Str) (k : Key) (hp : '_' ∉ p) :
    has (resetAll vo pid vs files disk).2.2 (fileName pre p) k
      = (has disk (fileName pre p) k || (decide (pid = p) && decide ((pre, k) ∈ vs.map (fun v => idOf v.params)))) := by
  induction vs generalizing files disk with
  | nil => simp [resetAll]
  | cons v r ih =>
    simp only [resetAll, List.map_cons, List.mem_cons, Bool.decide_or]
    rw [ih _ _ (reset_post vo pid files disk v.params hf).files, has_reset vo pid hpid files disk v.params hf pre p k hp,
      Bool.or_assoc, ← Bool.and_or_distrib_left, decide_eq_decide.mpr (eq_comm (a := idOf v.params))]

theorem has_checkPid (vo : VOps V) (st : St V) (hact : '_' ∉ st.actual) (pre p : Str) (k : Key) (hp : '_' ∉ p) :
    has (checkPid vo st).disk (fileName pre p) k
      = (has st.disk (fileName pre p) k ||
          (decide (st.actual = p) && decide (st.pid ≠ st.actual) && decide ((pre, k) ∈ idsOf st))) := by
  by_cases h : st.pid = st.actual
  · rw [checkPid_same vo st h]; simp [h]
  · unfold checkPid
    simp only [ne_eq, h, not_false_eq_true, if_true, decide_true, Bool.and_true]
    exact has_resetAll vo st.actual hact st.values [] st.disk (filesOK_nil _) pre p k hp

/-- a write creates nothing: the written object's entry exists already -/
theorem has_writeAt (st : St V) (hb : Bound st) (i : Nat) (w : ValueObj V → V × V) (fn : Str) (k : Key) :
    has (writeAt st i w).disk fn k = has st.disk fn k := by
  unfold writeAt
  cases hv : st.values[i]? with
  | none => rfl
  | some v =>
    show has (writeValue _ v.file v.key _ _) fn k = _
    rw [has_writeValue]
    by_cases h : v.file = fn ∧ v.key = k
    · simp [has, ← h.1, ← h.2, hb.exist v (List.mem_of_getElem? hv)]
    · simp [h]

theorem has_deadDisk (q : Str) (disk : List (Str × Store V)) (fn : Str) (k : Key) :
    has (deadDisk q disk) fn k = (has disk fn k && !isLiveFileOf q fn) := by
  unfold has
  rw [cellGet_deadDisk]
  cases isLiveFileOf q fn <;> simp

/-- does a call of the acting worker (remembered identity `rem`, current identity `cur`, value objects with (prefix,
    key) `ids`) bring the entry `(pre, k)` of identity `p` into being? -/
def opTouch (pre : Str) (k : Key) (p : Str) (rem cur : Str) (ids : List (Str × Key)) : Op V → Bool
  | .setPid _ => false
  | .construct q => decide (cur = p) && ((decide (rem ≠ cur) && decide ((pre, k) ∈ ids)) || decide (idOf q = (pre, k)))
  | _ => decide (cur = p) && decide (rem ≠ cur) && decide ((pre, k) ∈ ids)

/-- presence of identity `p`'s entry of series `(pre, k)` along a world history (`live`: the file is a live-gauge file) -/
def wPresent (pre : Str) (k : Key) (p : Str) (live : Bool) : Str → Str → List (Str × Key) → List (Ev V) → Bool → Bool
  | _, _, _, [], b => b
  | rem, cur, ids, .op o :: r, b =>
    wPresent pre k p live (match o with | .setPid _ => rem | _ => cur) (nextActual cur o) (ids ++ (newParams o).map idOf) r
      (b || opTouch pre k p rem cur ids o)
  | _, _, _, .spawn q :: r, b => wPresent pre k p live q q [] r b
  | rem, cur, ids, .dead q :: r, b =>
    wPresent pre k p live rem cur (if q = rem ∨ q = cur then [] else ids) r (b && !(decide (q = p) && live))

/-- the entries one call brings into being: those of every value object re-bound by the identity check (if the identity
    changed), and that of a newly constructed one — under the CURRENT identity; a write creates nothing -/
theorem has_step (vo : VOps V) (st : St V) (op : Op V) (hb : Bound st) (hid : IdOK st) (pre p : Str) (k : Key)
    (hp : '_' ∉ p) :
    has (step vo st op).1.disk (fileName pre p) k
      = (has st.disk (fileName pre p) k || opTouch pre k p st.pid st.actual (idsOf st) op) := by
  have hc := checkPid_post vo st hb
  have hR := has_checkPid vo st hid.2 pre p k hp
  have hpid1 : '_' ∉ (checkPid vo st).pid := by rw [hc.pid]; exact hid.2
  cases op with
  | setPid q => simp [step, opTouch]
  | get i => exact hR
  | inc i a => rw [step_inc, has_writeAt _ hc.bound]; exact hR
  | set i x t => rw [step_set, has_writeAt _ hc.bound]; exact hR
  | construct q =>
    simp only [step, opTouch]
    rw [has_reset vo _ hpid1 _ _ q hc.bound.files pre p k hp, hR, hc.pid, Bool.or_assoc, Bool.and_or_distrib_left,
      Bool.and_assoc]

/-- which entries exist after a world history; needs no uniqueness assumption -/
theorem wrun_has (vo : VOps V) (pre : Str) (k : Key) (p : Str) (hp : '_' ∉ p) (evs : List (Ev V)) (st : St V)
    (hb : Bound st) (hid : IdOK st) (hev : evsIdOK evs) :
    has (wrun vo st evs).disk (fileName pre p) k
      = wPresent pre k p (isLiveFileOf p (fileName pre p)) st.pid st.actual (idsOf st) evs (has st.disk (fileName pre p) k) := by
  induction evs generalizing st with
  | nil => rfl
  | cons e r ih =>
    rw [wrun_cons]
    obtain ⟨he, hev'⟩ := List.forall_mem_cons.mp hev
    rw [ih _ (wstep_bound vo st e hb hid he) (wstep_idOK vo st e hb hid he) hev']
    cases e with
    | spawn q => rfl
    | op o =>
      simp only [wstep, wPresent]
      rw [has_step vo st o hb hid pre p k hp, idsOf_step vo st o hb, step_actual vo st o hb,
        (step_pid vo st o hb).2]
      cases o <;> rfl
    | dead q =>
      obtain ⟨h1, h2, h3, h4⟩ := wstep_dead vo st q
      unfold idsOf
      rw [h1, h2, h3, h4, has_deadDisk, isLiveFileOf_eq q pre p he hp]
      simp only [wPresent]
      split <;> rfl

end PromVerif.Model.Values
