/-
C12: the contributions of ONE metric's value objects, as the collector's spec sees them: pairwise different series keys
(so every series has one contribution), and for a histogram the `le` text / label set without `le` of every bucket
contribution — the bucket contributions are the blocks of `Lemmas/BackendsCollect`.

Then what the collector's spec (`Spec.Multiprocess.value`, which C08 proves the collector model computes) reports for
the family of ONE metric of a single-process directory: child by child, the series `mpChild` lists —
  counter / summary cells and the histogram `_sum` cell as `0.0 + value`, gauges per mode, histogram buckets cumulated
  from the stored non-cumulative counts with `_count` their total.
-/
import PromVerif.Lemmas.BackendsCollect
import PromVerif.Lemmas.MultiprocessKeys

namespace PromVerif.Lemmas.Backends
open PromVerif.Py PromVerif.Generated.Multiprocess
open PromVerif.Model.Metrics (Val Decl Kind Child Action)
open PromVerif.Model.Multiprocess
open PromVerif.Model.Values
open PromVerif.Model.Backends
open PromVerif.Spec.Metrics (Hist)
open PromVerif.Spec.Multiprocess
set_option autoImplicit false
set_option linter.unusedSectionVars false

variable {V : Type} [Val V] {B : Type} [DecidableEq B]

def contribOf (d : MDecl V) (pid : Str) (disk : List (Str × Store V)) (p : Params) : Contrib V :=
  ⟨typStr d.decl.kind, modeOfDecl d, pid, mmapKey p, (cv pid disk p).1, (cv pid disk p).2⟩

theorem expContribs_eq (d : MDecl V) (pid : Str) (disk : List (Str × Store V)) (h : Hist V) :
    expContribs d pid disk h = (childList d h).flatMap (fun ka => (cellParams d ka.1).map (contribOf d pid disk)) := rfl

/-- the label set of the series of a child: `sorted(zip(labelnames, labelvalues))` -/
def plainLabels (d : MDecl V) (key : List Str) : Labels := sortByKey (d.decl.labelnames.zip key)

/-- the label-value tuples of a metric's children: pairwise different, each as long as the label names -/
structure ChildKeys (d : MDecl V) (cl : List (List Str × List (Action V))) : Prop where
  nodup : (cl.map (·.1)).Nodup
  len : ∀ ka ∈ cl, ka.1.length = d.decl.labelnames.length

theorem MetricCore.childKeys {d : MDecl V} {pid : Str} {ps : List Params} {disk : List (Str × Store V)}
    {cl : List (List Str × List (Action V))} (h : MetricCore d pid ps disk cl) : ChildKeys d cl :=
  ⟨h.keysNodup, h.keylen⟩

theorem allKeys_nodup (d : MDecl V) (hw : WFDecl d) (cl : List (List Str × List (Action V))) (hnd : (cl.map (·.1)).Nodup)
    (hlen : ∀ ka ∈ cl, ka.1.length = d.decl.labelnames.length) :
    ((cl.flatMap (fun ka => cellParams d ka.1)).map mmapKey).Nodup := by
  rw [List.map_flatMap]
  refine List.pairwise_flatMap.mpr ⟨fun ka hka => cellKeys_nodup d hw ka.1 (hlen ka hka), ?_⟩
  refine (List.pairwise_map.mp hnd).imp_of_mem (fun {ka kb} ha hb hne x hx y hy e => ?_)
  obtain ⟨p, hp, rfl⟩ := List.mem_map.mp hx
  obtain ⟨q, hq, rfl⟩ := List.mem_map.mp hy
  exact cellKeys_disjoint d hw ka.1 kb.1 (hlen ka ha) (hlen kb hb) hne p q hp hq e

theorem mmapKey_fields (d : MDecl V) (key : List Str) (p : Params) (hp : p ∈ cellParams d key) :
    (mmapKey p).metric = d.decl.name ∧ (mmapKey p).help = d.help := by
  have := cellParams_metric d key p hp
  exact ⟨this.1, this.2.1⟩

theorem plain_name (d : MDecl V) (typ suffix mode : Str) (key : List Str) :
    (mmapKey (plainParam d typ suffix mode key)).name = d.decl.name ++ suffix := rfl

theorem plain_labels (d : MDecl V) (hln : d.decl.labelnames.Nodup) (typ suffix mode : Str) (key : List Str) :
    (mmapKey (plainParam d typ suffix mode key)).labels = plainLabels d key :=
  mmapKey_labels _ hln

theorem zip_no_key (ln key : List Str) (nm : Str) (h : nm ∉ ln) : nm ∉ (ln.zip key).map (·.1) := fun hm => by
  obtain ⟨kv, hkv, e⟩ := List.mem_map.mp hm
  exact h (e ▸ (List.of_mem_zip hkv).1)

theorem plainLabels_no_key (d : MDecl V) (key : List Str) (nm : Str) (h : nm ∉ d.decl.labelnames) :
    nm ∉ (plainLabels d key).map (·.1) := fun hm => by
  obtain ⟨kv, hkv, e⟩ := List.mem_map.mp hm
  exact zip_no_key _ key nm h (e ▸ List.mem_map.mpr ⟨kv, (PromVerif.Lemmas.GatewaySort.mem_sortByKey _ kv).mp hkv, rfl⟩)

theorem filter_ne_self (l : Labels) (nm : Str) (h : nm ∉ l.map (·.1)) : l.filter (fun x => x.1 ≠ nm) = l :=
  filter_eq_self_of _ _ (fun x hx => by
    simp only [ne_eq, decide_not, Bool.not_eq_eq_eq_not, Bool.not_true, decide_eq_false_iff_not]
    intro e; exact h (e ▸ List.mem_map.mpr ⟨x, hx, rfl⟩))

theorem snoc_nodupKeys (l : Labels) (hl : (l.map (·.1)).Nodup) (nm v : Str) (h : nm ∉ l.map (·.1)) :
    ((l ++ [(nm, v)]).map (·.1)).Nodup := by
  rw [List.map_append, List.nodup_append]
  exact ⟨hl, by simp, by intro a ha b hb e; simp at hb; subst hb; subst e; exact h ha⟩

section leLabel
variable (d : MDecl V) (hw : WFDecl d) (pid : Str) (disk : List (Str × Store V)) (key : List Str)
    (hlen : key.length = d.decl.labelnames.length) (t : Str)
include hw

theorem bucket_pairs_nodup : ((d.decl.labelnames.zip key ++ [(leName, t)]).map (·.1)).Nodup :=
  snoc_nodupKeys _ (zip_nodupKeys _ _ hw.lnNodup) _ _ (zip_no_key _ key leName hw.noLe)

theorem leText_plain (typ suffix mode : Str) : leText (contribOf d pid disk (plainParam d typ suffix mode key)) = none := by
  unfold leText
  simp only [contribOf]
  rw [plain_labels d hw.lnNodup]
  show Option.map (fun x : Str × Str => x.2) (List.find? (fun l : Str × Str => decide (l.1 = leName)) _) = none
  rw [find?_key_none _ _ (plainLabels_no_key d key leName hw.noLe)]
  rfl

include hlen

theorem bucket_labels :
    (mmapKey (bucketParam d key t)).labels = sortByKey (d.decl.labelnames.zip key ++ [(leName, t)]) := by
  rw [mmapKey_labels _ (snoc_nodup _ _ hw.lnNodup hw.noLe)]
  simp only [bucketParam]
  rw [zip_snoc _ _ _ _ hlen]

theorem leText_bucket : leText (contribOf d pid disk (bucketParam d key t)) = some t := by
  unfold leText
  simp only [contribOf]
  rw [bucket_labels d hw key hlen t]
  show Option.map (fun x : Str × Str => x.2) (List.find? (fun l : Str × Str => decide (l.1 = leName)) _) = some t
  rw [find?_key_of_mem _ leName t (sortByKey_nodupKeys _ (bucket_pairs_nodup d hw key t))
      ((PromVerif.Lemmas.GatewaySort.mem_sortByKey _ _).mpr (by simp))]
  rfl

theorem withoutLe_bucket : withoutLe (contribOf d pid disk (bucketParam d key t)) = plainLabels d key := by
  unfold withoutLe plainLabels
  simp only [contribOf]
  rw [bucket_labels d hw key hlen t]
  have : (fun l : Str × Str => decide (l.1 ≠ "le".toList)) = (fun l => decide (l.1 ≠ leName)) := rfl
  rw [this, filter_sortByKey _ _ (bucket_pairs_nodup d hw key t), List.filter_append]
  congr 1
  rw [filter_ne_self _ _ (zip_no_key _ key leName hw.noLe)]
  simp

end leLabel

/-- what the declaration's bounds must satisfy for the two paths to print the same `le` labels: each rendered bound
reads back (`float(text)`) as a bound that renders to the same text — `floatToGoString` is a fixpoint on rendered
bounds (validated on every generated bound by the harness) — and the bounds read back are strictly increasing -/
structure BoundsOK (bo : BOps B) (d : MDecl V) (Bs : List B) : Prop where
  texts : leTexts d = Bs.map bo.fmt
  parse : ∀ b ∈ Bs, bo.parse (bo.fmt b) = some b
  nodup : Bs.Nodup
  sorted : Bs.Pairwise (fun a b => bo.lt b a = false)

/-- the bucket values of a child in bound order -/
def bucketVals (bo : BOps B) (d : MDecl V) (pid : Str) (disk : List (Str × Store V)) (Bs : List B)
    (ka : List Str × List (Action V)) : List V :=
  Bs.map (fun b => (cv pid disk (bucketParam d ka.1 (bo.fmt b))).1)

theorem zip_map_self_right {α β : Type} (l : List α) (g : α → β) : l.zip (l.map g) = l.map (fun a => (a, g a)) := by
  induction l with
  | nil => rfl
  | cons x xs ih => simp [ih]

theorem filterMap_eq_map_of {α β : Type} (f : α → Option β) (g : α → β) (l : List α) (h : ∀ a ∈ l, f a = some (g a)) :
    l.filterMap f = l.map g := by
  induction l with
  | nil => rfl
  | cons a l ih =>
    rw [List.filterMap_cons, h a List.mem_cons_self, List.map_cons, ih (fun b hb => h b (List.mem_cons_of_mem _ hb))]

section histogramContribs
variable (d : MDecl V) (hw : WFDecl d) (pid : Str) (disk : List (Str × Store V)) (h : Hist V) (bs : List (V × Str))
    (hk : d.decl.kind = .histogram bs) (hlen : ∀ ka ∈ childList d h, ka.1.length = d.decl.labelnames.length)
include hw hk hlen

theorem bucketContribs_hist (bo : BOps B) (Bs : List B) (hb : BoundsOK bo d Bs) :
    bucketContribs bo (expContribs d pid disk h)
      = (childList d h).flatMap (bblock Bs (fun ka => plainLabels d ka.1) (bucketVals bo d pid disk Bs)) := by
  rw [expContribs_eq]
  unfold bucketContribs
  rw [List.filterMap_flatMap]
  apply flatMap_congr_mem
  intro ka hka
  rw [cellParams_eq]
  simp only [hk, List.map_cons, List.filterMap_cons, leText_plain d hw]
  rw [hb.texts, List.map_map, List.map_map, List.filterMap_map]
  unfold bblock bucketVals
  rw [zip_map_self_right, List.map_map]
  -- every bucket contribution survives the filter
  apply filterMap_eq_map_of
  intro b hbm
  simp only [Function.comp, leText_bucket d hw pid disk ka.1 (hlen ka hka), hb.parse b hbm, Option.map_some,
    withoutLe_bucket d hw pid disk ka.1 (hlen ka hka)]
  rfl

theorem plainContribs_hist :
    plainContribs (expContribs d pid disk h)
      = (childList d h).map (fun ka => contribOf d pid disk (plainParam d sHistogram sSum [] ka.1)) := by
  rw [expContribs_eq]
  unfold plainContribs
  rw [List.filter_flatMap, List.map_eq_flatMap]
  apply flatMap_congr_mem
  intro ka hka
  rw [cellParams_eq]
  simp only [hk, List.map_cons, List.map_map]
  rw [List.filter_cons_of_pos (by rw [leText_plain d hw]; rfl)]
  rw [filter_eq_nil_of _ _ (fun c hc => by
    obtain ⟨t, _, rfl⟩ := List.mem_map.mp hc
    simp only [Function.comp, leText_bucket d hw pid disk ka.1 (hlen ka hka)]
    rfl)]

end histogramContribs

/-- the series of the cells of one child with their `(sample name, labels)` key, values through `f` -/
def plainSeries (f : V × V → V) (d : MDecl V) (pid : Str) (disk : List (Str × Store V)) (key : List Str) : List (SKey × V) :=
  (cellParams d key).map (fun p => (((mmapKey p).name, (mmapKey p).labels), f (cv pid disk p)))

/-- what the collector must report for one child of metric `d`, from the entries of the child's value objects -/
def mpChild (bo : BOps B) (Bs : List B) (d : MDecl V) (pid : Str) (disk : List (Str × Store V))
    (ka : List Str × List (Action V)) : List (SKey × V) :=
  match d.decl.kind with
  | .histogram _ =>
    ((d.decl.name ++ sSum, plainLabels d ka.1),
        (voOf V).add (voOf V).zero (cv pid disk (plainParam d sHistogram sSum [] ka.1)).1) ::
      childSeries (voOf V) bo Bs (fun ka => plainLabels d ka.1) (bucketVals bo d pid disk Bs) d.decl.name ka
  | .gauge =>
    match kindOf gaugeType d.mode with
    | .gaugeAll => (cellParams d ka.1).map (fun p =>
        (((mmapKey p).name, (mmapKey p).labels ++ [("pid".toList, pid)]), (cv pid disk p).1))
    | .gaugeSum => plainSeries (fun x => (voOf V).add (voOf V).zero x.1) d pid disk ka.1
    | .gaugeMostRecent => (cellParams d ka.1).filterMap (fun p =>
        if (voOf V).lt (voOf V).zero (normTs (voOf V) (cv pid disk p).2) = true
        then some (((mmapKey p).name, (mmapKey p).labels), (cv pid disk p).1) else none)
    | _ => plainSeries (fun x => x.1) d pid disk ka.1
  | _ => plainSeries (fun x => (voOf V).add (voOf V).zero x.1) d pid disk ka.1

section contributions
variable (d : MDecl V) (pid : Str) (disk : List (Str × Store V)) (h : Hist V)

theorem mem_expContribs (c : Contrib V) :
    c ∈ expContribs d pid disk h ↔ ∃ ka ∈ childList d h, ∃ p ∈ cellParams d ka.1, c = contribOf d pid disk p := by
  rw [expContribs_eq, List.mem_flatMap]
  constructor
  · rintro ⟨ka, hka, hc⟩
    obtain ⟨p, hp, rfl⟩ := List.mem_map.mp hc
    exact ⟨ka, hka, p, hp, rfl⟩
  · rintro ⟨ka, hka, p, hp, rfl⟩
    exact ⟨ka, hka, List.mem_map.mpr ⟨p, hp, rfl⟩⟩

theorem cellParams_ne_nil (d : MDecl V) (hs : Supported d) (key : List Str) : cellParams d key ≠ [] := by
  rw [cellParams_eq]
  unfold Supported at hs
  cases hk : d.decl.kind <;> simp only [hk] at hs ⊢ <;> simp

theorem expContribs_ne_nil (hs : Supported d) (ka : List Str × List (Action V)) (hka : ka ∈ childList d h) : expContribs d pid disk h ≠ [] := by
  obtain ⟨p, hp⟩ := List.exists_mem_of_ne_nil _ (cellParams_ne_nil d hs ka.1)
  exact List.ne_nil_of_mem ((mem_expContribs d pid disk h _).mpr ⟨ka, hka, p, hp, rfl⟩)

theorem value_of_no_contribs (vo : VOps V) (bo : BOps B) (fs : List (SFile V)) (mn : Str) (k : SKey)
    (h : contribs fs mn = []) : value vo bo fs mn k = none := by
  have h1 : typOf fs mn = [] := by simp [typOf, h]
  have h2 : kindOf (typOf fs mn) (modeOf fs mn) = .plainSum := by
    rw [h1]; exact PromVerif.Props.C08.kind_plain [] _ (by decide +kernel) (by decide +kernel)
  simp only [value, h2, h, sumValue, valuesFor, List.filter_nil, List.map_nil]

theorem typOf_exp (fs : List (SFile V)) (hcs : contribs fs d.decl.name = expContribs d pid disk h) (hne : expContribs d pid disk h ≠ []) :
    typOf fs d.decl.name = typStr d.decl.kind ∧ modeOf fs d.decl.name = modeOfDecl d ∧ helpOf fs d.decl.name = d.help := by
  unfold typOf modeOf helpOf
  rw [hcs]
  cases he : expContribs d pid disk h with
  | nil => exact absurd he hne
  | cons c cs =>
    have hc : c ∈ expContribs d pid disk h := by rw [he]; exact List.mem_cons_self
    obtain ⟨ka, _, p, hp, rfl⟩ := (mem_expContribs d pid disk h c).mp hc
    exact ⟨rfl, rfl, (mmapKey_fields d ka.1 p hp).2⟩

theorem keyed_family (kf : Contrib V → SKey) (kp : Params → SKey) (f : V × V → V)
    (hkf : ∀ p, kf (contribOf d pid disk p) = kp p) (k : SKey) (v : V) :
    (∃ c ∈ expContribs d pid disk h, kf c = k ∧ v = f (c.value, c.ts)) ↔
      ∃ ka ∈ childList d h, (k, v) ∈ (cellParams d ka.1).map (fun p => (kp p, f (cv pid disk p))) := by
  constructor
  · rintro ⟨c, hc, e, rfl⟩
    obtain ⟨ka, hka, p, hp, rfl⟩ := (mem_expContribs d pid disk h c).mp hc
    exact ⟨ka, hka, List.mem_map.mpr ⟨p, hp, by rw [← e, hkf]; rfl⟩⟩
  · rintro ⟨ka, hka, hm⟩
    obtain ⟨p, hp, e⟩ := List.mem_map.mp hm
    refine ⟨contribOf d pid disk p, (mem_expContribs d pid disk h _).mpr ⟨ka, hka, p, hp, rfl⟩, ?_, ?_⟩
    · rw [hkf]; exact congrArg Prod.fst e
    · exact (congrArg Prod.snd e).symm

end contributions

theorem childSeries_keys (vo : VOps V) (bo : BOps B) (Bs : List B) {X : Type} (L : X → Labels) (bv : X → List V)
    (mn : Str) (x : X) (hlen : (bv x).length = Bs.length) :
    (childSeries vo bo Bs L bv mn x).map (·.1)
      = Bs.map (fun b => (mn ++ "_bucket".toList, L x ++ [("le".toList, bo.fmt b)])) ++ [(mn ++ "_count".toList, L x)] := by
  unfold childSeries
  rw [List.map_append]
  congr 1
  have h1 := cumulate_fst vo vo.zero ((Bs.zip (bv x)).map (fun p => (p.1, vo.add vo.zero p.2)))
  rw [List.map_map] at h1
  have h2 : ((fun x : B × V => x.1) ∘ fun p : B × V => (p.1, vo.add vo.zero p.2)) = (·.1) := rfl
  rw [h2, map_fst_zip_of_length Bs (bv x) hlen] at h1
  have h3 : ∀ l : List (B × V), (l.map (fun bvv => ((mn ++ "_bucket".toList, L x ++ [("le".toList, bo.fmt bvv.1)]), bvv.2))).map (·.1)
      = (l.map (·.1)).map (fun b => (mn ++ "_bucket".toList, L x ++ [("le".toList, bo.fmt b)])) := by
    intro l; rw [List.map_map, List.map_map]; rfl
  rw [h3, h1]

/-- what the constructors and the property's preconditions guarantee about one declaration, collector side included -/
structure WFDeclB (bo : BOps B) (Bs : List B) (d : MDecl V) : Prop where
  wf : WFDecl d
  mode : isGauge d = true → d.mode ∈ gaugeModes
  bounds : BoundsOK bo d Bs
  bne : (∃ bs, d.decl.kind = Kind.histogram bs) → Bs ≠ []

theorem histIn_decl (bo : BOps B) (Bs : List B) (d : MDecl V) (hw : WFDeclB bo Bs d) (bs : List (V × Str))
    (hk : d.decl.kind = .histogram bs) (pid : Str) (disk : List (Str × Store V)) (cl : List (List Str × List (Action V)))
    (hck : ChildKeys d cl) :
    HistIn bo Bs cl (fun ka => plainLabels d ka.1) (bucketVals bo d pid disk Bs) := by
  refine ⟨?_, hw.bounds.nodup, hw.bounds.sorted, fun ka _ => by simp [bucketVals], hw.bne ⟨bs, hk⟩⟩
  apply nodup_map_of_injOn _ _ (nodup_of_nodup_map _ _ hck.nodup)
  intro a ha b hb e
  exact inj_of_nodup_map _ _ hck.nodup a ha b hb (sorted_zip_inj _ _ _ hw.wf.lnNodup (hck.len a ha) (hck.len b hb) e)

theorem WFDeclB.ofPlain (bo : BOps B) (d : MDecl V) (hk : ∀ bs, d.decl.kind ≠ Kind.histogram bs) (hs : Supported d)
    (hln : d.decl.labelnames.Nodup) (hle : leName ∉ d.decl.labelnames) (hm : isGauge d = true → d.mode ∈ gaugeModes) :
    WFDeclB bo [] d := by
  have ht : leTexts d = [] := by
    unfold leTexts
    cases hk' : d.decl.kind <;> first | rfl | exact absurd hk' (hk _)
  exact ⟨⟨hs, hln, hle, (by rw [ht]; exact List.nodup_nil)⟩, hm, ⟨ht, fun _ hb => (by cases hb), List.nodup_nil, List.Pairwise.nil⟩,
    fun ⟨bs, h⟩ => absurd h (hk bs)⟩

theorem typ_counter_ne : (typStr (Kind.counter : Kind V)) ≠ gaugeType ∧ (typStr (Kind.counter : Kind V)) ≠ histogramType := by
  show "counter".toList ≠ gaugeType ∧ "counter".toList ≠ histogramType
  exact ⟨by decide +kernel, by decide +kernel⟩

theorem typ_summary_ne : (typStr (Kind.summary : Kind V)) ≠ gaugeType ∧ (typStr (Kind.summary : Kind V)) ≠ histogramType := by
  show "summary".toList ≠ gaugeType ∧ "summary".toList ≠ histogramType
  exact ⟨by decide +kernel, by decide +kernel⟩

theorem value_plain (vo : VOps V) (bo : BOps B) (fs : List (SFile V)) (mn : Str) (k : SKey)
    (h : kindOf (typOf fs mn) (modeOf fs mn) = .plainSum) : value vo bo fs mn k = sumValue vo (contribs fs mn) k := by
  unfold value; simp only [h]

theorem value_hist (vo : VOps V) (bo : BOps B) (fs : List (SFile V)) (mn : Str) (k : SKey)
    (h : kindOf (typOf fs mn) (modeOf fs mn) = .histogram) : value vo bo fs mn k = histValue vo bo mn (contribs fs mn) k := by
  unfold value; simp only [h]

theorem value_gauge (vo : VOps V) (bo : BOps B) (fs : List (SFile V)) (mn : Str) (k : SKey) (kd : Spec.Multiprocess.Kind)
    (h : kindOf (typOf fs mn) (modeOf fs mn) = kd) (h1 : kd ≠ .plainSum) (h2 : kd ≠ .histogram) :
    value vo bo fs mn k = gaugeValue vo kd (contribs fs mn) k := by
  subst h
  unfold value
  cases hk : kindOf (typOf fs mn) (modeOf fs mn) <;> simp_all

theorem histValue_iff (vo : VOps V) (bo : BOps B) (mn : Str) (cs : List (Contrib V)) (k : SKey) (v : V)
    (hnd : (AL.keys (bucketSeries vo bo mn cs)).Nodup) :
    histValue vo bo mn cs k = some v ↔
      (k, v) ∈ bucketSeries vo bo mn cs ∨ (k ∉ AL.keys (bucketSeries vo bo mn cs) ∧ sumValue vo (plainContribs cs) k = some v) := by
  unfold histValue
  cases hg : AL.get? (bucketSeries vo bo mn cs) k with
  | some w =>
    simp only [Option.some.injEq]
    constructor
    · intro e; subst e; exact Or.inl (AL.mem_of_get? _ k w hg)
    · rintro (hm | ⟨hn, _⟩)
      · have := AL.get?_of_mem _ hnd k v hm
        rw [hg] at this; exact Option.some.inj this
      · exact absurd ((AL.get?_isSome_iff _ k).mp (by rw [hg]; rfl)) hn
  | none =>
    have hn := (AL.get?_eq_none_iff _ k).mp hg
    simp only
    constructor
    · intro e; exact Or.inr ⟨hn, e⟩
    · rintro (hm | ⟨_, e⟩)
      · exact absurd (List.mem_map.mpr ⟨(k, v), hm, rfl⟩) hn
      · exact e

theorem sum_name_ne (mn : Str) : mn ++ sSum ≠ mn ++ "_bucket".toList ∧ mn ++ sSum ≠ mn ++ "_count".toList :=
  ⟨fun e => absurd (List.append_cancel_left e) (by decide +kernel), fun e => absurd (List.append_cancel_left e) (by decide +kernel)⟩

section oneMetric
variable (d : MDecl V) (hw : WFDecl d) (pid : Str) (disk : List (Str × Store V)) (h : Hist V)
    (hck : ChildKeys d (childList d h))
include hw hck

/-- keying the contributions of one metric by the sample name and an injective image of the labels puts every series
key on one contribution -/
theorem contribKeys_nodup (g : Labels → Labels) (hg : ∀ a b, g a = g b → a = b) (kf : Contrib V → SKey)
    (hkf : ∀ p, kf (contribOf d pid disk p) = ((mmapKey p).name, g (mmapKey p).labels)) :
    ((expContribs d pid disk h).map kf).Nodup := by
  have hmap : (expContribs d pid disk h).map kf
      = (((childList d h).flatMap (fun ka => cellParams d ka.1)).map mmapKey).map (fun k => (k.name, g k.labels)) := by
    rw [expContribs_eq, List.map_map, List.map_flatMap, List.map_flatMap]
    apply flatMap_congr_mem
    intro ka _
    rw [List.map_map]
    exact List.map_congr_left (fun p _ => hkf p)
  rw [hmap]
  apply nodup_map_of_injOn _ _ (allKeys_nodup d hw _ hck.nodup hck.len)
  intro a ha b hb e
  obtain ⟨p, hp, rfl⟩ := List.mem_map.mp ha
  obtain ⟨q, hq, rfl⟩ := List.mem_map.mp hb
  obtain ⟨ka, _, hp'⟩ := List.mem_flatMap.mp hp
  obtain ⟨kb, _, hq'⟩ := List.mem_flatMap.mp hq
  have h1 := mmapKey_fields d ka.1 p hp'
  have h2 := mmapKey_fields d kb.1 q hq'
  -- metric name and help text are the declaration's, sample name and labels are told apart by the keying
  rw [Prod.mk.injEq] at e
  generalize mmapKey p = a at h1 e ⊢
  generalize mmapKey q = b at h2 e ⊢
  cases a
  cases b
  rw [Key.mk.injEq]
  exact ⟨h1.1.trans h2.1.symm, e.1, hg _ _ e.2, h1.2.trans h2.2.symm⟩

theorem plainKeys_nodup : ((expContribs d pid disk h).map plainKey).Nodup :=
  contribKeys_nodup d hw pid disk h hck id (fun _ _ e => e) plainKey (fun _ => rfl)

theorem pidKeys_nodup : ((expContribs d pid disk h).map pidKey).Nodup :=
  contribKeys_nodup d hw pid disk h hck (· ++ [("pid".toList, pid)]) (fun _ _ e => List.append_cancel_right e) pidKey
    (fun _ => rfl)

theorem sum_family (k : SKey) (v : V) :
    sumValue (voOf V) (expContribs d pid disk h) k = some v ↔
      ∃ ka ∈ childList d h, (k, v) ∈ plainSeries (fun x => (voOf V).add (voOf V).zero x.1) d pid disk ka.1 := by
  rw [sumValue_single _ _ (plainKeys_nodup d hw pid disk h hck)]
  exact keyed_family d pid disk h plainKey _ (fun x => (voOf V).add (voOf V).zero x.1) (fun _ => rfl) k v

theorem mostRecent_family (k : SKey) (v : V) :
    gaugeValue (voOf V) .gaugeMostRecent (expContribs d pid disk h) k = some v ↔
      ∃ ka ∈ childList d h, (k, v) ∈ (cellParams d ka.1).filterMap (fun p =>
        if (voOf V).lt (voOf V).zero (normTs (voOf V) (cv pid disk p).2) = true
        then some (((mmapKey p).name, (mmapKey p).labels), (cv pid disk p).1) else none) := by
  rw [mostRecent_single _ _ (plainKeys_nodup d hw pid disk h hck)]
  constructor
  · rintro ⟨c, hc, e, rfl, hl⟩
    obtain ⟨ka, hka, p, hp, rfl⟩ := (mem_expContribs d pid disk h c).mp hc
    refine ⟨ka, hka, List.mem_filterMap.mpr ⟨p, hp, ?_⟩⟩
    have hl' : (voOf V).lt (voOf V).zero (normTs (voOf V) (cv pid disk p).2) = true := hl
    rw [if_pos hl', ← e]
    rfl
  · rintro ⟨ka, hka, hm⟩
    obtain ⟨p, hp, e⟩ := List.mem_filterMap.mp hm
    by_cases hl : (voOf V).lt (voOf V).zero (normTs (voOf V) (cv pid disk p).2) = true
    · rw [if_pos hl] at e
      simp only [Option.some.injEq, Prod.mk.injEq] at e
      exact ⟨contribOf d pid disk p, (mem_expContribs d pid disk h _).mpr ⟨ka, hka, p, hp, rfl⟩, e.1, e.2.symm, hl⟩
    · rw [if_neg hl] at e; cases e

end oneMetric

section declaredHistogram
variable (bo : BOps B) (Bs : List B) (d : MDecl V) (hw : WFDeclB bo Bs d) (bs : List (V × Str))
    (hk : d.decl.kind = .histogram bs) (pid : Str) (disk : List (Str × Store V)) (h : Hist V)
    (hck : ChildKeys d (childList d h))
include hw hk hck

/-- no bucket / `_count` series of a declared histogram is reported twice: C08's criterion (the formatter is injective
on the bounds of every child) holds because each child lists the declared bounds, whose `le` texts are pairwise different -/
theorem bucketKeys_nodup_decl :
    (AL.keys (bucketSeries (voOf V) bo d.decl.name (expContribs d pid disk h))).Nodup := by
  have hin := histIn_decl bo Bs d hw bs hk pid disk (childList d h) hck
  have hfmt : (Bs.map bo.fmt).Nodup := by rw [← hw.bounds.texts]; exact hw.wf.leNodup
  apply PromVerif.Props.C08.bucketSeries_keys_nodup
  rw [bucketContribs_hist d hw.wf pid disk h bs hk hck.len bo Bs hw.bounds]
  intro L hL b hb b' hb' e
  obtain ⟨x, hx, rfl⟩ := (mem_groups_blocks bo Bs _ _ _ hin L).mp hL
  rw [boundsOf_block bo Bs _ _ _ hin x hx] at hb hb'
  exact inj_of_nodup_map bo.fmt Bs hfmt b hb b' hb' e

theorem mem_bucketSeries_decl (kv : SKey × V) :
    kv ∈ bucketSeries (voOf V) bo d.decl.name (expContribs d pid disk h) ↔
      ∃ ka ∈ childList d h, kv ∈ childSeries (voOf V) bo Bs (fun ka => plainLabels d ka.1) (bucketVals bo d pid disk Bs)
        d.decl.name ka := by
  unfold bucketSeries
  simp only
  rw [bucketContribs_hist d hw.wf pid disk h bs hk hck.len bo Bs hw.bounds]
  exact mem_bucketSeries_blocks (voOf V) bo Bs _ _ _ (histIn_decl bo Bs d hw bs hk pid disk (childList d h) hck) d.decl.name kv

theorem sum_not_bucketKey (L : Labels) :
    (d.decl.name ++ sSum, L) ∉ AL.keys (bucketSeries (voOf V) bo d.decl.name (expContribs d pid disk h)) := by
  intro hkeys
  obtain ⟨kv, hkv, e⟩ := List.mem_map.mp hkeys
  obtain ⟨ka, hka, hkv'⟩ := (mem_bucketSeries_decl bo Bs d hw bs hk pid disk h hck kv).mp hkv
  have hm : kv.1 ∈ (childSeries (voOf V) bo Bs (fun ka => plainLabels d ka.1) (bucketVals bo d pid disk Bs)
      d.decl.name ka).map (·.1) := List.mem_map.mpr ⟨kv, hkv', rfl⟩
  rw [childSeries_keys _ _ _ _ _ _ _ ((histIn_decl bo Bs d hw bs hk pid disk _ hck).hlen ka hka), e] at hm
  rcases List.mem_append.mp hm with hx | hx
  · obtain ⟨b, _, eb⟩ := List.mem_map.mp hx
    exact (sum_name_ne d.decl.name).1 (congrArg Prod.fst eb).symm
  · simp only [List.mem_singleton, Prod.mk.injEq] at hx
    exact (sum_name_ne d.decl.name).2 hx.1

theorem histSum_family (k : SKey) (v : V) :
    sumValue (voOf V) (plainContribs (expContribs d pid disk h)) k = some v ↔
      ∃ ka ∈ childList d h, (k, v) = ((d.decl.name ++ sSum, plainLabels d ka.1),
        (voOf V).add (voOf V).zero (cv pid disk (plainParam d sHistogram sSum [] ka.1)).1) := by
  have hpk : ((plainContribs (expContribs d pid disk h)).map plainKey).Nodup :=
    (List.filter_sublist.map plainKey).nodup (plainKeys_nodup d hw.wf pid disk h hck)
  have hkey : ∀ key, plainKey (contribOf d pid disk (plainParam d sHistogram sSum [] key))
      = (d.decl.name ++ sSum, plainLabels d key) := fun key => Prod.ext rfl (plain_labels d hw.wf.lnNodup _ _ _ key)
  rw [sumValue_single _ _ hpk, plainContribs_hist d hw.wf pid disk h bs hk hck.len]
  constructor
  · rintro ⟨c, hc, e, rfl⟩
    obtain ⟨ka, hka, rfl⟩ := List.mem_map.mp hc
    exact ⟨ka, hka, by rw [← e, hkey]; rfl⟩
  · rintro ⟨ka, hka, e⟩
    rw [Prod.mk.injEq] at e
    exact ⟨_, List.mem_map.mpr ⟨ka, hka, rfl⟩, by rw [hkey, e.1], e.2⟩

end declaredHistogram

theorem family_value (bo : BOps B) (Bs : List B) (d : MDecl V) (hw : WFDeclB bo Bs d) (fs : List (SFile V)) (pid : Str)
    (disk : List (Str × Store V)) (h : Hist V) (hcs : contribs fs d.decl.name = expContribs d pid disk h)
    (hck : ChildKeys d (childList d h)) (k : SKey) (v : V) :
    value (voOf V) bo fs d.decl.name k = some v ↔ ∃ ka ∈ childList d h, (k, v) ∈ mpChild bo Bs d pid disk ka := by
  by_cases hne : expContribs d pid disk h = []
  · rw [value_of_no_contribs _ bo fs _ k (hcs.trans hne)]
    simp only [reduceCtorEq, false_iff]
    rintro ⟨ka, hka, _⟩
    exact expContribs_ne_nil d pid disk h hw.wf.sup ka hka hne
  · obtain ⟨htyp, hmod, _⟩ := typOf_exp d pid disk h fs hcs hne
    have hpk := plainKeys_nodup d hw.wf pid disk h hck
    cases hk : d.decl.kind with
    | info => exact absurd hw.wf.sup (by simp [Supported, hk])
    | enum s => exact absurd hw.wf.sup (by simp [Supported, hk])
    | counter =>
      rw [value_plain _ _ _ _ _ (by rw [htyp, hk]; exact PromVerif.Props.C08.kind_plain _ _ typ_counter_ne.1 typ_counter_ne.2),
        hcs]
      simp only [mpChild, hk]
      exact sum_family d hw.wf pid disk h hck k v
    | summary =>
      rw [value_plain _ _ _ _ _ (by rw [htyp, hk]; exact PromVerif.Props.C08.kind_plain _ _ typ_summary_ne.1 typ_summary_ne.2),
        hcs]
      simp only [mpChild, hk]
      exact sum_family d hw.wf pid disk h hck k v
    | gauge =>
      have hg : isGauge d = true := by simp [isGauge, hk]
      have hmd : modeOfDecl d = d.mode := by simp [modeOfDecl, hg]
      have hkind : kindOf (typOf fs d.decl.name) (modeOf fs d.decl.name) = kindOf gaugeType d.mode := by
        rw [htyp, hmod, hmd, hk, typStr_gauge_eq]
      rcases rule_kind d.mode (hw.mode hg) with ⟨_, hkd⟩ | ⟨_, hkd⟩ | ⟨_, hkd⟩ | ⟨_, hkd⟩ | ⟨_, hkd⟩ <;>
        rw [value_gauge _ bo fs _ k _ (hkind.trans hkd) (by simp) (by simp), hcs] <;> simp only [mpChild, hk, hkd]
      · show aggPick _ (valuesFor plainKey _ k) = some v ↔ _
        rw [pick_single _ _ hpk]
        exact keyed_family d pid disk h plainKey _ (fun x => x.1) (fun _ => rfl) k v
      · show aggPick _ (valuesFor plainKey _ k) = some v ↔ _
        rw [pick_single _ _ hpk]
        exact keyed_family d pid disk h plainKey _ (fun x => x.1) (fun _ => rfl) k v
      · exact sum_family d hw.wf pid disk h hck k v
      · exact mostRecent_family d hw.wf pid disk h hck k v
      · rw [all_single _ _ (pidKeys_nodup d hw.wf pid disk h hck)]
        exact keyed_family d pid disk h pidKey _ (fun x => x.1) (fun _ => rfl) k v
    | histogram bs =>
      -- a bucket / `_count` series of some child, or (no such key carries the `_sum` name) the `_sum` series of one
      rw [value_hist _ _ _ _ _ (by rw [htyp, hk, typStr_histogram_eq]; exact PromVerif.Props.C08.kind_hist _), hcs,
        histValue_iff _ _ _ _ _ _ (bucketKeys_nodup_decl bo Bs d hw bs hk pid disk h hck),
        mem_bucketSeries_decl bo Bs d hw bs hk pid disk h hck, histSum_family bo Bs d hw bs hk pid disk h hck]
      simp only [mpChild, hk, List.mem_cons]
      constructor
      · rintro (⟨ka, hka, hm⟩ | ⟨_, ka, hka, hm⟩)
        · exact ⟨ka, hka, Or.inr hm⟩
        · exact ⟨ka, hka, Or.inl hm⟩
      · rintro ⟨ka, hka, hm | hm⟩
        · refine Or.inr ⟨?_, ka, hka, hm⟩
          rw [(Prod.mk.inj hm).1]
          exact sum_not_bucketKey bo Bs d hw bs hk pid disk h hck _
        · exact Or.inl ⟨ka, hka, hm⟩

end PromVerif.Lemmas.Backends
