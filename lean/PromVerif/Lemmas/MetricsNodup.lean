/-
The child table of every reachable metric has pairwise distinct keys (it is a dict).
-/
import PromVerif.Lemmas.MetricsCollect

namespace PromVerif.Lemmas.Metrics
open PromVerif.Py PromVerif.Model.Metrics
open PromVerif.Spec.Metrics

variable {V : Type} [Val V]

def KeysNodup (h : Hist V) : Prop := (h.table.map (·.1)).Nodup

omit [Val V] in
theorem appendAt_keys (k : List Str) (a : Action V) (t : List (List Str × List (Action V))) :
    (appendAt k a t).map (·.1) = if k ∈ t.map (·.1) then t.map (·.1) else t.map (·.1) ++ [k] := by
  induction t with
  | nil => rfl
  | cons kh t ih =>
    rw [appendAt]
    by_cases hk : kh.1 = k
    · rw [if_pos hk, if_pos (hk ▸ List.mem_cons_self)]
      rfl
    · rw [if_neg hk, List.map_cons, List.map_cons, ih]
      by_cases hm : k ∈ t.map (·.1)
      · rw [if_pos hm, if_pos (List.mem_cons_of_mem _ hm)]
      · rw [if_neg hm, if_neg (fun h => (List.mem_cons.mp h).elim (fun e => hk e.symm) hm)]
        rfl

omit [Val V] in
theorem recordOn_keysNodup (ln : List Str) (h : Hist V) (o : Op V) (hn : KeysNodup h) : KeysNodup (recordOn ln h o) := by
  unfold KeysNodup at *
  cases o with
  | call i addr act =>
    simp only [recordOn]
    split
    · exact hn
    · next k _ =>
      rw [appendAt_keys]
      split
      · exact hn
      · next hk =>
        refine List.nodup_append.mpr ⟨hn, List.pairwise_singleton _ k, fun x hx y hy e => hk ?_⟩
        rwa [← List.mem_singleton.mp hy, ← e]
  | remove i vs =>
    simp only [recordOn]
    exact hn.sublist ((List.filter_sublist).map _)
  | clear i => simp [recordOn]

omit [Val V] in
theorem history_keysNodup (ds : List (Decl V)) (ops : List (Op V)) : ∀ h ∈ history ds ops, KeysNodup h :=
  history_invariant (fun _ => KeysNodup) List.nodup_nil (fun _ _ h => h)
    (fun _ ln h o => recordOn_keysNodup ln h o) ds ops

theorem mem_zipWith_metricOf (ds : List (Decl V)) (hs : List (Hist V)) (m : Metric V)
    (hm : m ∈ List.zipWith metricOf ds hs) : ∃ d, ∃ h ∈ hs, m = metricOf d h := by
  obtain ⟨i, hi, rfl⟩ := List.mem_iff_getElem.mp hm
  rw [List.length_zipWith] at hi
  exact ⟨_, _, List.getElem_mem (Nat.lt_min.mp hi).2, List.getElem_zipWith⟩

theorem zipWith_metricOf_keys (ds : List (Decl V)) (hs : List (Hist V)) (hn : ∀ h ∈ hs, KeysNodup h) :
    ∀ m ∈ List.zipWith metricOf ds hs, (m.children.map (·.1)).Nodup := by
  intro m hm
  obtain ⟨d, h, hh, rfl⟩ := mem_zipWith_metricOf ds hs m hm
  simpa [metricOf, KeysNodup, List.map_map, Function.comp_def] using hn h hh

end PromVerif.Lemmas.Metrics
