/-
`floatToGoString` across the classes of `repr` texts: from the per-class theorems of `Props/C13.lean` (`go_small`,
`go_exp`, `go_negative`, `go_special`, `go_big`, `go_big_has_exponent`, `go_injective_big`) to one statement about two
texts of ANY of the five classes.
-/
import PromVerif.Props.C13

namespace PromVerif.Lemmas.GoInjective
open PromVerif.Py PromVerif.Spec PromVerif.Model.Utils PromVerif.Props.C13
set_option autoImplicit false

/-- the five classes of `repr` texts: plain with at most six integer digits, plain with more than six, exponent form,
    `inf`, negative finite (a `-` followed by a digit) -/
inductive ReprText : Str → Prop
  | small (I F : Str) (h : PlainRepr I F) (hs : I.length ≤ 6) : ReprText (I ++ '.' :: F)
  | big (i0 : Char) (I' F : Str) (h : PlainRepr (i0 :: I') F) (hb : 6 ≤ I'.length) : ReprText (i0 :: I' ++ '.' :: F)
  | exp (s : Str) (h : ExpRepr s) : ReprText s
  | inf : ReprText ['i', 'n', 'f']
  | neg (c : Char) (r : Str) (hc : isDigit c = true) : ReprText ('-' :: c :: r)

def DigitHead (l : Str) : Prop := ∃ c r, l = c :: r ∧ isDigit c = true

theorem digitHead_ne_plus (l : Str) (h : DigitHead l) : l.head? ≠ some '+' ∧ l.head? ≠ some '-' := by
  obtain ⟨c, r, rfl, hc⟩ := h
  simp only [List.head?_cons, ne_eq, Option.some.injEq]
  exact ⟨isDigit_ne hc (by decide), isDigit_ne hc (by decide)⟩

theorem plain_head (I F : Str) (h : PlainRepr I F) : DigitHead (I ++ '.' :: F) := by
  cases hI : I with
  | nil => exact absurd hI h.ine
  | cons c r => exact ⟨c, r ++ '.' :: F, rfl, (hI ▸ h).digits.1⟩

theorem exp_head (s : Str) (h : ExpRepr s) : DigitHead s := by
  obtain ⟨d, F, ex, hd, _, _, hs⟩ := h.shape
  rcases hs with hs | hs <;> exact ⟨d, _, hs, hd⟩

theorem big_render_head (i0 : Char) (I' F : Str) (h : PlainRepr (i0 :: I') F) (hb : 6 ≤ I'.length) :
    DigitHead (floatToGoString (i0 :: I' ++ '.' :: F)) := by
  rw [go_big i0 I' F h hb]
  unfold goFormat
  simp only
  -- with or without a fraction the mantissa starts with `i0`
  split <;> exact ⟨i0, _, rfl, h.digits.1⟩

/-- `-inf` does not start `-` digit -/
theorem go_negative_digit {c : Char} (r : Str) (hc : isDigit c = true) :
    floatToGoString ('-' :: c :: r) = '-' :: c :: r := by
  apply go_negative
  intro e
  cases e
  exact absurd hc (by decide)

theorem render_cases (s : Str) (h : ReprText s) :
    (floatToGoString s = s ∧ s.head? ≠ some '+' ∧ (ExpRepr s ∨ 'e' ∉ s ∨ s.head? = some '-')) ∨
    (∃ i0 I' F, PlainRepr (i0 :: I') F ∧ 6 ≤ I'.length ∧ s = i0 :: I' ++ '.' :: F) ∨
    s = ['i', 'n', 'f'] := by
  cases h with
  | small I F h hs => exact Or.inl ⟨go_small I F h hs, (digitHead_ne_plus _ (plain_head I F h)).1, Or.inr (Or.inl h.no_e)⟩
  | big i0 I' F h hb => exact Or.inr (Or.inl ⟨i0, I', F, h, hb, rfl⟩)
  | exp s h => exact Or.inl ⟨go_exp s h, (digitHead_ne_plus _ (exp_head s h)).1, Or.inl h⟩
  | inf => exact Or.inr (Or.inr rfl)
  | neg c r hc => exact Or.inl ⟨go_negative_digit r hc, by simp, Or.inr (Or.inr rfl)⟩

/-- **C13 ⇒ the renderings of two bound texts coincide only if the texts do**, except in two situations the text
    formulation cannot exclude and CPython's `repr` does (see `Props.C13Injective.ReprFacts`):
    (a) two plain texts with more than six integer digits denoting the same number (`go_injective_big`) — `repr` prints
        one shortest text per double;
    (b) a plain text with more than six integer digits whose rendering IS an exponent-form text — `repr` uses the
        exponent form only from `1e16` on, where it does not use the plain form. -/
theorem render_injective (s t : Str) (hs : ReprText s) (ht : ReprText t)
    (heq : floatToGoString s = floatToGoString t) :
    s = t ∨
    (∃ a b c, denote s = some a ∧ denote t = some b ∧ a.eqv c ∧ b.eqv c) ∨
    (ExpRepr t ∧ floatToGoString s = t) ∨ (ExpRepr s ∧ floatToGoString t = s) := by
  have hinf : floatToGoString ['i', 'n', 'f'] = ['+', 'I', 'n', 'f'] := go_special.1
  -- an unchanged text `u` that is the rendering of a big one: `u` is an exponent form, the other two kinds are excluded
  -- by the `e` and the leading digit of the rendering
  have big_eq (u : Str) (i0 : Char) (I' F : Str) (h : PlainRepr (i0 :: I') F) (hb : 6 ≤ I'.length)
      (k : ExpRepr u ∨ 'e' ∉ u ∨ u.head? = some '-') (e : floatToGoString (i0 :: I' ++ '.' :: F) = u) : ExpRepr u := by
    rcases k with k | k | k
    · exact k
    · exact absurd (e ▸ (go_big_has_exponent i0 I' F h hb).1) k
    · exact absurd k (e ▸ (digitHead_ne_plus _ (big_render_head i0 I' F h hb)).2)
  rcases render_cases s hs with ⟨es, ps, ks⟩ | ⟨i0, I', F, h, hb, rfl⟩ | rfl <;>
    rcases render_cases t ht with ⟨et, pt, kt⟩ | ⟨j0, J', G, h2, hb2, rfl⟩ | rfl
  · rw [es, et] at heq
    exact Or.inl heq
  · rw [es] at heq
    exact Or.inr (Or.inr (Or.inr ⟨big_eq s j0 J' G h2 hb2 ks heq.symm, heq.symm⟩))
  · rw [es, hinf] at heq
    exact absurd (heq ▸ rfl) ps
  · rw [et] at heq
    exact Or.inr (Or.inr (Or.inl ⟨big_eq t i0 I' F h hb kt heq, heq⟩))
  · exact Or.inr (Or.inl (go_injective_big i0 j0 I' J' F G h h2 hb hb2 heq))
  · rw [hinf] at heq
    exact absurd (heq ▸ rfl) (digitHead_ne_plus _ (big_render_head i0 I' F h hb)).1
  · rw [et, hinf] at heq
    exact absurd (heq ▸ rfl) pt
  · rw [hinf] at heq
    exact absurd (heq ▸ rfl) (digitHead_ne_plus _ (big_render_head j0 J' G h2 hb2)).1
  · exact Or.inl rfl

end PromVerif.Lemmas.GoInjective
