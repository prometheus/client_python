/-
Lemmas/ConcCompose — the three static disciplines a continuation is checked against, as Boolean functions of the code:

  * data (`discP`, from mode `m`): every `load x` / `store x` happens with the guard held, every `store x u` either follows a
    `load x` of the same critical section or is blind (`ap u` ignores the REGISTER argument: a rebind, a subscript store, an
    `append`), and the guard is never re-acquired while held.  Modes:
       out    — guard not held,
       held   — guard held, the thread's register for `x` not known to be current,
       loaded — guard held and the register equals the cell;
  * iteration (`discItP`): `store x`, `iterBegin x` only with the guard held, the iteration is closed before the guard is
    released;
  * locks (`wf`): brackets match, every acquisition is admitted by `ok`.
The guard and the cell are named by Boolean predicates, so that the disciplines are compositional and invariant under renaming:

  * `disciplines_map`, `wfRun_map`: the discipline of a renamed program is the discipline of the program under the pulled-back predicates — this is
    how a check `decide`d on the CANONICAL code of a generated skeleton (one object of each kind) is transported to the code
    of a call on arbitrary objects;
  * `…_append`: concatenation, through the mode / stack a prefix ends in — this is how a check on single calls extends to
    thread programs of any length.
-/
import PromVerif.Model.Conc

namespace PromVerif.Model.Conc
open PromVerif.Generated.Locks

inductive Mode | out | held | loaded
deriving DecidableEq, Repr

section
variable {L X U L' X' U' : Type}

def discP (isG : L → Bool) (isX : X → Bool) (bl : U → Bool) : List (Micro L X U) → Mode → Bool
  | [], _ => true
  | .acquire l :: r, m => if isG l then decide (m = .out) && discP isG isX bl r .held else discP isG isX bl r m
  | .release l :: r, m => if isG l then decide (m ≠ .out) && discP isG isX bl r .out else discP isG isX bl r m
  | .load y :: r, m => if isX y then decide (m ≠ .out) && discP isG isX bl r .loaded else discP isG isX bl r m
  | .store y u :: r, m =>
    if isX y then (decide (m = .loaded) || (decide (m = .held) && bl u)) && discP isG isX bl r .loaded
    else discP isG isX bl r m
  | .iterBegin _ :: r, m => discP isG isX bl r m
  | .iterEnd _ :: r, m => discP isG isX bl r m
  | .call _ _ :: r, m => discP isG isX bl r m
  | .yield :: r, m => discP isG isX bl r m

/-- the mode a continuation ends in -/
def endModeP (isG : L → Bool) (isX : X → Bool) : List (Micro L X U) → Mode → Mode
  | [], m => m
  | .acquire l :: r, m => if isG l then endModeP isG isX r .held else endModeP isG isX r m
  | .release l :: r, m => if isG l then endModeP isG isX r .out else endModeP isG isX r m
  | .load y :: r, m => if isX y then endModeP isG isX r .loaded else endModeP isG isX r m
  | .store y _ :: r, m => if isX y then endModeP isG isX r .loaded else endModeP isG isX r m
  | .iterBegin _ :: r, m => endModeP isG isX r m
  | .iterEnd _ :: r, m => endModeP isG isX r m
  | .call _ _ :: r, m => endModeP isG isX r m
  | .yield :: r, m => endModeP isG isX r m

theorem discP_append (isG : L → Bool) (isX : X → Bool) (bl : U → Bool) (p q : List (Micro L X U)) (m : Mode) :
    discP isG isX bl (p ++ q) m = (discP isG isX bl p m && discP isG isX bl q (endModeP isG isX p m)) := by
  fun_induction discP isG isX bl p m <;> simp [discP, endModeP, *, Bool.and_assoc]

theorem endModeP_append (isG : L → Bool) (isX : X → Bool) (p q : List (Micro L X U)) (m : Mode) :
    endModeP isG isX (p ++ q) m = endModeP isG isX q (endModeP isG isX p m) := by
  fun_induction endModeP isG isX p m <;> simp [endModeP, *]

theorem discP_mono (isG : L → Bool) (isX : X → Bool) (bl bl' : U → Bool) (hb : ∀ u, bl u = true → bl' u = true)
    (pc : List (Micro L X U)) (m : Mode) (h : discP isG isX bl pc m = true) : discP isG isX bl' pc m = true := by
  fun_induction discP isG isX bl pc m <;>
    simp only [discP, *, if_true, Bool.and_eq_true, Bool.or_eq_true, Bool.false_eq_true, if_false] at h ⊢
  -- what is left are the steps that name the guard or the cell: the local condition is the same
  next ih => exact ⟨h.1, ih h.2⟩
  next ih => exact ⟨h.1, ih h.2⟩
  next ih => exact ⟨h.1, ih h.2⟩
  -- except at a store, the only place `bl` is consulted
  next ih => exact ⟨h.1.imp id (And.imp_right (hb _)), ih h.2⟩

theorem discP_untouched (bl : U → Bool) (pc : List (Micro L X U)) (m : Mode) :
    discP (fun _ => false) (fun _ => false) bl pc m = true ∧ endModeP (fun _ => false) (fun _ => false) pc m = m := by
  induction pc generalizing m with
  | nil => exact ⟨rfl, rfl⟩
  | cons a r ih => cases a <;> exact ih m

/-- a call's code is closed for `(isG, isX)`: disciplined from outside the guard and back outside at the end -/
def ClosedP (isG : L → Bool) (isX : X → Bool) (bl : U → Bool) (pc : List (Micro L X U)) : Prop :=
  discP isG isX bl pc .out = true ∧ endModeP isG isX pc .out = .out

theorem closedP_flatten (isG : L → Bool) (isX : X → Bool) (bl : U → Bool) (ps : List (List (Micro L X U)))
    (h : ∀ p ∈ ps, ClosedP isG isX bl p) : ClosedP isG isX bl ps.flatten := by
  induction ps with
  | nil => exact ⟨rfl, rfl⟩
  | cons p rest ih =>
    obtain ⟨hp, hr⟩ := List.forall_mem_cons.mp h
    simp only [List.flatten_cons, ClosedP, discP_append, endModeP_append, hp.1, hp.2, (ih hr).1, (ih hr).2, Bool.and_self,
      and_self]

def discItP (isG : L → Bool) (isX : X → Bool) : List (Micro L X U) → Bool → Bool → Bool
  | [], _, _ => true
  | .acquire l :: r, h, o => if isG l then !h && discItP isG isX r true o else discItP isG isX r h o
  | .release l :: r, h, o => if isG l then h && !o && discItP isG isX r false false else discItP isG isX r h o
  | .load _ :: r, h, o => discItP isG isX r h o
  | .store y _ :: r, h, o => if isX y then h && discItP isG isX r h o else discItP isG isX r h o
  | .iterBegin y :: r, h, o => if isX y then h && !o && discItP isG isX r h true else discItP isG isX r h o
  | .iterEnd y :: r, h, o => if isX y then o && discItP isG isX r h false else discItP isG isX r h o
  | .call _ _ :: r, h, o => discItP isG isX r h o
  | .yield :: r, h, o => discItP isG isX r h o

/-- (guard held, iteration open) at the end -/
def endItP (isG : L → Bool) (isX : X → Bool) : List (Micro L X U) → Bool → Bool → Bool × Bool
  | [], h, o => (h, o)
  | .acquire l :: r, h, o => if isG l then endItP isG isX r true o else endItP isG isX r h o
  | .release l :: r, h, o => if isG l then endItP isG isX r false false else endItP isG isX r h o
  | .load _ :: r, h, o => endItP isG isX r h o
  | .store _ _ :: r, h, o => endItP isG isX r h o
  | .iterBegin y :: r, h, o => if isX y then endItP isG isX r h true else endItP isG isX r h o
  | .iterEnd y :: r, h, o => if isX y then endItP isG isX r h false else endItP isG isX r h o
  | .call _ _ :: r, h, o => endItP isG isX r h o
  | .yield :: r, h, o => endItP isG isX r h o

theorem discItP_append (isG : L → Bool) (isX : X → Bool) (p q : List (Micro L X U)) (h o : Bool) :
    discItP isG isX (p ++ q) h o =
      (discItP isG isX p h o && discItP isG isX q (endItP isG isX p h o).1 (endItP isG isX p h o).2) := by
  fun_induction discItP isG isX p h o <;> simp [discItP, endItP, *, Bool.and_assoc]

theorem endItP_append (isG : L → Bool) (isX : X → Bool) (p q : List (Micro L X U)) (h o : Bool) :
    endItP isG isX (p ++ q) h o = endItP isG isX q (endItP isG isX p h o).1 (endItP isG isX p h o).2 := by
  fun_induction endItP isG isX p h o <;> simp [endItP, *]

theorem discItP_untouched (pc : List (Micro L X U)) (h o : Bool) :
    discItP (fun _ => false) (fun _ => false) pc h o = true ∧
      endItP (fun _ => false) (fun _ => false) pc h o = (h, o) := by
  induction pc generalizing h o with
  | nil => exact ⟨rfl, rfl⟩
  | cons a r ih => cases a <;> exact ih h o

def ClosedItP (isG : L → Bool) (isX : X → Bool) (pc : List (Micro L X U)) : Prop :=
  discItP isG isX pc false false = true ∧ endItP isG isX pc false false = (false, false)

theorem closedItP_flatten (isG : L → Bool) (isX : X → Bool) (ps : List (List (Micro L X U)))
    (h : ∀ p ∈ ps, ClosedItP isG isX p) : ClosedItP isG isX ps.flatten := by
  induction ps with
  | nil => exact ⟨rfl, rfl⟩
  | cons p rest ih =>
    obtain ⟨hp, hr⟩ := List.forall_mem_cons.mp h
    simp only [List.flatten_cons, ClosedItP, discItP_append, endItP_append, hp.1, hp.2, (ih hr).1, (ih hr).2, Bool.and_self,
      and_self]

theorem disciplines_map (fL : L → L') (fX : X → X') (fU : U → U') (isG : L' → Bool) (isX : X' → Bool) (bl : U' → Bool)
    (pc : List (Micro L X U)) :
    (∀ m, discP isG isX bl (pc.map (Micro.map fL fX fU)) m = discP (isG ∘ fL) (isX ∘ fX) (bl ∘ fU) pc m ∧
      endModeP isG isX (pc.map (Micro.map fL fX fU)) m = endModeP (isG ∘ fL) (isX ∘ fX) pc m) ∧
    ∀ h o, discItP isG isX (pc.map (Micro.map fL fX fU)) h o = discItP (isG ∘ fL) (isX ∘ fX) pc h o ∧
      endItP isG isX (pc.map (Micro.map fL fX fU)) h o = endItP (isG ∘ fL) (isX ∘ fX) pc h o := by
  induction pc with
  | nil => exact ⟨fun _ => ⟨rfl, rfl⟩, fun _ _ => ⟨rfl, rfl⟩⟩
  | cons a r ih =>
    cases a with
    | call b c | yield => exact ih
    | _ =>
      simp only [List.map_cons, Micro.map, discP, endModeP, discItP, endItP, ih, Function.comp_apply, and_self, implies_true]

/-- `discP` and `discItP` run side by side, with the mode and the flags the code ends in; `none` at the first micro-step one of
them rejects.  A check that is evaluated on concrete code traverses it once instead of four times. -/
def scan (isG : L → Bool) (isX : X → Bool) (bl : U → Bool) :
    List (Micro L X U) → Mode → Bool → Bool → Option (Mode × Bool × Bool)
  | [], m, h, o => some (m, h, o)
  | .acquire l :: r, m, h, o =>
    if isG l then
      if m = .out then if h = false then scan isG isX bl r .held true o else none else none
    else scan isG isX bl r m h o
  | .release l :: r, m, h, o =>
    if isG l then
      if m = .out then none else if h = true then if o = false then scan isG isX bl r .out false false else none else none
    else scan isG isX bl r m h o
  | .load y :: r, m, h, o =>
    if isX y then
      if m = .out then none else scan isG isX bl r .loaded h o
    else scan isG isX bl r m h o
  | .store y u :: r, m, h, o =>
    if isX y then
      if h = true then
        if m = .loaded then scan isG isX bl r .loaded h o
        else if m = .held then if bl u = true then scan isG isX bl r .loaded h o else none else none
      else none
    else scan isG isX bl r m h o
  | .iterBegin y :: r, m, h, o =>
    if isX y then
      if h = true then if o = false then scan isG isX bl r m h true else none else none
    else scan isG isX bl r m h o
  | .iterEnd y :: r, m, h, o =>
    if isX y then
      if o = true then scan isG isX bl r m h false else none
    else scan isG isX bl r m h o
  | .call _ _ :: r, m, h, o => scan isG isX bl r m h o
  | .yield :: r, m, h, o => scan isG isX bl r m h o

theorem scan_eq (isG : L → Bool) (isX : X → Bool) (bl : U → Bool) (p : List (Micro L X U)) (m : Mode) (h o : Bool) :
    scan isG isX bl p m h o =
      if (discP isG isX bl p m && discItP isG isX p h o) = true
      then some (endModeP isG isX p m, endItP isG isX p h o) else none := by
  fun_induction scan isG isX bl p m h o <;> simp [discP, discItP, endModeP, endItP, *]

end

section
variable {L X U V : Type} [DecidableEq L] [DecidableEq X]

/-- continuation `pc` is well bracketed from the held stack `hs` (every `release` matches the innermost open `acquire`, all
locks released at the end) and every `acquire l` is admitted by `ok hs l` -/
def wf (ok : List L → L → Bool) : List (Micro L X U) → List L → Bool
  | [], hs => hs.isEmpty
  | .acquire l :: r, hs => ok hs l && wf ok r (l :: hs)
  | .release l :: r, hs =>
    match hs with
    | h :: hs' => decide (h = l) && wf ok r hs'
    | [] => false
  | .load _ :: r, hs => wf ok r hs
  | .store _ _ :: r, hs => wf ok r hs
  | .iterBegin _ :: r, hs => wf ok r hs
  | .iterEnd _ :: r, hs => wf ok r hs
  | .call _ _ :: r, hs => wf ok r hs
  | .yield :: r, hs => wf ok r hs

/-- no condition on acquisitions: plain bracketing -/
def anyOrder : List L → L → Bool := fun _ _ => true

/-- acquisitions go strictly up in rank -/
def rankOrder (rank : L → Nat) : List L → L → Bool := fun hs l => hs.all (fun h => decide (rank h < rank l))

end

section
variable {L X U L' X' U' : Type}

/-- run the bracket/admission check; `some hs'` = passed, ending with held stack `hs'` -/
def wfRun [DecidableEq L] (ok : List L → L → Bool) : List (Micro L X U) → List L → Option (List L)
  | [], hs => some hs
  | .acquire l :: r, hs => if ok hs l then wfRun ok r (l :: hs) else none
  | .release l :: r, hs =>
    match hs with
    | h :: hs' => if h = l then wfRun ok r hs' else none
    | [] => none
  | .load _ :: r, hs => wfRun ok r hs
  | .store _ _ :: r, hs => wfRun ok r hs
  | .iterBegin _ :: r, hs => wfRun ok r hs
  | .iterEnd _ :: r, hs => wfRun ok r hs
  | .call _ _ :: r, hs => wfRun ok r hs
  | .yield :: r, hs => wfRun ok r hs

theorem wf_append [DecidableEq L] (ok : List L → L → Bool) (p q : List (Micro L X U)) (hs hs' : List L)
    (h : wfRun ok p hs = some hs') : wf ok (p ++ q) hs = wf ok q hs' := by
  fun_induction wfRun ok p hs <;> simp_all [wf]

theorem wf_nil [DecidableEq L] (ok : List L → L → Bool) : wf ok ([] : List (Micro L X U)) [] = true := rfl

theorem wf_flatten [DecidableEq L] (ok : List L → L → Bool) (ps : List (List (Micro L X U)))
    (h : ∀ p ∈ ps, wfRun ok p [] = some []) : wf ok ps.flatten [] = true := by
  induction ps with
  | nil => rfl
  | cons p rest ih =>
    obtain ⟨hp, hr⟩ := List.forall_mem_cons.mp h
    rw [List.flatten_cons, wf_append ok p _ [] [] hp]
    exact ih hr

theorem wfRun_map [DecidableEq L] [DecidableEq L'] (fL : L → L') (fX : X → X') (fU : U → U')
    (hinj : ∀ a b, fL a = fL b → a = b) (ok : List L → L → Bool) (ok' : List L' → L' → Bool)
    (hok : ∀ hs l, ok' (hs.map fL) (fL l) = ok hs l) (pc : List (Micro L X U)) (hs : List L) :
    wfRun ok' (pc.map (Micro.map fL fX fU)) (hs.map fL) = (wfRun ok pc hs).map (List.map fL) := by
  induction pc generalizing hs with
  | nil => rfl
  | cons a r ih =>
    cases a with
    | acquire l =>
      simp only [List.map_cons, Micro.map, wfRun, hok]
      split
      · simpa using ih (l :: hs)
      · rfl
    | release l =>
      cases hs with
      | nil => rfl
      | cons h0 hs0 =>
        simp only [List.map_cons, Micro.map, wfRun]
        by_cases he : h0 = l
        · subst he; simp [ih]
        · have : fL h0 ≠ fL l := fun e => he (hinj _ _ e)
          simp [he, this]
    | load x | store x u | iterBegin x | iterEnd x | call b c | yield => exact ih hs

end
end PromVerif.Model.Conc
