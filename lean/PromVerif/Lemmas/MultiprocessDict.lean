/-
Association-list dictionary lemmas and fold principles shared by the C08 / C09 proofs.
-/
import PromVerif.Model.Multiprocess

namespace PromVerif.Model.Multiprocess
set_option autoImplicit false

theorem nodup_concat {α : Type} {l : List α} {a : α} (h : l.Nodup) (ha : a ∉ l) : (l ++ [a]).Nodup := by
  rw [List.nodup_append]
  refine ⟨h, by simp, ?_⟩
  intro x hx y hy e
  rw [List.mem_singleton.mp hy] at e
  exact ha (e ▸ hx)

theorem pid_db_no_sep (pid : List Char) (h : '_' ∉ pid) : '_' ∉ pid ++ ['.', 'd', 'b'] := by
  intro e
  rcases List.mem_append.mp e with e | e
  · exact h e
  · revert e; decide

namespace AL
variable {κ β : Type} [DecidableEq κ]

@[simp] theorem get?_nil (k : κ) : get? ([] : List (κ × β)) k = none := rfl

theorem get?_cons (k' : κ) (v : β) (r : List (κ × β)) (k : κ) :
    get? ((k', v) :: r) k = if k' = k then some v else get? r k := rfl

theorem get?_set (d : List (κ × β)) (k k2 : κ) (v : β) :
    get? (set d k v) k2 = if k = k2 then some v else get? d k2 := by
  induction d with
  | nil => rfl
  | cons x r ih =>
    obtain ⟨k', v'⟩ := x
    rw [set, get?_cons]
    by_cases h : k' = k
    · rw [if_pos h, get?_cons, h]
      split <;> rfl
    · rw [if_neg h, get?_cons, ih]
      by_cases e : k = k2
      · subst e; rw [if_neg h, if_pos rfl, if_pos rfl]
      · rw [if_neg e, if_neg e]

theorem get?_update (d : List (κ × β)) (k k2 : κ) (f : Option β → β) :
    get? (set d k (f (get? d k))) k2 = if k = k2 then some (f (get? d k2)) else get? d k2 := by
  rw [get?_set]
  split
  · next h => rw [h]
  · rfl

theorem get?_set_self (d : List (κ × β)) (k : κ) (v : β) : get? (set d k v) k = some v := by
  rw [get?_set, if_pos rfl]

theorem get?_set_ne (d : List (κ × β)) (k k2 : κ) (v : β) (h : k ≠ k2) : get? (set d k v) k2 = get? d k2 := by
  rw [get?_set, if_neg h]

theorem get?_eq_none_iff (d : List (κ × β)) (k : κ) : get? d k = none ↔ k ∉ keys d := by
  induction d with
  | nil => simp [keys]
  | cons x r ih =>
    obtain ⟨k', v'⟩ := x
    by_cases h : k' = k
    · subst h; simp [get?_cons, keys]
    · have h' : ¬ k = k' := fun e => h e.symm
      simp [get?_cons, h, keys, h'] at ih ⊢
      exact ih

theorem get?_isSome_iff (d : List (κ × β)) (k : κ) : (get? d k).isSome ↔ k ∈ keys d := by
  have := get?_eq_none_iff d k
  cases h : get? d k <;> simp_all

theorem mem_of_get? (d : List (κ × β)) (k : κ) (v : β) (h : get? d k = some v) : (k, v) ∈ d := by
  induction d with
  | nil => simp at h
  | cons x r ih =>
    obtain ⟨k', v'⟩ := x
    by_cases h1 : k' = k
    · subst h1; simp [get?_cons] at h; subst h; simp
    · simp [get?_cons, h1] at h; exact List.mem_cons_of_mem _ (ih h)

theorem get?_of_mem (d : List (κ × β)) (hnd : (keys d).Nodup) (k : κ) (v : β) (h : (k, v) ∈ d) : get? d k = some v := by
  induction d with
  | nil => simp at h
  | cons x r ih =>
    obtain ⟨k', v'⟩ := x
    simp only [keys, List.map_cons, List.nodup_cons] at hnd
    rcases List.mem_cons.mp h with h1 | h1
    · cases h1; simp [get?_cons]
    · have : k' ≠ k := by
        intro e; subst e
        exact hnd.1 (List.mem_map.mpr ⟨(k', v), h1, rfl⟩)
      simp [get?_cons, this]
      exact ih hnd.2 h1

theorem keys_set (d : List (κ × β)) (k : κ) (v : β) :
    keys (set d k v) = if k ∈ keys d then keys d else keys d ++ [k] := by
  induction d with
  | nil => simp [set, keys]
  | cons x r ih =>
    obtain ⟨k', v'⟩ := x
    by_cases h : k' = k
    · subst h; simp [set, keys]
    · have h' : ¬ k = k' := fun e => h e.symm
      simp only [set, h, if_false, keys, List.map_cons, List.mem_cons, h', false_or] at ih ⊢
      rw [ih]
      split <;> simp [*]

theorem mem_keys_set (d : List (κ × β)) (k k2 : κ) (v : β) : k2 ∈ keys (set d k v) ↔ k2 = k ∨ k2 ∈ keys d := by
  rw [keys_set]
  split
  · next h => exact ⟨Or.inr, fun h2 => h2.elim (fun e => e ▸ h) id⟩
  · simp [or_comm]

theorem nodup_set (d : List (κ × β)) (k : κ) (v : β) (h : (keys d).Nodup) : (keys (set d k v)).Nodup := by
  rw [keys_set]
  split
  · exact h
  · next hk => exact nodup_concat h hk

theorem getD_eq (d : List (κ × β)) (k : κ) (x : β) : getD d k x = (get? d k).getD x := rfl

/-- `d[k] = v` for each pair in order -/
def setAll (d : List (κ × β)) (e : List (κ × β)) : List (κ × β) := e.foldl (fun s kv => set s kv.1 kv.2) d

theorem nodup_setAll (e d : List (κ × β)) (h : (keys d).Nodup) : (keys (setAll d e)).Nodup := by
  induction e generalizing d with
  | nil => exact h
  | cons x r ih => exact ih _ (nodup_set d x.1 x.2 h)

theorem setAll_append (d e1 e2 : List (κ × β)) : setAll d (e1 ++ e2) = setAll (setAll d e1) e2 := by
  simp [setAll, List.foldl_append]

theorem get?_setAll (e d : List (κ × β)) (hnd : (keys e).Nodup) (k : κ) :
    get? (setAll d e) k = match get? e k with | some v => some v | none => get? d k := by
  induction e generalizing d with
  | nil => simp [setAll]
  | cons x r ih =>
    obtain ⟨k', v'⟩ := x
    simp only [keys, List.map_cons, List.nodup_cons] at hnd
    have := ih (set d k' v') hnd.2
    simp only [setAll, List.foldl_cons] at this ⊢
    rw [this]
    by_cases h : k' = k
    · subst h
      have hn : get? r k' = none := (get?_eq_none_iff r k').mpr hnd.1
      simp [hn, get?_cons, get?_set_self]
    · simp [get?_cons, h, get?_set_ne _ _ _ _ h]

theorem mem_keys_setAll (e d : List (κ × β)) (k : κ) : k ∈ keys (setAll d e) ↔ k ∈ keys e ∨ k ∈ keys d := by
  induction e generalizing d with
  | nil => simp [setAll, keys]
  | cons x r ih =>
    have := ih (set d x.1 x.2)
    simp only [setAll, List.foldl_cons] at this ⊢
    rw [this, mem_keys_set]
    simp only [keys, List.map_cons, List.mem_cons, or_assoc, or_left_comm]

end AL

theorem foldl_proj' {σ α κ π : Type} (step : σ → α → σ) (sel : α → κ → Bool) (proj : σ → κ → π)
    (h : π → α → π)
    (hstep : ∀ s x k, proj (step s x) k = if sel x k = true then h (proj s k) x else proj s k) :
    ∀ (xs : List α) (s : σ) (k : κ),
      proj (xs.foldl step s) k = (xs.filter (fun x => sel x k)).foldl h (proj s k) := by
  intro xs
  induction xs with
  | nil => intro s k; rfl
  | cons x r ih =>
    intro s k
    simp only [List.foldl_cons]
    rw [ih, hstep]
    by_cases hk : sel x k = true
    · simp [hk]
    · simp [hk]

theorem foldl_proj {σ α κ π : Type} [DecidableEq κ] (step : σ → α → σ) (key : α → κ) (proj : σ → κ → π)
    (h : π → α → π)
    (hstep : ∀ s x k, proj (step s x) k = if key x = k then h (proj s k) x else proj s k) :
    ∀ (xs : List α) (s : σ) (k : κ),
      proj (xs.foldl step s) k = (xs.filter (fun x => key x = k)).foldl h (proj s k) :=
  foldl_proj' step (fun x k => decide (key x = k)) proj h (fun s x k => by simp only [hstep, decide_eq_true_eq])

theorem keys_foldl_set {κ β α : Type} [DecidableEq κ] (key : α → κ) (val : List (κ × β) → α → β) (xs : List α)
    (d : List (κ × β)) :
    AL.keys (xs.foldl (fun d x => AL.set d (key x) (val d x)) d)
      = (xs.map key).foldl (fun acc a => if a ∈ acc then acc else acc ++ [a]) (AL.keys d) := by
  induction xs generalizing d with
  | nil => rfl
  | cons x r ih =>
    simp only [List.foldl_cons, List.map_cons]
    rw [ih, AL.keys_set]

theorem foldl_inv {σ α : Type} (step : σ → α → σ) (P : σ → Prop) (hstep : ∀ s x, P s → P (step s x)) :
    ∀ (xs : List α) (s : σ), P s → P (xs.foldl step s) := by
  intro xs
  induction xs with
  | nil => intro s h; exact h
  | cons x r ih => intro s h; exact ih _ (hstep s x h)

theorem foldlM_ok {σ α : Type} (stepE : σ → α → PromVerif.Py.PyM σ) (step : σ → α → σ) :
    ∀ (xs : List α) (s : σ), (∀ s' x, x ∈ xs → stepE s' x = .ok (step s' x)) →
      xs.foldlM stepE s = .ok (xs.foldl step s) := by
  intro xs
  induction xs with
  | nil => intro s _; rfl
  | cons x r ih =>
    intro s h
    rw [List.foldlM_cons, h s x (List.mem_cons_self)]
    exact ih (step s x) (fun s' y hy => h s' y (List.mem_cons_of_mem _ hy))

theorem mapM_error {α β : Type} (fE : α → PromVerif.Py.PyM β) (xs : List α)
    (h : ∃ x ∈ xs, ∃ e, fE x = .error e) : ∃ e, xs.mapM fE = .error e := by
  induction xs with
  | nil => obtain ⟨x, hx, _⟩ := h; cases hx
  | cons x r ih =>
    rw [List.mapM_cons]
    cases hx : fE x with
    | error e => exact ⟨e, rfl⟩
    | ok b =>
      obtain ⟨y, hy, e, he⟩ := h
      rcases List.mem_cons.mp hy with h1 | h1
      · subst h1; rw [hx] at he; cases he
      · obtain ⟨e', he'⟩ := ih ⟨y, h1, e, he⟩
        exact ⟨e', by rw [he']; rfl⟩

end PromVerif.Model.Multiprocess
