/-
From the sample lines of a histogram family to the list `_check_histogram` receives, and from a failure of
`_check_histogram` to the failure of the document.  `_check_histogram` runs when the family is CLOSED:
(1) a state whose samples make it fail, followed by a closing line, fails; (2) a state whose samples make it fail
whatever is appended dooms every continuation; (3) consecutive new-series sample lines of the family reach the sample
list unchanged and in order (a line repeating a series at an unchanged timestamp is dropped).
-/
import PromVerif.Lemmas.OMHist
import PromVerif.Lemmas.OMGroup

namespace PromVerif.Lemmas.OM
open PromVerif.Py PromVerif.Model.ParseCore PromVerif.Model.OMParse PromVerif.Generated.OMParse
open PromVerif.Spec.OMRules

theorem checkHistogram_of_segment (P : Params) (n : Str) (seg : List OSample)
    (h : ∀ h0, isError (histLoop P n h0 seg) = true) (S0 ext : List OSample) :
    isError (checkHistogram P (S0 ++ seg ++ ext) n) = true := by
  rw [List.append_assoc]
  refine hist_of_suffix P n S0 _ fun h0 => ?_
  rw [histFinish_append]
  obtain ⟨e, he⟩ := error_of_isError (h h0)
  rw [he]; rfl

theorem bounds_pair_loop (P : Params) (n : Str) (s1 s2 : OSample) (b1 b2 : Nat) (g1 g2 : Labels)
    (hb1 : IsBucket P n s1 b1 g1) (hb2 : IsBucket P n s2 b2 g2) (hsame : SameHistGroup P g1 g2 s1.ts s2.ts)
    (hle : P.le (.flt b2) (.flt b1) = true) (h0 : HSt) : isError (histLoop P n h0 [s1, s2]) = true := by
  obtain ⟨hsg, hst⟩ := hsame
  simp only [histLoop]
  cases hs1 : histStep P n h0 s1 with
  | error e => rfl
  | ok h1 =>
    dsimp only
    obtain ⟨e1, e2, e3, _⟩ := histStep_bucket_ok P n h0 h1 s1 b1 g1 hb1 hs1
    -- the same group: no reset, and the bound is compared with the one the first line left
    rw [histStep_bucket P n h1 s2 b2 g2 hb2, histReset_same P h1 g2 g1 s2.ts e2 hsg (by rw [e3]; exact hst)]
    dsimp only
    rw [e1]
    have : P.cmp bucketOrderCmp (.flt b2) (.flt b1) = true := hle
    simp only [this, raiseIf, if_true]
    rfl

theorem counts_pair_loop (P : Params) (n : Str) (s1 s2 : OSample) (b1 b2 : Nat) (g1 g2 : Labels) (v1 v2 : Num)
    (hb1 : IsBucket P n s1 b1 g1) (hb2 : IsBucket P n s2 b2 g2) (hsame : SameHistGroup P g1 g2 s1.ts s2.ts)
    (hv1 : s1.value = some v1) (hv2 : s2.value = some v2) (hlt : P.lt v2 v1 = true) (h0 : HSt) :
    isError (histLoop P n h0 [s1, s2]) = true := by
  obtain ⟨hsg, hst⟩ := hsame
  simp only [histLoop]
  cases hs1 : histStep P n h0 s1 with
  | error e => rfl
  | ok h1 =>
    dsimp only
    obtain ⟨_, e2, e3, e4⟩ := histStep_bucket_ok P n h0 h1 s1 b1 g1 hb1 hs1
    rw [histStep_bucket P n h1 s2 b2 g2 hb2, histReset_same P h1 g2 g1 s2.ts e2 hsg (by rw [e3]; exact hst)]
    dsimp only
    -- whatever the order test says, the count test fails
    generalize raiseIf _ = order
    cases order with
    | error e => rfl
    | ok _ =>
      rw [hv2, e4, hv1]
      have : P.cmpOpt bucketValueCmp (some v2) (some v1) = .ok true := by
        show Except.ok (P.cmp bucketValueCmp v2 v1) = _
        have : P.cmp bucketValueCmp v2 v1 = P.lt v2 v1 := rfl
        rw [this, hlt]
      rw [this]
      rfl

/-- the series id the parser uses for duplicate suppression -/
def sidOf (s : OSample) : Str × Labels := (s.name, sortByKey (s.labels.getD []))

theorem groupStep_gts (P : Params) (gr gr' : Grp) (n t : Str) (s : OSample) (h : groupStep P gr n t s = .ok gr') :
    (∀ x ∈ gr'.gtsSamples, x ∈ gr.gtsSamples ∨ x = sidOf s) ∧
    (sidOf s ∉ gr.gtsSamples → gr'.samples = gr.samples ++ [s]) := by
  obtain ⟨g, ls, _, hl, rfl⟩ := groupStep_eq P gr gr' n t s h
  have hsid : sidOf s = (s.name, sortByKey ls) := by
    cases hs : s.labels with
    | none => simp only [labelsOrAttr, hs] at hl; cases hl
    | some l => simp only [labelsOrAttr, hs] at hl; cases hl; unfold sidOf; rw [hs]; rfl
  have hsub : ∀ x ∈ (if gr.group.isSome && gr.group == some g then gr.gtsSamples else []), x ∈ gr.gtsSamples := by
    intro x hx
    split at hx
    · exact hx
    · cases hx
  dsimp only
  generalize (if gr.group.isSome && gr.group == some g then gr.gtsSamples else []) = gts at hsub ⊢
  constructor
  · intro x hx
    by_cases c : gts.contains (s.name, sortByKey ls) = true
    · rw [if_pos c] at hx; exact Or.inl (hsub x hx)
    · rw [if_neg c] at hx
      rcases List.mem_append.mp hx with h3 | h3
      · exact Or.inl (hsub x h3)
      · rw [List.mem_singleton.mp h3, hsid]; exact Or.inr rfl
  · intro hnot
    have : gts.contains (s.name, sortByKey ls) = false := by
      simpa using fun hc => hnot (by rw [hsid]; exact hsub _ hc)
    rw [this]
    simp

theorem sidOf_eq (s : OSample) : sidOf s = seriesOf s := rfl

/-- every series the current group remembers satisfies `S` -/
def GtsIn (S : Str × Labels → Prop) (st : St) : Prop := ∀ x ∈ st.grp.gtsSamples, S x

theorem gtsIn_step (P : Params) (S : Str × Labels → Prop) (n t : Str) (st st' : St) (l : Line)
    (hh : HdrIs n t st.hdr ∧ st.eof = false) (hg : GtsIn S st) (hl : InFamM n t l)
    (hS : ∀ nh s, l = .sample nh (.ok s) → S (sidOf s)) (h : stepLine P st l = .ok st') : GtsIn S st' := by
  obtain ⟨hh, heof⟩ := hh
  obtain ⟨_, hc⟩ := stepLine_ok P st st' _ h
  rcases hc with ⟨h0, _⟩ | ⟨kind, cand, rest, hl', hm⟩ | ⟨nh, plain, s, isNh, hl', hp, hs⟩
  · subst h0; cases hl
  · subst hl'
    simp only [InFamM] at hl
    subst hl
    rcases stepMeta_ok P st st' _ _ _ hm with ⟨hne, _⟩ | ⟨hn, hd, ha, rfl⟩
    · exact absurd hh.1 hne
    · exact hg
  · subst hl'
    simp only [InFamM] at hl
    rcases pickSample_ok _ _ _ _ _ hp with hnh | ⟨hnh, hpl⟩
    · subst hnh
      rcases stepSample_ok P st st' s true hs with ⟨c, _⟩ | ⟨_, gr, hsc, rfl⟩
      · simp at c
      · rw [sampleChecks_nh] at hsc
        obtain rfl := Except.ok.inj hsc
        exact hg
    · subst hnh
      have hall : st.hdr.allowed.contains s.name = true := by
        rw [hh.2.2]; exact hl s hpl
      rcases stepSample_ok P st st' s false hs with ⟨c, _⟩ | ⟨_, gr, hsc, rfl⟩
      · rw [hall] at c; simp at c
      · have hgs := sampleChecks_ok P st.hdr st.grp gr s n hh.1 hsc
        obtain ⟨hsub, _⟩ := groupStep_gts P st.grp gr n _ s hgs
        intro x hx
        rcases hsub x hx with h1 | rfl
        · exact hg x h1
        · exact hS nh s (by rw [hpl])

theorem flush_fails_hist (P : Params) (n t : Str) (ht : t = cs!"histogram" ∨ t = cs!"gaugehistogram") (g : Glob) (h : Hdr)
    (samples : List OSample) (hn : h.name = some n) (hty : h.typ = some t) (he : isError (checkHistogram P samples n) = true) :
    isError (flush P g h samples) = true := by
  refine flush_fails P g h samples n hn
    (if histTypes.contains (h.typ.getD tUnknown) then checkHistogram P samples n else .ok ()) (by simp [buildChecks]) ?_
  have : histTypes.contains (h.typ.getD tUnknown) = true := by
    rw [hty]; rcases ht with rfl | rfl <;> decide
  rw [if_pos this]
  exact he

theorem checkHistogram_nil (P : Params) (n : Str) : isError (checkHistogram P [] n) = false := rfl

/-- (1) -/
theorem closes_fails (P : Params) (n t : Str) (ht : t = cs!"histogram" ∨ t = cs!"gaugehistogram") (st : St)
    (hh : HdrIs n t st.hdr) (he : isError (checkHistogram P st.grp.samples n) = true)
    (rest : List Line) (hc : FamilyCloses n t rest) : isError (finishRun P st rest) = true := by
  have hfl := flush_fails_hist P n t ht st.glob st.hdr st.grp.samples hh.1 hh.2.1 he
  have hne : st.grp.samples ≠ [] := by
    intro e; rw [e, checkHistogram_nil] at he; cases he
  rcases hc with rfl | ⟨l, tl, rfl, hl⟩
  · exact finish_fails P st hfl
  · refine isError_after_step P st _ _ fun st' hs => ?_
    obtain ⟨_, hcs⟩ := stepLine_ok P st st' _ hs
    rcases hcs with ⟨rfl, rfl⟩ | ⟨kind, cand, r, rfl, hm⟩ | ⟨nh, plain, s, isNh, rfl, hp, hss⟩
    · cases tl with
      | nil => exact finish_fails P _ hfl
      | cons l' tl' =>
        exact isError_of_step P l' tl' _ (by simp [stepLine, isError])
    · exfalso
      rcases stepMeta_ok P st st' _ _ _ hm with ⟨_, g, _, hf, _, _⟩ | ⟨hn', hd', ha, rfl⟩
      · rw [hf] at hfl; cases hfl
      · rw [stepMeta_late P st kind cand r hn' hne] at hm; cases hm
    · exfalso
      rcases hl with hl | ⟨s0, hl, hnot⟩
      · exact hl nh plain rfl
      · unfold smp at hl
        cases hl
        rw [pickSample_smp] at hp
        cases hp
        have hnc : st.hdr.allowed.contains s.name = false := by
          rw [hh.2.2, ← familyNames_eq]
          simpa using hnot
        rcases stepSample_ok P st st' s false hss with ⟨_, g, _, _, hf, _, _, _⟩ | ⟨c, _⟩
        · rw [hf] at hfl; cases hfl
        · rw [hnc] at c; simp at c

/-- the family `n` of histogram type `t` is current and `_check_histogram` fails on its samples whatever is appended -/
def HistStable (P : Params) (n t : Str) (st : St) : Prop :=
  st.hdr.name = some n ∧ st.hdr.typ = some t ∧ ∀ ext, isError (checkHistogram P (st.grp.samples ++ ext) n) = true

/-- (2): a line that closes the family flushes it, and a sample line of the family only appends -/
theorem hist_stable_doom (P : Params) (n t : Str) (ht : t = cs!"histogram" ∨ t = cs!"gaugehistogram") :
    ∀ (ls : List Line) (st : St), HistStable P n t st → isError (finishRun P st ls) = true := by
  have hfail : ∀ st, HistStable P n t st → isError (checkHistogram P st.grp.samples n) = true :=
    fun st hd => by simpa using hd.2.2 []
  refine doom_state P (HistStable P n t) (fun st hd => flush_fails_hist P n t ht st.glob st.hdr st.grp.samples hd.1 hd.2.1 (hfail st hd)) ?_
  intro st st' l hd hs
  have he0 := hfail st hd
  obtain ⟨hn, hty, he⟩ := hd
  have hfl := flush_fails_hist P n t ht st.glob st.hdr st.grp.samples hn hty he0
  have hne : st.grp.samples ≠ [] := by
    intro e; rw [e, checkHistogram_nil] at he0; cases he0
  obtain ⟨_, hc⟩ := stepLine_ok P st st' _ hs
  rcases hc with ⟨_, rfl⟩ | ⟨kind, cand, rest, _, hm⟩ | ⟨nh, plain, s, isNh, _, _, hss⟩
  · exact ⟨hn, hty, he⟩
  · rcases stepMeta_ok P st st' _ _ _ hm with ⟨_, g, _, hf, _, _⟩ | ⟨hn', hd', ha, rfl⟩
    · rw [hf] at hfl; cases hfl
    · rw [stepMeta_late P st kind cand rest hn' hne] at hm; cases hm
  · rcases stepSample_ok P st st' s isNh hss with ⟨_, g, _, _, hf, _, _, _⟩ | ⟨_, gr, hsc, rfl⟩
    · rw [hf] at hfl; cases hfl
    · refine ⟨hn, hty, fun ext => ?_⟩
      show isError (checkHistogram P (gr.samples ++ ext) n) = true
      rcases sampleChecks_appends P st.hdr st.grp gr s isNh hsc with e | ⟨e, _⟩
      · rw [e, List.append_assoc]; exact he _
      · rw [e]; exact he _

/-- (3): a line is appended unless the group remembers its series, and what the group remembers are series of lines it
was given -/
theorem run_fresh (P : Params) (n t : Str) : ∀ (grp : List OSample) (S : Str × Labels → Prop) (st st' : St),
    HdrIs n t st.hdr → st.eof = false → GtsIn S st → (∀ s ∈ grp, s.name ∈ familyNames n t) →
    (∀ x ∈ grp, ¬ S (sidOf x)) → (grp.map sidOf).Nodup → run P st (grp.map smp) = .ok st' →
    st'.hdr = st.hdr ∧ st'.grp.samples = st.grp.samples ++ grp := by
  intro grp
  induction grp with
  | nil =>
    intro S st st' _ _ _ _ _ _ h
    simp only [List.map_nil, run] at h
    cases h
    exact ⟨rfl, by simp⟩
  | cons s grp ih =>
    intro S st st' hh heof hg hnames hfresh hnd h
    simp only [List.map_cons, run] at h
    cases hs : stepLine P st (smp s) with
    | error e => rw [hs] at h; cases h
    | ok st1 =>
      rw [hs] at h
      dsimp only at h
      obtain ⟨gr1, hg1, rfl⟩ := smp_step P st st1 n t s hh heof (hnames s (by simp)) hs
      obtain ⟨hsub, happ⟩ := groupStep_gts P st.grp gr1 n _ s hg1
      have hnd' : sidOf s ∉ grp.map sidOf ∧ (grp.map sidOf).Nodup := List.nodup_cons.mp hnd
      obtain ⟨f1, f3⟩ := ih (fun x => S x ∨ x = sidOf s) { st with grp := gr1 } st' hh heof
        (fun x hx => (hsub x hx).imp (hg x) id)
        (fun x hx => hnames x (by simp [hx]))
        (fun x hx hor => by
          rcases hor with h5 | h5
          · exact hfresh x (by simp [hx]) h5
          · exact hnd'.1 (h5 ▸ List.mem_map_of_mem hx))
        hnd'.2 h
      exact ⟨f1, by rw [f3, happ fun hin => hfresh s (by simp) (hg _ hin)]; simp⟩

theorem gts_after_type (P : Params) (n t : Str) (st st1 : St) (hk : KeptInv st.grp)
    (hs1 : stepLine P st (.metadata kwType n t) = .ok st1) : st1.grp.gtsSamples = [] := by
  have hm := stepLine_meta_ok P st st1 _ _ _ hs1
  rcases stepMeta_ok P st st1 _ _ _ hm with ⟨_, g, hd, _, _, rfl⟩ | ⟨hn, hd, _, rfl⟩
  · rfl
  · -- the same family goes on: it has no sample yet (a metadata line after one is refused), hence nothing remembered
    by_cases hgt : st.grp.gtsSamples = []
    · exact hgt
    · rw [stepMeta_late P st _ _ _ hn (hk hgt)] at hm; cases hm

/-- `# TYPE n t` (a histogram type), lines of the family, new-series sample lines `grp` of the family, then `rest`: if
`_check_histogram` fails on every list that ends with `grp` and `rest` closes the family, or fails on every list that
contains `grp` as a segment, the document fails -/
theorem hist_group_doc (P : Params) (n t : Str) (ht : t = cs!"histogram" ∨ t = cs!"gaugehistogram")
    (mid rest : List Line) (grp : List OSample) (st : St) (hk : KeptInv st.grp)
    (hmid : ∀ l ∈ mid, InFamM n t l) (hnames : ∀ s ∈ grp, s.name ∈ familyNames n t) (hnd : (grp.map sidOf).Nodup)
    (hfresh : ∀ nh s, Line.sample nh (.ok s) ∈ mid → ∀ x ∈ grp, sidOf s ≠ sidOf x)
    (hbad : (FamilyCloses n t rest ∧ ∀ S0, isError (checkHistogram P (S0 ++ grp) n) = true) ∨
      (∀ S0 ext, isError (checkHistogram P (S0 ++ grp ++ ext) n) = true)) :
    isError (finishRun P st (.metadata kwType n t :: (mid ++ (grp.map smp ++ rest)))) = true := by
  -- the series the group may remember when `grp` begins: those of the sample lines of `mid`
  let S : Str × Labels → Prop := fun x => ∃ nh s, Line.sample nh (.ok s) ∈ mid ∧ x = sidOf s
  refine block_prefix P n t mid _ st (GtsIn S) (fun l => ∀ nh s, l = .sample nh (.ok s) → S (sidOf s))
    (fun l hl => ⟨hmid l hl, fun nh s e => ⟨nh, s, e ▸ hl, rfl⟩⟩)
    (fun st1 hs1 x hx => by rw [gts_after_type P n t st st1 hk hs1] at hx; cases hx)
    (fun s l s' hh hq hl hS hs => gtsIn_step P S n t s s' l hh hq hl hS hs) ?_
  intro st2 hh2 heof2 hg2
  refine isError_after_run P st2 _ _ fun st3 hr3 => ?_
  obtain ⟨e1, e3⟩ := run_fresh P n t grp S st2 st3 hh2 heof2 hg2 hnames
    (fun x hx ⟨nh, s, hin, he⟩ => hfresh nh s hin x hx he.symm) hnd hr3
  rw [← e1] at hh2
  rcases hbad with ⟨hcl, hb⟩ | hb
  · exact closes_fails P n t ht st3 hh2 (by rw [e3]; exact hb _) rest hcl
  · apply hist_stable_doom P n t ht rest st3
    exact ⟨hh2.1, hh2.2.1, fun ext => by rw [e3]; exact hb _ ext⟩

end PromVerif.Lemmas.OM
