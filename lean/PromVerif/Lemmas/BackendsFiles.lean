/-
C12: from the directory of the file-backed run to the collector's input.  The directory is the listing of `SFile`s
(type, mode, pid, entries) the C08 theorems speak about (`files_eq`), and the contributions to the family of metric `d`
are exactly the entries of its value objects, child by child in creation order (`contribs_eq`).
-/
import PromVerif.Lemmas.BackendsRun
import PromVerif.Lemmas.MultiprocessCompose

namespace PromVerif.Lemmas.Backends
open PromVerif.Py PromVerif.Generated.Multiprocess
open PromVerif.Model.Metrics (Val Decl Kind Child Action)
open PromVerif.Model.Multiprocess
open PromVerif.Model.Values
open PromVerif.Model.Backends
open PromVerif.Spec.Metrics (Hist)
open PromVerif.Spec.Multiprocess
set_option autoImplicit false
set_option linter.unusedSectionVars false

variable {V : Type} [Val V]

/-- the file prefix of a gauge starts with `g`, that of the other three types does not -/
theorem gauge_prefix_head (m : Str) : ("gauge".toList ++ gaugePrefixSep ++ m).head? = some 'g' := by
  have : "gauge".toList = ['g', 'a', 'u', 'g', 'e'] := String.toList_ofList ..
  rw [this]; rfl

theorem nongauge_head (d : MDecl V) (hs : Supported d) (hg : isGauge d = false) :
    (typStr d.decl.kind).head? ≠ some 'g' := by
  unfold Supported at hs
  unfold isGauge at hg
  cases hk : d.decl.kind <;> simp only [hk] at hs hg
  · exact (by decide +kernel : ("counter".toList).head? ≠ some 'g')
  · cases hg
  · exact (by decide +kernel : ("summary".toList).head? ≠ some 'g')
  · exact (by decide +kernel : ("histogram".toList).head? ≠ some 'g')

theorem flatMap_congr_mem {α β : Type} (l : List α) (f g : α → List β) (h : ∀ x ∈ l, f x = g x) :
    l.flatMap f = l.flatMap g := by
  rw [List.flatMap_def, List.flatMap_def, List.map_congr_left h]

theorem prefix_inj (d d' : MDecl V) (hs : Supported d) (hs' : Supported d') (h : prefixOf d = prefixOf d') :
    typStr d.decl.kind = typStr d'.decl.kind ∧ modeOfDecl d = modeOfDecl d' := by
  unfold prefixOf modeOfDecl at *
  cases hg : isGauge d <;> cases hg' : isGauge d' <;> simp only [hg, hg', Bool.false_eq_true, if_false, if_true] at h ⊢
  · exact ⟨h, trivial⟩
  · have := congrArg List.head? h
    rw [gauge_prefix_head] at this
    exact absurd this (nongauge_head d hs hg)
  · have := congrArg List.head? h
    rw [gauge_prefix_head] at this
    exact absurd this.symm (nongauge_head d' hs' hg')
  · rw [kind_of_isGauge d hg, kind_of_isGauge d' hg']
    exact ⟨rfl, List.append_cancel_left h⟩

/-- the `(type, mode, pid, entries)` view of one file of the directory -/
def sfileOf (ps : List Params) (pid : Str) (f : Str × Store V) : SFile V :=
  match ps.find? (fun p => decide (fileOf pid p = f.1)) with
  | some p => ⟨p.typ, p.mode, pid, f.2⟩
  | none => ⟨[], [], pid, f.2⟩

def sfilesOf (ps : List Params) (pid : Str) (st : St V) : List (SFile V) := st.disk.map (sfileOf ps pid)

theorem sfileOf_found (ps : List Params) (pid : Str) (f : Str × Store V) (h : ∃ p ∈ ps, fileOf pid p = f.1) :
    ∃ p ∈ ps, fileOf pid p = f.1 ∧ sfileOf ps pid f = ⟨p.typ, p.mode, pid, f.2⟩ := by
  unfold sfileOf
  cases hf : ps.find? (fun p => decide (fileOf pid p = f.1)) with
  | none =>
    obtain ⟨p, hp, e⟩ := h
    have := List.find?_eq_none.mp hf p hp
    simp [e] at this
  | some p =>
    have h1 := List.find?_some hf
    exact ⟨p, List.mem_of_find?_eq_some hf, by simpa using h1, rfl⟩

theorem files_eq (pid : Str) (ps : List Params) (st : St V) (hv : VInv (voOf V) pid st)
    (hps : st.values.map (·.params) = ps) : files st = (sfilesOf ps pid st).map toFile := by
  unfold files sfilesOf
  rw [List.map_map]
  apply List.map_congr_left
  intro f hf
  have hk : f.1 ∈ AL.keys st.disk := List.mem_map_of_mem hf
  obtain ⟨p, hp, e⟩ := hv.origin f.1 hk
  obtain ⟨q, _, e1, e2⟩ := sfileOf_found ps pid f ⟨p, hps ▸ hp, e⟩
  simp only [Function.comp, e2, toFile]
  congr 1
  exact e1.symm

/-- the entries the value objects of metric `d` own, as contributions -/
def expContribs (d : MDecl V) (pid : Str) (disk : List (Str × Store V)) (h : Hist V) : List (Contrib V) :=
  (childList d h).flatMap (fun ka => (cellParams d ka.1).map (fun p =>
    ⟨typStr d.decl.kind, modeOfDecl d, pid, mmapKey p,
      (cellVal (voOf V) disk (fileOf pid p) (mmapKey p)).1, (cellVal (voOf V) disk (fileOf pid p) (mmapKey p)).2⟩))

section family
variable {ds : List (MDecl V)} {pid : Str} {hs : List (Hist V)} {ps : List Params} {st : St V} (hc : Core ds pid hs ps st)
include hc

theorem Core.params_of_metric {i : Nat} {d : MDecl V} {h : Hist V} (hd : ds[i]? = some d) (hh : hs[i]? = some h)
    {p : Params} (hp : p ∈ ps) (hm : p.metric = d.decl.name) :
    fileOf pid p = fileName (prefixOf d) pid ∧ p.typ = typStr d.decl.kind ∧ p.mode = modeOfDecl d := by
  obtain ⟨ka, _, hpc⟩ := ((hc.metric i d h hd hh).mem_cells p).mpr ⟨hp, hm⟩
  have h1 := cellParams_metric d ka.1 p hpc
  exact ⟨by unfold fileOf; rw [h1.2.2.1], h1.2.2.2⟩

theorem Core.file_mem {p : Params} (hp : p ∈ ps) : fileOf pid p ∈ AL.keys st.disk := by
  have hmem : mmapKey p ∈ AL.keys (storeOf st.disk (fileOf pid p)) := by
    rw [hc.vinv.keys (fileOf pid p), hc.psEq]
    exact List.mem_map_of_mem (List.mem_filter.mpr ⟨hp, decide_eq_true rfl⟩)
  exact (AL.get?_isSome_iff st.disk _).mp (file_of_cell st.disk _ (mmapKey p) ((AL.get?_isSome_iff _ _).mpr hmem))

theorem Core.filter_file {i : Nat} {d : MDecl V} {h : Hist V} (hd : ds[i]? = some d) (hh : hs[i]? = some h) (fn : Str) :
    (ps.filter (fun p => decide (fileOf pid p = fn))).filter (fun p => decide ((mmapKey p).metric = d.decl.name))
      = if fn = fileName (prefixOf d) pid then ps.filter (fun p => decide (p.metric = d.decl.name)) else [] := by
  rw [List.filter_filter]
  have hpt : ∀ p ∈ ps, (decide ((mmapKey p).metric = d.decl.name) && decide (fileOf pid p = fn))
      = (decide (p.metric = d.decl.name) && decide (fn = fileName (prefixOf d) pid)) := by
    intro p hp
    by_cases hm : p.metric = d.decl.name
    · simp [mmapKey, hm, (hc.params_of_metric hd hh hp hm).1, eq_comm]
    · simp [mmapKey, hm]
  rw [List.filter_congr hpt]
  split
  · next efn => simp [efn]
  · next efn => simp [efn]

variable (hwf : WFAll ds)
include hwf

theorem Core.typ_mode_of_file (hlen : hs.length = ds.length) {d : MDecl V} (hdm : d ∈ ds) {q : Params} (hq : q ∈ ps)
    (e : fileOf pid q = fileName (prefixOf d) pid) : q.typ = typStr d.decl.kind ∧ q.mode = modeOfDecl d := by
  obtain ⟨d', hd', hqm⟩ := hc.known q hq
  obtain ⟨j, hj⟩ := List.mem_iff_getElem?.mp hd'
  have hh' := List.getElem?_eq_getElem (l := hs) (hlen ▸ (List.getElem?_eq_some_iff.mp hj).1)
  obtain ⟨g0, g1, g2⟩ := hc.params_of_metric hj hh' hq hqm
  have hpre : prefixOf d' = prefixOf d := fileName_inj_prefix _ _ _ (g0.symm.trans e)
  have := prefix_inj d' d (hwf.decls d' hd').sup (hwf.decls d hdm).sup hpre
  exact ⟨g1.trans this.1, g2.trans this.2⟩

theorem contribs_file (hlen : hs.length = ds.length) {i : Nat} {d : MDecl V} {h : Hist V} (hd : ds[i]? = some d)
    (hh : hs[i]? = some h) (f : Str × Store V) (hf : f ∈ st.disk) :
    (contribsOf (sfileOf ps pid f)).filter (fun c => decide (c.key.metric = d.decl.name))
      = if f.1 = fileName (prefixOf d) pid then expContribs d pid st.disk h else [] := by
  have hv := hc.vinv
  obtain ⟨p0, hp0, e0⟩ := hv.origin f.1 (List.mem_map_of_mem hf)
  obtain ⟨q, hq, e1, e2⟩ := sfileOf_found ps pid f ⟨p0, hc.psEq ▸ hp0, e0⟩
  -- the file holds the entries of the objects bound to it
  have hstore : f.2 = storeOf st.disk f.1 := by
    unfold storeOf
    rw [AL.getD_eq, AL.get?_of_mem _ hv.nodupFiles f.1 f.2 hf]
    rfl
  have hse := store_eq hv f.1
  rw [hv.keys f.1, hc.psEq, List.map_map] at hse
  rw [e2]
  simp only [contribsOf]
  rw [hstore, hse, List.map_map, List.filter_map]
  simp only [Function.comp_def]
  rw [hc.filter_file hd hh f.1]
  split
  · next efn =>
    rw [(hc.metric i d h hd hh).order]
    unfold expContribs
    rw [List.map_flatMap]
    -- the parameter that stands for the file has the metric's type and mode
    have hq' := hc.typ_mode_of_file hwf hlen (List.mem_of_getElem? hd) hq (e1.trans efn)
    apply flatMap_congr_mem
    intro ka hka
    apply List.map_congr_left
    intro p hp
    have hpf : fileOf pid p = f.1 := by
      unfold fileOf
      rw [(cellParams_metric d ka.1 p hp).2.2.1, efn]
    rw [hq'.1, hq'.2, hpf]
  · rfl

end family

theorem contribs_eq (ds : List (MDecl V)) (hwf : WFAll ds) (pid : Str) (hs : List (Hist V)) (ps : List Params) (st : St V)
    (hc : Core ds pid hs ps st) (hlen : hs.length = ds.length) (i : Nat) (d : MDecl V) (h : Hist V)
    (hd : ds[i]? = some d) (hh : hs[i]? = some h) :
    contribs (sfilesOf ps pid st) d.decl.name = expContribs d pid st.disk h := by
  unfold contribs allContribs sfilesOf
  rw [List.filter_flatMap, List.flatMap_map]
  rw [flatMap_key_single (fun f : Str × Store V => f.1) (fileName (prefixOf d) pid) _ _ st.disk hc.vinv.nodupFiles (contribs_file hc hwf hlen hd hh)]
  split
  · rfl
  · next hex =>
    -- no such file: the metric has no value object
    unfold expContribs
    symm
    rw [List.flatMap_eq_nil_iff]
    intro ka hka
    rw [List.map_eq_nil_iff, List.eq_nil_iff_forall_not_mem]
    intro p hp
    have hpps : p ∈ ps := (((hc.metric i d h hd hh).mem_cells p).mp ⟨ka, hka, hp⟩).1
    have hfile := (hc.params_of_metric hd hh hpps (cellParams_metric d ka.1 p hp).1).1
    exact hex (hfile ▸ hc.file_mem hpps)

end PromVerif.Lemmas.Backends
