/-
`sorted(d.items())` for a dict with `str` keys, modelled by `Py.sortByKey` (insertion sort on the key, code-point
order): the result is a permutation of the input and is sorted.
-/
import PromVerif.Py.Str

namespace PromVerif.Lemmas.GatewaySort
open PromVerif.Py

theorem char_lt_iff_toNat (x y : Char) : x < y ↔ x.toNat < y.toNat := by
  rw [Char.lt_def, UInt32.lt_iff_toNat_lt]; rfl

theorem strLt_iff : ∀ (a b : Str), strLt a b = true ↔ a < b
  | [], [] => by simp [strLt]
  | [], _ :: _ => by simp [strLt]
  | _ :: _, [] => by simp [strLt]
  | x :: xs, y :: ys => by
    rw [strLt, List.cons_lt_cons_iff, ← strLt_iff xs ys, char_lt_iff_toNat, ← Char.toNat_inj]
    split
    · simp [*]
    · split
      · next h1 h2 => simp [h1]; omega
      · next h1 h2 => simp [h1]; omega

theorem strLt_irrefl (a : Str) : strLt a a = false := by
  have := List.lt_irrefl a
  rwa [← strLt_iff, Bool.not_eq_true] at this

theorem strLt_trans : ∀ (a b c : Str), strLt a b = true → strLt b c = true → strLt a c = true :=
  fun a b c h1 h2 => (strLt_iff a c).mpr (List.lt_trans ((strLt_iff a b).mp h1) ((strLt_iff b c).mp h2))

theorem strLt_asymm (a b : Str) (h : strLt a b = true) : strLt b a = false := by
  have := List.lt_asymm ((strLt_iff a b).mp h)
  rwa [← strLt_iff, Bool.not_eq_true] at this

/-- `a` does not come after `b` -/
def KeyLe {β : Type} (a b : Str × β) : Prop := strLt b.1 a.1 = false

theorem insertByKey_perm {β : Type} (kv : Str × β) (l : List (Str × β)) : (insertByKey kv l).Perm (kv :: l) := by
  induction l with
  | nil => exact List.Perm.refl _
  | cons x xs ih =>
    unfold insertByKey
    split
    · exact List.Perm.refl _
    · exact (List.Perm.cons x ih).trans (List.Perm.swap kv x xs)

theorem foldl_insert_perm {β : Type} (l acc : List (Str × β)) :
    (l.foldl (fun acc kv => insertByKey kv acc) acc).Perm (l ++ acc) := by
  induction l generalizing acc with
  | nil => exact List.Perm.refl _
  | cons x xs ih =>
    refine (ih (insertByKey x acc)).trans ?_
    refine (List.Perm.append_left xs (insertByKey_perm x acc)).trans ?_
    exact List.perm_middle

theorem sortByKey_perm {β : Type} (l : List (Str × β)) : (sortByKey l).Perm l := by
  have := foldl_insert_perm l ([] : List (Str × β))
  simpa [sortByKey] using this

theorem insertByKey_mapVal {β γ : Type} (g : β → γ) (kv : Str × β) (l : List (Str × β)) :
    (insertByKey kv l).map (fun e => (e.1, g e.2)) = insertByKey (kv.1, g kv.2) (l.map fun e => (e.1, g e.2)) := by
  induction l with
  | nil => rfl
  | cons x xs ih =>
    simp only [insertByKey, List.map_cons]
    split
    · rfl
    · rw [List.map_cons, ih]

theorem foldl_insert_mapVal {β γ : Type} (g : β → γ) (l acc : List (Str × β)) :
    (l.foldl (fun acc kv => insertByKey kv acc) acc).map (fun e => (e.1, g e.2)) =
      (l.map fun e => (e.1, g e.2)).foldl (fun acc kv => insertByKey kv acc) (acc.map fun e => (e.1, g e.2)) := by
  induction l generalizing acc with
  | nil => rfl
  | cons x xs ih => rw [List.foldl_cons, ih, insertByKey_mapVal, List.map_cons, List.foldl_cons]

theorem sortByKey_mapVal {β γ : Type} (g : β → γ) (l : List (Str × β)) :
    (sortByKey l).map (fun e => (e.1, g e.2)) = sortByKey (l.map fun e => (e.1, g e.2)) :=
  foldl_insert_mapVal g l []

theorem mem_sortByKey {β : Type} (l : List (Str × β)) (x : Str × β) : x ∈ sortByKey l ↔ x ∈ l :=
  (sortByKey_perm l).mem_iff

theorem insertByKey_sorted {β : Type} (kv : Str × β) (l : List (Str × β)) (h : l.Pairwise KeyLe) :
    (insertByKey kv l).Pairwise KeyLe := by
  induction l with
  | nil => simp [insertByKey]
  | cons x xs ih =>
    have hx := List.pairwise_cons.mp h
    unfold insertByKey
    split
    · next hlt =>
      refine List.pairwise_cons.mpr ⟨?_, h⟩
      intro y hy
      rcases List.mem_cons.mp hy with rfl | hy
      · exact strLt_asymm _ _ hlt
      · -- `y < kv < x` would contradict `x ≤ y`
        have hxy : strLt y.1 x.1 = false := hx.1 y hy
        exact Bool.eq_false_iff.mpr fun hyk => by rw [strLt_trans _ _ _ hyk hlt] at hxy; cases hxy
    · next hnlt =>
      refine List.pairwise_cons.mpr ⟨?_, ih hx.2⟩
      intro y hy
      rcases List.mem_cons.mp ((insertByKey_perm kv xs).mem_iff.mp hy) with rfl | hy
      · show strLt y.1 x.1 = false
        simpa using hnlt
      · exact hx.1 y hy

theorem foldl_insert_sorted {β : Type} (l acc : List (Str × β)) (h : acc.Pairwise KeyLe) :
    (l.foldl (fun acc kv => insertByKey kv acc) acc).Pairwise KeyLe := by
  induction l generalizing acc with
  | nil => exact h
  | cons x xs ih => exact ih _ (insertByKey_sorted x acc h)

theorem sortByKey_sorted {β : Type} (l : List (Str × β)) : (sortByKey l).Pairwise KeyLe :=
  foldl_insert_sorted l [] List.Pairwise.nil

end PromVerif.Lemmas.GatewaySort
