/-
One method call (`callMethod`) and the child-table operations.

Every method of every class runs the same checks in the same order (`guarded`); which one fails, if any, depends on
the declaration, on `_is_observable()`, on the call and on whether the object has value state — not on the values
(`raises`).  `callMethod_eq` says so once, by the one case split over class × method; what else is needed of
`callMethod` is read off it.
-/
import PromVerif.Model.Metrics

namespace PromVerif.Lemmas.Metrics
open PromVerif.Py PromVerif.Model.Metrics PromVerif.Generated.Metrics

variable {V : Type} [Val V]

/-- the class has the method -/
def isMethod : Kind V → Action V → Bool
  | .counter, .inc _ => true
  | .counter, .reset => true
  | .gauge, .inc _ => true
  | .gauge, .dec _ => true
  | .gauge, .set _ => true
  | .summary, .observe _ => true
  | .histogram _, .observe _ => true
  | .info, .info _ => true
  | .enum _, .state _ => true
  | _, _ => false

/-- F7: the two methods that touch their value state before (instead of) `_raise_if_not_observable()` — as long as
the source does not start them with that call (`Generated.Metrics.counterResetChecksObservable`,
`infoChecksObservable`; both `false` on the tree the finding was made on) -/
def skipsObservableCheck : Kind V → Action V → Bool
  | .counter, .reset => !counterResetChecksObservable
  | .info, .info _ => !infoChecksObservable
  | _, _ => false

/-- the argument checks made before the value state is read: `if amount < 0` in `Counter.inc`,
`self._states.index(state)` in `Enum.state` -/
def argRejected (d : Decl V) : Action V → Bool
  | .inc a => (match d.kind with
    | .counter => counterRejects a
    | _ => false)
  | .state s => (match d.kind with
    | .enum states => (indexOf s states).isNone
    | _ => false)
  | _ => false

/-- the checks of `Info.info`, made after `self._labelname_set` was read: a key that is a label name, a value `None` -/
def infoRejected (d : Decl V) : Action V → Bool
  | .info val => val.any (fun kv => d.labelnames.contains kv.1) || val.any (fun kv => kv.2.isNone)
  | _ => false

/-- what an accepted call does to the value state -/
def effect (d : Decl V) (c : Child V) : Action V → Child V
  | .touch => c
  | .inc a => { c with value := Val.add c.value a }
  | .dec a => { c with value := Val.add c.value (Val.neg a) }
  | .set v => { c with value := v }
  | .reset => { c with value := Val.zero }
  | .observe a => (match d.kind with
    | .summary => { c with count := Val.add c.count Val.one, sum := Val.add c.sum a }
    | _ => { c with sum := Val.add c.sum a, buckets := observeBuckets a d.kind.bounds c.buckets })
  | .info val => { c with info := val.filterMap (fun kv => kv.2.map (fun v => (kv.1, v))) }
  | .state s => (match d.kind with
    | .enum states => { c with state := (indexOf s states).getD c.state }
    | _ => c)

/-- The checks of a method call in the order of the Python: the class has the method (else AttributeError),
`_raise_if_not_observable()`, the argument check, the value state exists (else AttributeError), the checks of
`Info.info`.  `fail e` at the first one that raises, `succeed` when none does.  (Continuations, so that `callMethod`
computes to this chain with its two outcomes plugged in; a `match` on the result of the chain would be stuck.) -/
def guarded {α : Type} (d : Decl V) (obs : Bool) (act : Action V) (hasState : Bool) (fail : PyErr → α) (succeed : α) : α :=
  match act with
  | .touch => succeed
  | _ =>
    if isMethod d.kind act = false then fail .attributeError
    else if (!skipsObservableCheck d.kind act && !obs) = true then fail .valueError
    else if argRejected d act = true then fail .valueError
    else if hasState = false then fail .attributeError
    else if infoRejected d act = true then fail .valueError
    else succeed

/-- what the call raises, if anything -/
def raises (d : Decl V) (obs : Bool) (act : Action V) (hasState : Bool) : Option PyErr :=
  guarded d obs act hasState some none

theorem guarded_map {α β : Type} (g : α → β) (d : Decl V) (obs : Bool) (act : Action V) (hasState : Bool)
    (fail : PyErr → α) (succeed : α) :
    g (guarded d obs act hasState fail succeed) = guarded d obs act hasState (fun e => g (fail e)) (g succeed) := by
  unfold guarded
  split
  · rfl
  · simp only [apply_ite g]

theorem guarded_eq {α : Type} (d : Decl V) (obs : Bool) (act : Action V) (hasState : Bool) (fail : PyErr → α)
    (succeed : α) :
    guarded d obs act hasState fail succeed = match raises d obs act hasState with
      | some e => fail e
      | none => succeed :=
  (guarded_map (fun r => match r with
    | some e => fail e
    | none => succeed) d obs act hasState some none).symm

theorem ite_or {α : Type} (a b : Bool) (x y : α) :
    (if a = true then x else if b = true then x else y) = if (a || b) = true then x else y := by
  cases a <;> cases b <;> rfl

theorem callMethod_eq (d : Decl V) (obs : Bool) (act : Action V) (st : Option (Child V)) :
    callMethod d obs act st = match raises d obs act st.isSome with
      | some e => (st, .raised e)
      | none => (st.map (effect d · act), .ok) := by
  refine Eq.trans ?_ (guarded_eq d obs act st.isSome (fun e => (st, Out.raised e)) (st.map (effect d · act), Out.ok))
  obtain ⟨name, kind, ln⟩ := d
  -- `labels()` alone, and a method the class does not have: both sides compute to the same pair
  cases kind <;> cases act <;> first | rfl | skip
  -- a method of the class: with the presence of the state known, both sides compute to the same chain of `if`s
  all_goals cases st <;> first | rfl | skip
  -- left over: `Info.info` on a value state (two checks on the left, their disjunction on the right) …
  · cases obs <;> first | rfl | exact ite_or _ _ _ _
  -- … and `Enum.state` (a `match` on the index on the left, `isNone` / `getD` on the right)
  -- without and with a value state
  all_goals
    cases obs
    · rfl
    · show (match indexOf _ _ with | none => _ | some i => _) = _
      split <;> simp [guarded, isMethod, skipsObservableCheck, argRejected, effect, infoRejected, *]

theorem callMethod_frame (d : Decl V) (obs : Bool) (act : Action V) (st : Option (Child V)) (e : PyErr)
    (h : (callMethod d obs act st).2 = .raised e) : (callMethod d obs act st).1 = st := by
  rw [callMethod_eq] at h ⊢
  cases hr : raises d obs act st.isSome with
  | some e => rfl
  | none => rw [hr] at h; cases h

theorem callMethod_none_eq (d : Decl V) (obs : Bool) (act : Action V) :
    callMethod d obs act none = match raises d obs act false with
      | some e => (none, .raised e)
      | none => (none, .ok) :=
  callMethod_eq d obs act none

theorem callMethod_none (d : Decl V) (obs : Bool) (act : Action V) : (callMethod d obs act none).1 = none := by
  rw [callMethod_none_eq]
  cases raises d obs act false <;> rfl

/-- the state after a method call on an observable metric -/
def upd (d : Decl V) (act : Action V) (c : Child V) : Child V := ((callMethod d true act (some c)).1).getD c

theorem callMethod_some_eq (d : Decl V) (act : Action V) (c : Child V) :
    callMethod d true act (some c) = match raises d true act true with
      | some e => (some c, .raised e)
      | none => (some (effect d c act), .ok) :=
  callMethod_eq d true act (some c)

theorem callMethod_some (d : Decl V) (act : Action V) (c : Child V) :
    (callMethod d true act (some c)).1 = some (upd d act c) := by
  rw [upd, callMethod_some_eq]
  cases raises d true act true <;> rfl

theorem callMethod_out_indep (d : Decl V) (act : Action V) (c c' : Child V) :
    (callMethod d true act (some c)).2 = (callMethod d true act (some c')).2 := by
  rw [callMethod_some_eq, callMethod_some_eq]
  cases raises d true act true <;> rfl

/-- the call is accepted by an observable metric declared `d` -/
def okAct (d : Decl V) (act : Action V) : Prop := (callMethod d true act (some (metricInit d.kind))).2 = .ok

theorem okAct_of_ok (d : Decl V) (act : Action V) (c : Child V) (h : (callMethod d true act (some c)).2 = .ok) :
    okAct d act :=
  (callMethod_out_indep d act _ c).trans h

theorem ok_of_okAct (d : Decl V) (act : Action V) (c : Child V) (h : okAct d act) :
    (callMethod d true act (some c)).2 = .ok :=
  (callMethod_out_indep d act c _).trans h

theorem callMethod_touch (d : Decl V) (obs : Bool) (st : Option (Child V)) :
    callMethod d obs .touch st = (st, .ok) := rfl

theorem okAct_touch (d : Decl V) : okAct d (.touch : Action V) := rfl

theorem upd_touch (d : Decl V) (c : Child V) : upd d .touch c = c := rfl

theorem okAct_iff (d : Decl V) (act : Action V) : okAct d act ↔ raises d true act true = none := by
  rw [okAct, callMethod_some_eq]
  cases raises d true act true <;> simp

theorem upd_eq (d : Decl V) (act : Action V) (c : Child V) :
    upd d act c = match raises d true act true with
      | some _ => c
      | none => effect d c act := by
  rw [upd, callMethod_some_eq]
  cases raises d true act true <;> rfl

theorem upd_of_raised (d : Decl V) (act : Action V) (c : Child V) (e : PyErr)
    (h : (callMethod d true act (some c)).2 = .raised e) : upd d act c = c := by
  have := callMethod_frame d true act (some c) e h
  simp [upd, this]


theorem indexOf_eq_findIdx? (s : Str) (states : List Str) : indexOf s states = states.findIdx? (· = s) := by
  induction states with
  | nil => rfl
  | cons x xs ih => rw [indexOf, List.findIdx?_cons, ih]; simp only [decide_eq_true_eq]

theorem indexOf_none_iff (s : Str) (states : List Str) : indexOf s states = none ↔ s ∉ states := by
  rw [indexOf_eq_findIdx?, List.findIdx?_eq_none_iff]
  exact ⟨fun h hm => of_decide_eq_false (h s hm) rfl, fun h x hx => decide_eq_false (fun e => h (e ▸ hx))⟩

theorem indexOf_getElem? (s : Str) (states : List Str) (i : Nat) (h : indexOf s states = some i) :
    states[i]? = some s := by
  rw [indexOf_eq_findIdx?, List.findIdx?_eq_some_iff_getElem] at h
  obtain ⟨hi, hs, _⟩ := h
  rw [List.getElem?_eq_getElem hi, of_decide_eq_true hs]


theorem treplace_self {β : Type} (k : List Str) (v : β) (t : List (List Str × β)) (h : tlookup k t = some v) :
    treplace k v t = t := by
  induction t with
  | nil => rfl
  | cons kv t ih =>
    simp only [tlookup] at h
    simp only [treplace]
    split
    · next hk => simp [hk] at h; subst h; rfl
    · next hk => simp [hk] at h; rw [ih h]

theorem tlookup_map {α β : Type} (f : α → β) (k : List Str) (t : List (List Str × α)) :
    tlookup k (t.map (fun kv => (kv.1, f kv.2))) = (tlookup k t).map f := by
  induction t with
  | nil => rfl
  | cons kv t ih => simp only [List.map, tlookup]; split <;> simp [ih]

theorem tlookup_treplace_self {β : Type} (k : List Str) (v : β) (t : List (List Str × β)) :
    tlookup k (treplace k v t) = (tlookup k t).map (fun _ => v) := by
  induction t with
  | nil => rfl
  | cons kv t ih =>
    rw [treplace, tlookup]
    split
    · next hk => rw [tlookup, if_pos hk]; rfl
    · next hk => rw [tlookup, if_neg hk, ih]

theorem tlookup_append_new {β : Type} (k : List Str) (c0 : β) (t : List (List Str × β)) (h : tlookup k t = none) :
    tlookup k (t ++ [(k, c0)]) = some c0 := by
  induction t with
  | nil => simp [tlookup]
  | cons kv t ih =>
    simp only [tlookup] at h
    split at h
    · simp at h
    · next hk => simp [tlookup, hk, ih h]

omit [Val V] in
theorem tlookup_terase {β : Type} (k k' : List Str) (t : List (List Str × β)) :
    tlookup k' (terase k t) = if k' = k then none else tlookup k' t := by
  induction t with
  | nil => simp [terase, tlookup]
  | cons kv t ih =>
    unfold terase at ih ⊢
    by_cases hk : kv.1 = k <;> by_cases hk' : kv.1 = k' <;> simp_all [tlookup]

theorem getChild_lookup (m : Metric V) (key : List Str) :
    tlookup key (getChild m key).1.children = some (getChild m key).2 := by
  unfold getChild
  split
  · next c hc => exact hc
  · next hc => exact tlookup_append_new key _ _ hc

theorem getChild_decl (m : Metric V) (key : List Str) : (getChild m key).1.decl = m.decl := by
  unfold getChild; split <;> rfl

theorem getChild_single (m : Metric V) (key : List Str) : (getChild m key).1.single = m.single := by
  unfold getChild; split <;> rfl

end PromVerif.Lemmas.Metrics
