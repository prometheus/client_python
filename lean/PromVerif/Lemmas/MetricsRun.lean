/-
From one metric to the registry and from one step to a whole run.
`RegAbs ds r hs`: the registry `r` is, metric by metric, the replay of the histories `hs` of accepted calls.
-/
import PromVerif.Lemmas.MetricsAbs

namespace PromVerif.Lemmas.Metrics
open PromVerif.Py PromVerif.Model.Metrics PromVerif.Generated.Metrics
open PromVerif.Spec.Metrics (Hist keyOf appendAt recordOn modifyNth record history)

variable {V : Type} [Val V]


/-- pointwise relation of two lists of equal length -/
inductive Forall2 {α β : Type} (P : α → β → Prop) : List α → List β → Prop
  | nil : Forall2 P [] []
  | cons {a b l₁ l₂} : P a b → Forall2 P l₁ l₂ → Forall2 P (a :: l₁) (b :: l₂)

theorem zipWith_getElem? {α β γ : Type} (g : α → β → γ) (ds : List α) (hs : List β) (i : Nat) (d : α) (h : β)
    (hd : ds[i]? = some d) (hh : hs[i]? = some h) : (List.zipWith g ds hs)[i]? = some (g d h) := by
  rw [List.getElem?_zipWith, hd, hh]

theorem zipWith_getElem?_none {α β γ : Type} (g : α → β → γ) (ds : List α) (hs : List β) (i : Nat)
    (hd : ds[i]? = none) : (List.zipWith g ds hs)[i]? = none := by
  rw [List.getElem?_zipWith, hd]

theorem forall2_getElem? {α β : Type} (P : α → β → Prop) :
    ∀ (ds : List α) (hs : List β) (i : Nat) (d : α), Forall2 P ds hs → ds[i]? = some d →
      ∃ h, hs[i]? = some h ∧ P d h := by
  intro ds hs i d hall
  induction hall generalizing i with
  | nil => exact nofun
  | cons h1 _ ih =>
    cases i with
    | zero => intro hd; cases hd; exact ⟨_, rfl, h1⟩
    | succ i => exact ih i

theorem set_getElem?_self {α : Type} (l : List α) (i : Nat) (a : α) (h : l[i]? = some a) : l.set i a = l := by
  obtain ⟨hi, rfl⟩ := List.getElem?_eq_some_iff.mp h
  exact List.set_getElem_self hi


structure RegAbs (ds : List (Decl V)) (r : Reg V) (hs : List (Hist V)) : Prop where
  eq : r = List.zipWith metricOf ds hs
  ok : Forall2 AllOk ds hs

theorem regAbs_modify (f : Hist V → Hist V) (ds : List (Decl V)) (hs : List (Hist V)) (i : Nat) (d : Decl V)
    (h : Hist V) (hok : Forall2 AllOk ds hs) (hd : ds[i]? = some d) (hh : hs[i]? = some h) (hp : AllOk d (f h)) :
    RegAbs ds ((List.zipWith metricOf ds hs).set i (metricOf d (f h))) (modifyNth f i hs) := by
  induction hok generalizing i with
  | nil => cases hd
  | cons h1 h2 ih =>
    cases i with
    | zero => cases hd; cases hh; exact ⟨rfl, .cons hp h2⟩
    | succ i => exact ⟨congrArg (_ :: ·) (ih i hd hh).eq, .cons h1 (ih i hd hh).ok⟩

theorem regAbs_fresh (ds : List (Decl V)) : RegAbs ds (Reg.fresh ds) (ds.map (fun _ => Hist.empty)) := by
  induction ds with
  | nil => exact ⟨rfl, .nil⟩
  | cons d ds ih => exact ⟨List.cons_eq_cons.mpr ⟨fresh_eq_metricOf d, ih.eq⟩, .cons (allOk_empty d) ih.ok⟩

theorem touchOf_metric (op t : Op V) (h : op.touchOf = some t) : t.metric = op.metric := by
  unfold Op.touchOf at h
  split at h
  · cases h; rfl
  · cases h

theorem acceptedM_metric (m : Metric V) (op o : Op V) (h : acceptedM m op = some o) : o.metric = op.metric := by
  cases hout : (stepM m op).2 with
  | ok =>
    rw [acceptedM_of_ok m op hout] at h
    cases h
    rfl
  | raised e =>
    rcases stepM_raised m op e hout with ⟨hacc, _⟩ | ⟨t, ht, hacc, _⟩
    · cases hacc.symm.trans h
    · cases hacc.symm.trans h
      exact touchOf_metric op _ ht

theorem step_eq (r : Reg V) (op : Op V) :
    step r op = match r[op.metric]? with
      | none => (r, .raised .keyError)
      | some m => (r.set op.metric (stepM m op).1, (stepM m op).2) := by
  cases hr : r[op.metric]? <;> simp [step, modifyAt, hr]

theorem acceptedOp_eq (r : Reg V) (op : Op V) :
    acceptedOp r op = match r[op.metric]? with
      | none => none
      | some m => acceptedM m op := by
  -- a step on the metric `op` names, by `op` itself or by its `labels(…)` call alone
  have hstep : ∀ o : Op V, o.metric = op.metric → (step r o).2 = match r[op.metric]? with
      | none => .raised .keyError
      | some m => (stepM m o).2 := by
    intro o ho
    rw [step_eq, ho]
    cases r[op.metric]? <;> rfl
  unfold acceptedOp acceptedM
  rw [hstep op rfl]
  cases ht : op.touchOf with
  | none => cases r[op.metric]? <;> rfl
  | some t =>
    dsimp only
    rw [hstep t (touchOf_metric op t ht)]
    cases r[op.metric]? <;> rfl

/-- the histories after recording what a step accepted -/
def recAll (ds : List (Decl V)) (hs : List (Hist V)) : Option (Op V) → List (Hist V)
  | some o => record ds hs o
  | none => hs

theorem step_abs (ds : List (Decl V)) (r : Reg V) (hs : List (Hist V)) (op : Op V) (habs : RegAbs ds r hs) :
    RegAbs ds (step r op).1 (recAll ds hs (acceptedOp r op)) := by
  cases hd : ds[op.metric]? with
  | none =>
    have hr : r[op.metric]? = none := by rw [habs.eq]; exact zipWith_getElem?_none _ _ _ _ hd
    simp only [step_eq, acceptedOp_eq, hr, recAll]
    exact habs
  | some d =>
    obtain ⟨h, hh, hokd⟩ := forall2_getElem? AllOk ds hs op.metric d habs.ok hd
    have hr : r[op.metric]? = some (metricOf d h) := by rw [habs.eq]; exact zipWith_getElem? _ _ _ _ d h hd hh
    obtain ⟨hstep, hok'⟩ := stepM_abs d h op hokd
    simp only [step_eq, acceptedOp_eq, hr]
    rw [hstep]
    cases hacc : acceptedM (metricOf d h) op with
    | none =>
      simp only [recAll, recOpt]
      rw [set_getElem?_self r _ _ hr]
      exact habs
    | some o =>
      rw [hacc] at hok'
      simp only [recAll, record, acceptedM_metric _ _ _ hacc, hd, recOpt] at hok' ⊢
      rw [habs.eq]
      exact regAbs_modify (fun h => recordOn d.labelnames h o) ds hs op.metric d h habs.ok hd hh hok'

theorem run_abs (ds : List (Decl V)) : ∀ (ops : List (Op V)) (r : Reg V) (hs : List (Hist V)), RegAbs ds r hs →
    RegAbs ds (run r ops).1 ((accepted r ops).foldl (record ds) hs)
  | [], r, hs, habs => habs
  | op :: ops, r, hs, habs => by
    have h := run_abs ds ops (step r op).1 _ (step_abs ds r hs op habs)
    rw [show recAll ds hs (acceptedOp r op) = (acceptedOp r op).toList.foldl (record ds) hs by
      cases acceptedOp r op <;> rfl] at h
    rw [run, accepted, List.foldl_append]
    exact h

theorem run_fresh_abs (ds : List (Decl V)) (ops : List (Op V)) :
    RegAbs ds (run (Reg.fresh ds) ops).1 (history ds (accepted (Reg.fresh ds) ops)) :=
  run_abs ds ops _ _ (regAbs_fresh ds)

end PromVerif.Lemmas.Metrics
