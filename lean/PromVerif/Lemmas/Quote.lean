/-
`quote_plus` / `unquote_plus`: the strict unescaper of `Spec.Gateway` inverts `Model.Gateway.quotePlus` on every
string; the escaped text contains no `/`.  The UTF-8 layer is Lean core's (`List.utf8Decode?_utf8Encode`).
-/
import PromVerif.Model.Gateway
import PromVerif.Spec.Gateway

namespace PromVerif.Lemmas.Quote
open PromVerif.Py PromVerif.Model.Gateway PromVerif.Spec.Gateway

theorem hexVal_hexUpper : ∀ n, n < 16 → hexVal (hexUpper n) = some n := by decide +kernel

theorem hexUpper_ne_slash : ∀ n, n < 16 → hexUpper n ≠ '/' := by decide +kernel

theorem safe_ne {c : Char} (h : isSafeChar c = true) : c ≠ '%' ∧ c ≠ '+' ∧ c ≠ '/' := by
  refine ⟨?_, ?_, ?_⟩ <;> (intro e; subst e; revert h; decide)

theorem utf8EncodeChar_ascii : ∀ n, n < 128 → String.utf8EncodeChar (Char.ofNat n) = [UInt8.ofNat n] := by
  decide +kernel

theorem utf8Decode_utf8 (s : Str) : utf8Decode? (utf8 s) = some s := by
  have h := List.utf8Decode?_utf8Encode (l := s)
  unfold utf8Decode? utf8
  unfold List.utf8Encode at h
  rw [h]
  simp

theorem unquoteBytes_nil (p : Bool) : unquoteBytes p [] = some [] := by
  unfold unquoteBytes; rfl

theorem unquoteBytes_pct (p : Bool) (h l : Char) (rest : List Char) (x y : Nat) (hx : hexVal h = some x)
    (hy : hexVal l = some y) :
    unquoteBytes p ('%' :: h :: l :: rest) = (unquoteBytes p rest).map (UInt8.ofNat (x * 16 + y) :: ·) := by
  rw [unquoteBytes.eq_def]
  simp only [↓reduceIte, hx, hy]
  cases unquoteBytes p rest <;> rfl

theorem unquoteBytes_plus (rest : List Char) :
    unquoteBytes true ('+' :: rest) = (unquoteBytes true rest).map (32 :: ·) := by
  rw [unquoteBytes.eq_def]; simp

theorem unquoteBytes_other (p : Bool) (c : Char) (rest : List Char) (h1 : c ≠ '%') (h2 : c ≠ '+') :
    unquoteBytes p (c :: rest) = (unquoteBytes p rest).map (String.utf8EncodeChar c ++ ·) := by
  rw [unquoteBytes.eq_def]; simp [h1, h2]

theorem quoteByte_cases (q : Bool) (b : UInt8) :
    (b.toNat < 128 ∧ isSafeChar (Char.ofNat b.toNat) = true ∧ quoteByte q b = [Char.ofNat b.toNat]) ∨
    (q = true ∧ b = 32 ∧ quoteByte q b = ['+']) ∨
    quoteByte q b = ['%', hexUpper (b.toNat / 16), hexUpper (b.toNat % 16)] := by
  unfold quoteByte
  simp only []
  split
  · next h =>
    simp only [Bool.and_eq_true, decide_eq_true_eq] at h
    exact Or.inl ⟨h.1, h.2, rfl⟩
  · split
    · next h =>
      simp only [Bool.and_eq_true, decide_eq_true_eq] at h
      exact Or.inr (Or.inl ⟨h.1, UInt8.toNat_inj.mp (by simpa using h.2), rfl⟩)
    · exact Or.inr (Or.inr rfl)

/-- `hqp`: an encoder writing `+` for a space (`q`) must be read by the decoder that knows it (`p`) -/
theorem unquoteBytes_quoteByte (q p : Bool) (hqp : q = true → p = true) (b : UInt8) (rest : List Char) :
    unquoteBytes p (quoteByte q b ++ rest) = (unquoteBytes p rest).map (b :: ·) := by
  have hb := b.toNat_lt
  rcases quoteByte_cases q b with ⟨h128, hs, e⟩ | ⟨hq, rfl, e⟩ | e <;> rw [e]
  · obtain ⟨n1, n2, _⟩ := safe_ne hs
    rw [List.singleton_append, unquoteBytes_other _ _ _ n1 n2, utf8EncodeChar_ascii _ h128, UInt8.ofNat_toNat]
    rfl
  · rw [hqp hq]
    exact unquoteBytes_plus rest
  · show unquoteBytes p ('%' :: hexUpper (b.toNat / 16) :: hexUpper (b.toNat % 16) :: rest) = _
    rw [unquoteBytes_pct _ _ _ _ _ _ (hexVal_hexUpper _ (Nat.div_lt_of_lt_mul hb))
      (hexVal_hexUpper _ (Nat.mod_lt _ (by decide))), Nat.div_add_mod', UInt8.ofNat_toNat]

theorem unquoteBytes_quoteBytes (q p : Bool) (hqp : q = true → p = true) (bs : Bytes) :
    unquoteBytes p (quoteBytes q bs) = some bs := by
  induction bs with
  | nil => exact unquoteBytes_nil p
  | cons b bs ih =>
    show unquoteBytes p (List.flatMap (quoteByte q) (b :: bs)) = _
    rw [List.flatMap_cons, unquoteBytes_quoteByte q p hqp]
    show Option.map _ (unquoteBytes p (quoteBytes q bs)) = _
    rw [ih]; rfl

theorem unquoteWith_quoteWith (q p : Bool) (hqp : q = true → p = true) (s : Str) :
    unquoteWith p (quoteWith q s) = some s := by
  unfold unquoteWith quoteWith
  rw [unquoteBytes_quoteBytes q p hqp]
  exact utf8Decode_utf8 s

/-- **`unquote_plus(quote_plus(s)) == s`** for every string -/
theorem unquotePlus_quotePlus (s : Str) : unquotePlus (quotePlus s) = some s :=
  unquoteWith_quoteWith true true (fun h => h) s

theorem quoteByte_no_slash (q : Bool) (b : UInt8) : '/' ∉ quoteByte q b := by
  have hb := b.toNat_lt
  rcases quoteByte_cases q b with ⟨_, hs, e⟩ | ⟨_, _, e⟩ | e <;> rw [e]
  · simp [Ne.symm (safe_ne hs).2.2]
  · simp
  · have h1 := hexUpper_ne_slash (b.toNat / 16) (Nat.div_lt_of_lt_mul hb)
    have h2 := hexUpper_ne_slash (b.toNat % 16) (Nat.mod_lt _ (by decide))
    simp [Ne.symm h1, Ne.symm h2]

theorem quoteBytes_no_slash (q : Bool) (bs : Bytes) : '/' ∉ quoteBytes q bs := by
  unfold quoteBytes
  intro h
  obtain ⟨b, _, hb⟩ := List.mem_flatMap.mp h
  exact quoteByte_no_slash q b hb

end PromVerif.Lemmas.Quote
