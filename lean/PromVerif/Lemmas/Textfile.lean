/-
Generic lemmas for C18: the file-system algebra, the *private view* of one writer (the content of its own temporary
file plus its local handle state), and the two invariants every theorem rests on:

* a step that names only the writer's own temporary path (or is `rename tmp target`) changes nothing else, changes the
  private view in a way that depends on the private view only, and changes the target only when it is a completed
  rename — to the content the temporary file has at that moment;
* `Ready new ss v`: along the effect list `ss`, started in private view `v`, every completed rename finds the complete
  new exposition in the temporary file.
-/
import PromVerif.Model.Textfile

namespace PromVerif.Model.Textfile

@[simp] theorem Fs.get_del_same (fs : Fs) (p : Path) : (fs.del p).get p = none := by
  induction fs with
  | nil => rfl
  | cons e r ih =>
    obtain ⟨q, c⟩ := e
    by_cases h : q = p <;> simp [Fs.del, Fs.get, h, ih]

theorem Fs.get_del_ne (fs : Fs) {p q : Path} (h : p ≠ q) : (fs.del p).get q = fs.get q := by
  induction fs with
  | nil => rfl
  | cons e r ih =>
    obtain ⟨a, c⟩ := e
    by_cases h1 : a = p
    · subst h1; simp [Fs.del, Fs.get, ih, h]
    · simp [Fs.del, Fs.get, h1, ih]

@[simp] theorem Fs.get_set_same (fs : Fs) (p : Path) (c : Content) : (fs.set p c).get p = some c := by
  simp [Fs.set, Fs.get]

theorem Fs.get_set_ne (fs : Fs) {p q : Path} (c : Content) (h : p ≠ q) : (fs.set p c).get q = fs.get q := by
  simp [Fs.set, Fs.get, h, Fs.get_del_ne fs h]

@[simp] theorem Fs.get_append_same (fs : Fs) (p : Path) (x : Content) :
    (fs.append p x).get p = some ((fs.get p).getD [] ++ x) := by
  simp [Fs.append]

theorem Fs.get_append_ne (fs : Fs) {p q : Path} (x : Content) (h : p ≠ q) : (fs.append p x).get q = fs.get q := by
  simp [Fs.append, Fs.get_set_ne fs _ h]

@[simp] theorem exec_nil (c : Cfg) : exec [] c = c := rfl
@[simp] theorem exec_cons (s : Step) (ss : List Step) (c : Cfg) : exec (s :: ss) c = exec ss (applyStep s c) := rfl
theorem exec_append (a b : List Step) (c : Cfg) : exec (a ++ b) c = exec b (exec a c) :=
  List.foldl_append

@[simp] theorem exec2_nil (c : Cfg2) : exec2 [] c = c := rfl
@[simp] theorem exec2_cons (s : Bool × Step) (ss : List (Bool × Step)) (c : Cfg2) :
    exec2 (s :: ss) c = exec2 ss (apply2 s c) := rfl

/-- the effect names only the writer's own temporary path, or is `rename tmp target` -/
def isPrivate (tmp target : Path) : Eff → Bool
  | .openTrunc p => p = tmp
  | .collect _ => true
  | .encode => true
  | .write p _ _ => p = tmp
  | .close p => p = tmp
  | .rename s d => s = tmp ∧ d = target
  | .pathExists p => p = tmp
  | .removeIfSeen p => p = tmp
  | .remove p => p = tmp
  | .reraise => true

def AllPrivate (tmp target : Path) (ss : List Step) : Prop := ∀ s ∈ ss, isPrivate tmp target s.1 = true

/-- a rename that completed -/
def isRen : Step → Bool
  | (.rename _ _, none) => true
  | _ => false

structure View where
  file : Option Content
  loc : Local

def view (tmp : Path) (c : Cfg) : View := ⟨c.fs.get tmp, c.loc⟩

/-- the effect of a private step on the private view -/
def stepV : Step → View → View
  | (.openTrunc _, none), v => ⟨some [], { v.loc with buf := [] }⟩
  | (.write _ x fl, none), v =>
      if fl then ⟨some (v.file.getD [] ++ (v.loc.buf ++ x)), { v.loc with buf := [] }⟩
      else ⟨v.file, { v.loc with buf := v.loc.buf ++ x }⟩
  | (.close _, none), v => ⟨some (v.file.getD [] ++ v.loc.buf), { v.loc with buf := [] }⟩
  | (.rename _ _, none), v => match v.file with
      | some _ => ⟨none, v.loc⟩
      | none => v
  | (.pathExists _, none), v => ⟨v.file, { v.loc with seen := v.file.isSome }⟩
  | (.removeIfSeen _, none), v => if v.loc.seen then ⟨none, v.loc⟩ else v
  | (.remove _, none), v => ⟨none, v.loc⟩
  | (.openTrunc _, some n), v => if n = 0 then v else ⟨some [], v.loc⟩
  | (.write _ x _, some n), v =>
      ⟨some (v.file.getD [] ++ (v.loc.buf ++ x).take n), { v.loc with buf := (v.loc.buf ++ x).drop n }⟩
  | (.close _, some n), v => ⟨some (v.file.getD [] ++ v.loc.buf.take n), { v.loc with buf := [] }⟩
  | _, v => v

def execV (ss : List Step) (v : View) : View := ss.foldl (fun v s => stepV s v) v

@[simp] theorem execV_nil (v : View) : execV [] v = v := rfl
@[simp] theorem execV_cons (s : Step) (ss : List Step) (v : View) : execV (s :: ss) v = execV ss (stepV s v) := rfl
theorem execV_append (a b : List Step) (v : View) : execV (a ++ b) v = execV b (execV a v) :=
  List.foldl_append

/-- the three facts of the header's first invariant, by one inspection of `applyStep` -/
theorem private_step {tmp target : Path} (s : Step) (c : Cfg) (hp : isPrivate tmp target s.1 = true) :
    (∀ q, tmp ≠ q → target ≠ q → (applyStep s c).fs.get q = c.fs.get q) ∧
    (tmp ≠ target → view tmp (applyStep s c) = stepV s (view tmp c) ∧
      (applyStep s c).fs.get target =
        (if isRen s = true then (match c.fs.get tmp with | some x => some x | none => c.fs.get target)
         else c.fs.get target)) := by
  obtain ⟨e, o⟩ := s
  cases o with
  | none =>
    cases e with
    | openTrunc p =>
      simp only [isPrivate, decide_eq_true_eq] at hp; subst hp
      simp +contextual [applyStep, applyNormal, view, stepV, isRen, Fs.get_set_ne]
    | write p x fl =>
      simp only [isPrivate, decide_eq_true_eq] at hp; subst hp
      cases fl <;> simp +contextual [applyStep, applyNormal, view, stepV, isRen, Fs.get_append_ne]
    | close p =>
      simp only [isPrivate, decide_eq_true_eq] at hp; subst hp
      simp +contextual [applyStep, applyNormal, view, stepV, isRen, Fs.get_append_ne]
    | rename a b =>
      simp only [isPrivate, Bool.decide_and, Bool.and_eq_true, decide_eq_true_eq] at hp
      obtain ⟨h1, h2⟩ := hp; subst h1; subst h2
      cases hg : c.fs.get a <;>
        simp +contextual [applyStep, applyNormal, view, stepV, isRen, hg, Fs.get_set_ne, Fs.get_del_ne, Ne.symm]
    | removeIfSeen p =>
      simp only [isPrivate, decide_eq_true_eq] at hp; subst hp
      cases hs : c.loc.seen <;> simp +contextual [applyStep, applyNormal, view, stepV, isRen, hs, Fs.get_del_ne]
    | remove p =>
      simp only [isPrivate, decide_eq_true_eq] at hp; subst hp
      simp +contextual [applyStep, applyNormal, view, stepV, isRen, Fs.get_del_ne]
    | pathExists p =>
      simp only [isPrivate, decide_eq_true_eq] at hp; subst hp
      exact ⟨fun _ _ _ => rfl, fun _ => ⟨rfl, rfl⟩⟩
    | _ => exact ⟨fun _ _ _ => rfl, fun _ => ⟨rfl, rfl⟩⟩
  | some n =>
    cases e with
    | openTrunc p =>
      simp only [isPrivate, decide_eq_true_eq] at hp; subst hp
      by_cases hn : n = 0 <;> simp +contextual [applyStep, applyFaulted, view, stepV, isRen, hn, Fs.get_set_ne]
    | write p x fl =>
      simp only [isPrivate, decide_eq_true_eq] at hp; subst hp
      simp +contextual [applyStep, applyFaulted, view, stepV, isRen, Fs.get_append_ne]
    | close p =>
      simp only [isPrivate, decide_eq_true_eq] at hp; subst hp
      simp +contextual [applyStep, applyFaulted, view, stepV, isRen, Fs.get_append_ne]
    | _ => exact ⟨fun _ _ _ => rfl, fun _ => ⟨rfl, rfl⟩⟩

theorem view_step {tmp target : Path} (hne : tmp ≠ target) (s : Step) (c : Cfg)
    (hp : isPrivate tmp target s.1 = true) : view tmp (applyStep s c) = stepV s (view tmp c) :=
  ((private_step s c hp).2 hne).1

theorem frame_step {tmp target q : Path} (s : Step) (c : Cfg) (hp : isPrivate tmp target s.1 = true)
    (h1 : tmp ≠ q) (h2 : target ≠ q) : (applyStep s c).fs.get q = c.fs.get q :=
  (private_step s c hp).1 q h1 h2

theorem target_step {tmp target : Path} (hne : tmp ≠ target) (s : Step) (c : Cfg)
    (hp : isPrivate tmp target s.1 = true) :
    (applyStep s c).fs.get target =
      (if isRen s = true then (match c.fs.get tmp with | some x => some x | none => c.fs.get target)
       else c.fs.get target) :=
  ((private_step s c hp).2 hne).2

theorem AllPrivate.tail {tmp target : Path} {s : Step} {ss : List Step} (h : AllPrivate tmp target (s :: ss)) :
    AllPrivate tmp target ss := fun x hx => h x (List.mem_cons_of_mem _ hx)

theorem AllPrivate.head {tmp target : Path} {s : Step} {ss : List Step} (h : AllPrivate tmp target (s :: ss)) :
    isPrivate tmp target s.1 = true := h s List.mem_cons_self

theorem AllPrivate.append {tmp target : Path} {a b : List Step} (ha : AllPrivate tmp target a)
    (hb : AllPrivate tmp target b) : AllPrivate tmp target (a ++ b) :=
  List.forall_mem_append.mpr ⟨ha, hb⟩

theorem view_exec {tmp target : Path} (hne : tmp ≠ target) :
    ∀ (ss : List Step) (c : Cfg), AllPrivate tmp target ss → view tmp (exec ss c) = execV ss (view tmp c) := by
  intro ss
  induction ss with
  | nil => intro c _; rfl
  | cons s r ih =>
    intro c h
    rw [exec_cons, execV_cons, ih _ h.tail, view_step hne s c h.head]

theorem file_exec {tmp target : Path} (hne : tmp ≠ target) (ss : List Step) (c : Cfg) (h : AllPrivate tmp target ss) :
    (exec ss c).fs.get tmp = (execV ss (view tmp c)).file :=
  congrArg View.file (view_exec hne ss c h)

theorem frame_exec {tmp target q : Path} (h1 : tmp ≠ q) (h2 : target ≠ q) :
    ∀ (ss : List Step) (c : Cfg), AllPrivate tmp target ss → (exec ss c).fs.get q = c.fs.get q := by
  intro ss
  induction ss with
  | nil => intro c _; rfl
  | cons s r ih =>
    intro c h
    rw [exec_cons, ih _ h.tail, frame_step s c h.head h1 h2]

def Ready (new : Content) : List Step → View → Prop
  | [], _ => True
  | s :: r, v => (isRen s = true → v.file = some new) ∧ Ready new r (stepV s v)

theorem Ready_append (new : Content) : ∀ (a b : List Step) (v : View),
    Ready new (a ++ b) v ↔ Ready new a v ∧ Ready new b (execV a v) := by
  intro a
  induction a with
  | nil => intro b v; simp [Ready]
  | cons s r ih => intro b v; simp [Ready, ih, and_assoc]

theorem Ready_of_noRen (new : Content) : ∀ (ss : List Step) (v : View),
    (∀ s ∈ ss, isRen s = false) → Ready new ss v := by
  intro ss
  induction ss with
  | nil => intro v _; trivial
  | cons s r ih =>
    intro v h
    obtain ⟨hs, hr⟩ := List.forall_mem_cons.mp h
    refine ⟨fun e => ?_, ih _ hr⟩
    rw [hs] at e
    cases e

theorem target_exec_noRen {tmp target : Path} (hne : tmp ≠ target) :
    ∀ (ss : List Step) (c : Cfg), AllPrivate tmp target ss → (∀ s ∈ ss, isRen s = false) →
      (exec ss c).fs.get target = c.fs.get target := by
  intro ss
  induction ss with
  | nil => intro c _ _; rfl
  | cons s r ih =>
    intro c h hn
    obtain ⟨hs, hr⟩ := List.forall_mem_cons.mp hn
    rw [exec_cons, ih _ h.tail hr, target_step hne s c h.head, hs]
    simp

theorem target_prefix {tmp target : Path} (new : Content) (hne : tmp ≠ target) :
    ∀ (ss : List Step) (c : Cfg), AllPrivate tmp target ss → Ready new ss (view tmp c) → ∀ m : Nat,
      (exec (ss.take m) c).fs.get target = c.fs.get target ∨ (exec (ss.take m) c).fs.get target = some new := by
  intro ss
  induction ss with
  | nil => intro c _ _ m; left; simp
  | cons s r ih =>
    intro c h hr m
    cases m with
    | zero => left; simp
    | succ m =>
      rw [List.take_succ_cons, exec_cons]
      have hr' : Ready new r (view tmp (applyStep s c)) := by rw [view_step hne s c h.head]; exact hr.2
      rcases ih (applyStep s c) h.tail hr' m with h1 | h1
      · rw [h1, target_step hne s c h.head]
        by_cases hs : isRen s = true
        · have : c.fs.get tmp = some new := hr.1 hs
          right; simp [hs, this]
        · left; simp [hs]
      · right; exact h1

theorem apply2_left (x : Step) (c : Cfg2) :
    apply2 (true, x) c = { c with fs := (applyStep x ⟨c.fs, c.l1⟩).fs, l1 := (applyStep x ⟨c.fs, c.l1⟩).loc } := rfl

theorem apply2_right (y : Step) (c : Cfg2) :
    apply2 (false, y) c = { c with fs := (applyStep y ⟨c.fs, c.l2⟩).fs, l2 := (applyStep y ⟨c.fs, c.l2⟩).loc } := rfl

theorem frame_exec2 {t1 t2 target q : Path} (hq1 : t1 ≠ q) (hq2 : t2 ≠ q) (hq : target ≠ q) {xs ys : List Step}
    {zs : List (Bool × Step)} (hi : Interleave xs ys zs) : ∀ c : Cfg2, AllPrivate t1 target xs →
      AllPrivate t2 target ys → (exec2 zs c).fs.get q = c.fs.get q := by
  induction hi with
  | nil => intro c _ _; rfl
  | left _ ih =>
    intro c hx hy
    rw [exec2_cons, ih _ hx.tail hy, apply2_left]
    exact frame_step _ ⟨c.fs, c.l1⟩ hx.head hq1 hq
  | right _ ih =>
    intro c hx hy
    rw [exec2_cons, ih _ hx hy.tail, apply2_right]
    exact frame_step _ ⟨c.fs, c.l2⟩ hy.head hq2 hq

theorem interleave_seq : ∀ (xs ys : List Step),
    Interleave xs ys (xs.map (fun x => (true, x)) ++ ys.map (fun y => (false, y))) := by
  intro xs
  induction xs with
  | nil =>
    intro ys
    induction ys with
    | nil => exact .nil
    | cons y r ih => exact .right ih
  | cons x r ih => intro ys; exact .left (ih ys)

theorem merge_interleave : ∀ (sch : List Bool) (xs ys : List Step), Interleave xs ys (merge sch xs ys) := by
  intro sch xs ys
  fun_induction merge sch xs ys with
  | case1 xs ys => exact interleave_seq xs ys
  | case2 sch x xs ys ih => exact .left ih
  | case3 sch ys ih => exact ih
  | case4 sch xs y ys ih => exact .right ih
  | case5 sch xs ih => exact ih

end PromVerif.Model.Textfile
