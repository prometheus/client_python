/-
"Only ValueError can escape" (`Safe`) for the shared scanning core as the OpenMetrics parser calls it, in
OpenMetrics mode (`parse_labels(..., True)`), and termination of its label loop.  What does not depend on the mode
(`Safe` and its combinators, `strip`, the body of the label loop after `_next_term`) is in
`Lemmas/ParseCoreTotal.lean`.  `SafePost Q x` joins `Safe x` with a postcondition on the result, for the functions whose
caller relies on what they return (a shorter remainder, a set field, a kept invariant); `safe_cases` is how a caller goes
past a safe step of the model's `match … with | .error e => .error e | .ok a => …` chains.
-/
import PromVerif.Lemmas.ParseCoreTotal
import PromVerif.Model.OMParse

namespace PromVerif.Lemmas.OM
open PromVerif.Py PromVerif.Model.ParseCore PromVerif.Model.Validation PromVerif.Model.OMParse
open PromVerif.Lemmas.TextParse PromVerif.Lemmas.TextTotal

theorem safe_error {α β : Type} {x : PyM α} {e : PyErr} (hx : Safe x) (h : x = .error e) : Safe (.error e : PyM β) :=
  fun e' he' => by cases he'; exact hx e h

/-- case analysis on a computation from which only ValueError escapes: what is to be shown of it (say, that the rest of
a `match x with | .error e => .error e | .ok a => …` is safe) holds when it raised ValueError and when it returned -/
@[elab_as_elim]
theorem safe_cases {α : Type} {x : PyM α} {motive : PyM α → Prop} (hx : Safe x)
    (error : motive (.error .valueError)) (ok : ∀ a, x = .ok a → motive (.ok a)) : motive x := by
  cases x with
  | error e => rw [hx e rfl]; exact error
  | ok a => exact ok a rfl

/-- nothing but ValueError escapes, and a result satisfies `Q` -/
def SafePost {α : Type} (Q : α → Prop) (x : PyM α) : Prop := Safe x ∧ Post Q x

theorem safePost_ok {α : Type} {Q : α → Prop} {a : α} (h : Q a) : SafePost Q (.ok a) :=
  ⟨safe_ok a, fun _ e => by cases e; exact h⟩

theorem safePost_valueError {α : Type} {Q : α → Prop} : SafePost Q (.error .valueError) :=
  ⟨safe_valueError, fun _ e => by cases e⟩

theorem safePost_ite {α : Type} {Q : α → Prop} {c : Prop} [Decidable c] {a b : PyM α} (ha : SafePost Q a) (hb : SafePost Q b) :
    SafePost Q (if c then a else b) := by
  split
  · exact ha
  · exact hb

theorem SafePost.imp {α : Type} {Q R : α → Prop} {x : PyM α} (h : SafePost Q x) (hqr : ∀ a, Q a → R a) : SafePost R x :=
  ⟨h.1, fun a e => hqr a (h.2 a e)⟩

theorem parseOneLabel_om_eq (legacy : Bool) (sub : Str) (labels : List (Str × Str)) :
    parseOneLabel legacy true sub labels = nextTerm sub true >>= fun tr =>
      if tr.1.isEmpty then throw .valueError else oneLabelBody legacy labels tr.1 tr.2 := by
  unfold parseOneLabel
  congr 1
  funext tr
  obtain ⟨term, rest⟩ := tr
  unfold oneLabelBody
  dsimp -zeta only
  by_cases c : term.isEmpty = true
  · rw [if_pos c, if_pos c, if_pos rfl]
  · rw [if_neg c, if_neg c, if_neg c]; rfl

/-- the part of `_next_term` after the optional leading comma, in OpenMetrics mode -/
def omTail (t : Str) : PyM (Str × Str) :=
  let splitpos := match nextUnquotedChar t (fun ch => ch == ',' || ch == '}') with
    | some p => p
    | none => t.length
  let term := t.take splitpos
  if term.isEmpty && true then (.error .valueError : PyM (Str × Str))
  else .ok (strip term, strip (t.drop splitpos))

theorem nextTerm_om_no_comma (c : Char) (cs : Str) (hc : c ≠ ',') : nextTerm (c :: cs) true = omTail (c :: cs) := by
  have : (c == ',') = false := by simpa using hc
  unfold nextTerm omTail
  simp only [this, Bool.false_eq_true, ↓reduceIte]
  rfl

theorem nextTerm_om_comma_nil : nextTerm [','] true = .ok ([], []) := rfl
theorem nextTerm_om_comma_comma (ds : Str) : nextTerm (',' :: ',' :: ds) true = .error .valueError := rfl

theorem nextTerm_om_comma_cons (d : Char) (ds : Str) (hd : d ≠ ',') :
    nextTerm (',' :: d :: ds) true = omTail (d :: ds) := by
  unfold nextTerm omTail
  simp only [beq_self_eq_true, ↓reduceIte]
  split
  · rename_i e1
    split at e1
    · rename_i e'; simp at e'
    · rename_i e'; simp at e'; exact absurd e'.1 hd
    · simp at e1
  · rename_i e1
    split at e1
    · rename_i e'; simp at e'
    · simp at e1
    · simp at e1
  · rename_i t1 e1
    split at e1
    · rename_i e'; simp at e'
    · simp at e1
    · simp only [Except.ok.injEq, Option.some.injEq] at e1
      subst e1
      rfl

theorem omTail_spec (t : Str) : SafePost (fun tr => tr.2.length < t.length) (omTail t) := by
  unfold omTail
  dsimp only
  generalize (match nextUnquotedChar t (fun ch => ch == ',' || ch == '}') with
    | some p => p
    | none => t.length) = splitpos
  by_cases c : ((t.take splitpos).isEmpty && true) = true
  · rw [if_pos c]
    exact safePost_valueError
  · rw [if_neg c]
    apply safePost_ok
    -- the term is not empty, so at least one character went into it
    have hne : t.take splitpos ≠ [] := by
      intro e; rw [e] at c; exact c rfl
    have hpos : 0 < min splitpos t.length := by
      rw [← List.length_take]
      exact List.length_pos_iff.mpr hne
    have h3 := strip_length_le (t.drop splitpos)
    have h4 : (t.drop splitpos).length = t.length - splitpos := List.length_drop
    show (strip (t.drop splitpos)).length < t.length
    omega

theorem nextTerm_om_spec (sub : Str) (hne : sub ≠ []) :
    SafePost (fun tr => tr.1 ≠ [] → tr.2.length < sub.length) (nextTerm sub true) := by
  cases sub with
  | nil => exact absurd rfl hne
  | cons c rest0 =>
    by_cases hc : c = ','
    · subst hc
      cases rest0 with
      | nil =>
        rw [nextTerm_om_comma_nil]
        exact safePost_ok fun hterm => absurd rfl hterm
      | cons d ds =>
        by_cases hd : d = ','
        · subst hd
          rw [nextTerm_om_comma_comma]
          exact safePost_valueError
        · rw [nextTerm_om_comma_cons d ds hd]
          exact (omTail_spec (d :: ds)).imp fun tr h _ => Nat.lt_succ_of_lt h
    · rw [nextTerm_om_no_comma c rest0 hc]
      exact (omTail_spec (c :: rest0)).imp fun tr h _ => h

theorem parseOneLabel_om_spec (legacy : Bool) (sub : Str) (hne : sub ≠ []) (labels : List (Str × Str)) :
    SafePost (fun p => p.2.length < sub.length) (parseOneLabel legacy true sub labels) := by
  obtain ⟨hs, hr⟩ := nextTerm_om_spec sub hne
  rw [parseOneLabel_om_eq]
  refine safe_cases hs safePost_valueError fun tr hnt => ?_
  show SafePost _ (if tr.1.isEmpty then throw .valueError else oneLabelBody legacy labels tr.1 tr.2)
  by_cases c : tr.1.isEmpty = true
  · rw [if_pos c]; exact safePost_valueError
  · rw [if_neg c]
    refine ⟨oneLabelBody_safe _ _ _ _, fun p h => ?_⟩
    have hne' : tr.1 ≠ [] := by intro e; rw [e] at c; exact c rfl
    show p.2.length < sub.length
    rw [oneLabelBody_rest legacy labels tr.1 tr.2 p.1 p.2 h]
    exact hr tr hnt hne'

theorem parseLabelsLoop_om_safe (legacy : Bool) : ∀ (fuel : Nat) (sub : Str) (labels : List (Str × Str)),
    sub.length < fuel → Safe (parseLabelsLoop legacy true fuel sub labels) := by
  intro fuel
  induction fuel with
  | zero => intro sub labels h; omega
  | succ f ih =>
    intro sub labels hf
    rw [parseLabelsLoop]
    by_cases he : sub.isEmpty = true
    · rw [if_pos he]; exact safe_ok _
    · rw [if_neg he]
      have hne : sub ≠ [] := by intro e; subst e; exact he rfl
      obtain ⟨hs, hr⟩ := parseOneLabel_om_spec legacy sub hne labels
      apply safe_bind hs
      intro x hx
      have := hr x hx
      exact ih x.2 x.1 (by omega)

theorem parseLabels_om_safe (legacy : Bool) (s : Str) : Safe (parseLabels legacy s true) := by
  unfold parseLabels
  dsimp only
  split
  · exact safe_valueError
  · exact parseLabelsLoop_om_safe legacy _ _ _ (by omega)

end PromVerif.Lemmas.OM
