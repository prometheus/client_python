/-
`_parse_nh_struct` / `_parse_nh_sample`: nothing but ValueError escapes (once the field look-ups are wrapped,
979e8ea), and what a successful result looks like.
-/
import PromVerif.Lemmas.OMTotal

namespace PromVerif.Lemmas.OM
open PromVerif.Py PromVerif.Model.ParseCore PromVerif.Model.Validation PromVerif.Model.OMParse PromVerif.Generated.OMParse
open PromVerif.Lemmas.TextParse PromVerif.Lemmas.TextTotal

/-- interpreter fact: no `\d` character is whitespace (so a matched delta list never strips to nothing) -/
def DigitsNotSpace (P : Params) : Prop := ∀ c, P.reD c = true → isPySpace c = false

theorem safe_mapM {α β : Type} (f : α → PyM β) (h : ∀ a, Safe (f a)) : ∀ l : List α, Safe (l.mapM f) := by
  intro l
  induction l with
  | nil => rw [List.mapM_nil]; exact safe_pure _
  | cons a l ih =>
    rw [List.mapM_cons]
    apply safe_bind (h a); intro b _
    apply safe_bind ih; intro bs _
    exact safe_pure _

theorem safe_itemGet (items : List (Str × Str)) (k : Str) : Safe (itemGet items k) := by
  have hflag : nhStructCatchesKeyError = true := by decide
  unfold itemGet
  split
  · exact safe_ok _
  · rw [hflag]; exact safe_valueError

theorem safe_composeSpans (P : Params) (ms : List (Str × Str)) (name : Str) : Safe (composeSpans P ms name) := by
  unfold composeSpans
  apply safe_bind
  · apply safe_mapM
    intro kv
    apply safe_bind
    · apply safe_mapM; intro pair
      apply safe_mapM; intro x
      exact safe_intE P x
    · intro _ _; exact safe_pure _
  · intro spans _
    split
    · exact safe_pure _
    · apply safe_bind
      · apply safe_mapM
        intro p
        split
        · exact safe_pure _
        · exact safe_throw
      · intro _ _; exact safe_pure _

/-- a matched list text starts with `-` or a digit -/
def HeadOK (P : Params) (body : Str) : Prop := ∃ c t, body = c :: t ∧ (c = '-' ∨ P.reD c = true)

theorem takeWhile_head (p : Char → Bool) (s : Str) (hne : s.takeWhile p ≠ []) : ∃ c t, s.takeWhile p = c :: t ∧ p c = true := by
  cases s with
  | nil => exact absurd rfl hne
  | cons x xs =>
    rw [List.takeWhile_cons] at hne ⊢
    by_cases hx : p x = true
    · rw [if_pos hx]; exact ⟨x, _, rfl, hx⟩
    · rw [if_neg hx] at hne; exact absurd rfl hne

theorem matchSigned_head (P : Params) (s m r : Str) (h : matchSigned P s = some (m, r)) : HeadOK P m := by
  unfold matchSigned at h
  split at h
  rename_i sign body hsb
  dsimp only at h
  split at h
  · cases h
  · rename_i hne
    cases h
    have hne' : body.takeWhile P.reD ≠ [] := by intro e; rw [e] at hne; exact hne rfl
    split at hsb
    · cases hsb
      exact ⟨'-', _, rfl, Or.inl rfl⟩
    · cases hsb
      obtain ⟨c, t, ht, hc⟩ := takeWhile_head P.reD _ hne'
      exact ⟨c, t, by simpa using ht, Or.inr hc⟩

theorem matchListTail_prefix (item : Str → Option (Str × Str)) : ∀ (fuel : Nat) (acc s body r : Str),
    matchListTail item fuel acc s = some (body, r) → ∃ t, body = acc ++ t := by
  intro fuel
  induction fuel with
  | zero => intro acc s body r h; cases h
  | succ f ih =>
    intro acc s body r h
    unfold matchListTail at h
    split at h
    · split at h
      · rename_i m rest _
        obtain ⟨t, ht⟩ := ih _ _ _ _ h
        exact ⟨',' :: m ++ t, by rw [ht]; simp⟩
      · cases h
    · cases h
      exact ⟨[], by simp⟩
    · cases h

theorem matchList_head (P : Params) (item : Str → Option (Str × Str)) (hitem : ∀ s m r, item s = some (m, r) → HeadOK P m)
    (s body r : Str) (h : matchList item s = some (body, r)) : HeadOK P body := by
  unfold matchList at h
  split at h
  · rename_i m rest hm
    obtain ⟨c, t, rfl, hc⟩ := hitem _ _ _ hm
    obtain ⟨t', ht'⟩ := matchListTail_prefix item _ _ _ _ _ h
    exact ⟨c, t ++ t', by rw [ht']; rfl, hc⟩
  · cases h

theorem findKeyedLists_head (P : Params) (keys : List Str) (item : Str → Option (Str × Str))
    (hitem : ∀ s m r, item s = some (m, r) → HeadOK P m) : ∀ (fuel : Nat) (s : Str),
    ∀ kv ∈ findKeyedLists keys item fuel s, HeadOK P kv.2 := by
  intro fuel
  induction fuel with
  | zero => intro s kv h; simp [findKeyedLists] at h
  | succ f ih =>
    intro s kv h
    cases s with
    | nil => simp [findKeyedLists] at h
    | cons c cs =>
      unfold findKeyedLists at h
      split at h
      · rename_i k body rest hm
        rcases List.mem_cons.mp h with rfl | h'
        · unfold matchKeyedList at hm
          split at hm
          · cases hm
          · split at hm
            · split at hm
              · rename_i body' rest' hl
                cases hm
                exact matchList_head P item hitem _ _ _ hl
              · cases hm
            · cases hm
        · exact ih _ kv h'
      · exact ih _ kv h

theorem lookupLast_mem {β : Type} (k : Str) (l : List (Str × β)) (v : β) (h : lookupLast k l = some v) : ∃ kv ∈ l, kv.2 = v := by
  unfold lookupLast at h
  cases hf : l.reverse.find? (fun kv => kv.1 == k) with
  | none => rw [hf] at h; cases h
  | some kv =>
    rw [hf] at h
    exact ⟨kv, List.mem_reverse.mp (List.mem_of_find?_eq_some hf), Option.some.inj h⟩

theorem safe_composeDeltas (P : Params) (hd : DigitsNotSpace P) (deltas : List (Str × Str)) (name : Str)
    (hh : ∀ kv ∈ deltas, HeadOK P kv.2) : Safe (composeDeltas P deltas name) := by
  unfold composeDeltas
  split
  · exact safe_ok _
  · rename_i out hl
    obtain ⟨kv, hkv, rfl⟩ := lookupLast_mem _ _ _ hl
    obtain ⟨c, t, hct, hc⟩ := hh kv hkv
    have hns : isPySpace c = false := by
      rcases hc with rfl | hc
      · decide
      · exact hd c hc
    have hne : (strip kv.2).isEmpty = false := by
      have := take_safe_of_head (term := kv.2) (fun a ha => by rw [hct] at ha; cases ha; exact hns) kv.2.length
      rw [List.take_length] at this
      rcases this with h1 | h1
      · rw [hct] at h1; cases h1
      · cases hs : strip kv.2 with
        | nil => exact absurd hs h1
        | cons a b => rfl
    rw [hne]
    simp only [Bool.false_eq_true, if_false]
    apply safe_bind
    · apply safe_mapM; intro x; exact safe_intE P _
    · intro _ _; exact safe_pure _

theorem safe_parseNhStruct (P : Params) (hd : DigitsNotSpace P) (text : Str) : Safe (parseNhStruct P text) := by
  unfold parseNhStruct
  dsimp only
  have hdel : ∀ kv ∈ findKeyedLists deltaKeys (matchSigned P) (text.length + 1) text, HeadOK P kv.2 :=
    findKeyedLists_head P deltaKeys (matchSigned P) (matchSigned_head P) _ _
  apply safe_bind (safe_itemGet _ _); intro _ _
  apply safe_bind (safe_intE P _); intro _ _
  apply safe_bind (safe_itemGet _ _); intro _ _
  apply safe_bind (safe_intE P _); intro _ _
  apply safe_bind (safe_itemGet _ _); intro _ _
  apply safe_bind (safe_intE P _); intro _ _
  apply safe_bind (safe_itemGet _ _); intro _ _
  apply safe_bind (safe_floatE P _); intro _ _
  apply safe_bind (safe_itemGet _ _); intro _ _
  apply safe_bind (safe_intE P _); intro _ _
  apply safe_bind (safe_composeSpans P _ _); intro _ _
  apply safe_bind (safe_composeSpans P _ _); intro _ _
  apply safe_bind (safe_composeDeltas P hd _ _ hdel); intro _ _
  apply safe_bind (safe_composeDeltas P hd _ _ hdel); intro _ _
  exact safe_pure _

theorem nhNameLabels_spec (suffixes : List Str) (name : Str) (labels : Labels) :
    SafePost (fun nl => endsWithAny suffixes nl.1 = false) (nhNameLabels suffixes name labels) := by
  have hflag : nhSuffixRecheck = true := by decide
  unfold nhNameLabels
  by_cases c1 : endsWithAny suffixes name = true
  · rw [if_pos c1]; exact safePost_valueError
  · rw [if_neg c1]
    refine safePost_ite ?_ (safePost_ok (by simpa using c1))
    cases dictGet labels sName with
    | none => exact safePost_valueError
    | some x =>
      dsimp only
      rw [hflag, Bool.true_and]
      by_cases c3 : endsWithAny suffixes x = true
      · rw [if_pos c3]; exact safePost_valueError
      · rw [if_neg c3]
        exact safePost_ok (by simpa using c3)

/-- what `_parse_nh_sample` returns: `None`, or a sample carrying a native histogram whose name carries none of the suffixes
(the test is made on the name before the braces and — 6c551bc — again on a name taken from the braces) -/
def NhResult (suffixes : List Str) (o : Option OSample) : Prop :=
  ∀ s, o = some s → s.nh.isSome = true ∧ endsWithAny suffixes s.name = false

theorem parseNhSample_spec (P : Params) (hd : DigitsNotSpace P) (text : Str) (suffixes : List Str) :
    SafePost (NhResult suffixes) (parseNhSample P text suffixes) := by
  unfold parseNhSample
  refine safe_cases (nhDetect_safe text) safePost_valueError fun o _ => ?_
  cases o with
  | none => exact safePost_ok fun s hs => by cases hs
  | some pos =>
    dsimp only
    refine safePost_ite ?_ ?_
    · refine safe_cases (parseLabels_om_safe P.legacy (pySlice text (pos.labelsStart + 1) pos.labelsEnd))
        safePost_valueError fun labels _ => ?_
      dsimp only
      obtain ⟨hns, hnp⟩ := nhNameLabels_spec suffixes (pySlice text 0 pos.labelsStart) labels
      refine safe_cases hns safePost_valueError fun nl hn => ?_
      dsimp only
      refine safe_cases (safe_parseNhStruct P hd (text.drop pos.valueStart)) safePost_valueError fun nh _ => ?_
      refine safePost_ok fun s hs => ?_
      cases hs
      exact ⟨rfl, hnp nl hn⟩
    · by_cases c2 : endsWithAny suffixes (pySlice text 0 (Int.ofNat pos.valueStart - 1)) = true
      · rw [if_pos c2]; exact safePost_valueError
      · rw [if_neg c2]
        refine safe_cases (safe_parseNhStruct P hd (text.drop pos.valueStart)) safePost_valueError fun nh _ => ?_
        refine safePost_ok fun s hs => ?_
        cases hs
        exact ⟨rfl, by simpa using c2⟩

end PromVerif.Lemmas.OM
