/-
The final conversion `Sample(name_, dict(labels), value)` neither merges nor alters series: every key that gets a value
carries a label list with pairwise different names, on which `dict` is the identity.
-/
import PromVerif.Lemmas.MultiprocessKeys

namespace PromVerif.Props.C08
open PromVerif.Py PromVerif.Generated.Multiprocess
open PromVerif.Model.Multiprocess PromVerif.Spec.Multiprocess
set_option autoImplicit false

variable {V B : Type}

theorem nodup_filter_names (ls : Labels) (p : Str × Str → Bool) (h : (ls.map (·.1)).Nodup) :
    ((ls.filter p).map (·.1)).Nodup :=
  List.Nodup.sublist ((List.filter_sublist).map _) h

theorem nodup_names_append (ls : Labels) (n t : Str) (h : (ls.map (·.1)).Nodup) (hn : ∀ l ∈ ls, l.1 ≠ n) :
    ((ls ++ [(n, t)]).map (·.1)).Nodup := by
  rw [List.map_append]
  apply nodup_concat h
  intro hm
  obtain ⟨l, hl, e⟩ := List.mem_map.mp hm
  exact hn l hl e

theorem sumValue_some_key (vo : VOps V) (cs : List (Contrib V)) (k : SKey) (r : V) (h : sumValue vo cs k = some r) :
    ∃ c ∈ cs, plainKey c = k := by
  apply (valuesFor_ne_nil plainKey cs k).mp
  intro e
  unfold sumValue at h
  rw [e] at h; cases h

theorem gaugeValue_plain_key (vo : VOps V) (kind : Kind)
    (hk : kind ∈ [Kind.gaugeMin, Kind.gaugeMax, Kind.gaugeSum, Kind.gaugeMostRecent]) (cs : List (Contrib V)) (k : SKey)
    (r : V) (h : gaugeValue vo kind cs k = some r) : ∃ c ∈ cs, plainKey c = k := by
  apply (valuesFor_ne_nil plainKey cs k).mp
  intro e
  have e' : cs.filter (fun c => plainKey c = k) = [] := List.map_eq_nil_iff.mp e
  simp only [List.mem_cons, List.not_mem_nil, or_false] at hk
  rcases hk with rfl | rfl | rfl | rfl <;>
    simp [gaugeValue, sumValue, aggMin, aggMax, aggPick, aggMostRecent, e, e'] at h

/-- the series is that of a contribution (whose label names are pairwise different), with `pid` added for `all` gauges
    (no gauge label is named `pid`) or `le` put back for a bucket -/
theorem value_key_labels_nodup (vo : VOps V) (bo : BOps B) [DecidableEq B] (fs : List (SFile V)) (hwf : WFInput bo fs)
    (mn : Str) (k : SKey) (r : V) (h : value vo bo fs mn k = some r) : (k.2.map (·.1)).Nodup := by
  have hplain : ∀ c ∈ contribs fs mn, plainKey c = k → (k.2.map (·.1)).Nodup := by
    intro c hc e
    rw [← e]; exact hwf.label_names c (mem_contribs hc).1
  unfold value at h
  simp only at h
  cases hkind : kindOf (typOf fs mn) (modeOf fs mn) <;> rw [hkind] at h
  case plainSum =>
    obtain ⟨c, hc, e⟩ := sumValue_some_key vo _ k r h
    exact hplain c hc e
  case histogram =>
    unfold histValue at h
    cases hg : AL.get? (bucketSeries vo bo mn (contribs fs mn)) k with
    | some v =>
      obtain ⟨c, hc, _, _, _, _, e | ⟨_, _, _, b', _, _, _, e⟩⟩ :=
        bucket_key_char vo bo mn _ k ((AL.get?_isSome_iff _ k).mp (by rw [hg]; rfl))
      · rw [e]; exact nodup_filter_names _ _ (hwf.label_names c (mem_contribs hc).1)
      · rw [e]
        exact nodup_names_append _ _ _ (nodup_filter_names _ _ (hwf.label_names c (mem_contribs hc).1))
          (fun _ hl => of_decide_eq_true (List.mem_filter.mp hl).2)
    | none =>
      rw [hg] at h
      obtain ⟨c, hc, e⟩ := sumValue_some_key vo _ k r h
      exact hplain c (List.mem_filter.mp hc).1 e
  case gaugeAll =>
    have : valuesFor pidKey (contribs fs mn) k ≠ [] := fun e => by
      simp only [gaugeValue, aggLast, e] at h; cases h
    obtain ⟨c, hc, e⟩ := (valuesFor_ne_nil pidKey _ k).mp this
    -- the family is a gauge, hence so is `c`, and no label of a gauge is named `pid`
    have hct : c.typ = gaugeType := by
      rw [← typOf_eq bo fs hwf mn c hc, gaugeType_eq]
      by_cases hg : typOf fs mn = "gauge".toList
      · exact hg
      · unfold kindOf at hkind
        rw [if_neg hg] at hkind
        split at hkind <;> cases hkind
    rw [← e]
    exact nodup_names_append _ _ _ (hwf.label_names c (mem_contribs hc).1)
      (fun l hl => pidLabel_eq ▸ hwf.no_pid_label c (mem_contribs hc).1 hct l hl)
  all_goals
    obtain ⟨c, hc, e⟩ := gaugeValue_plain_key vo _ (by decide) _ k r h
    exact hplain c hc e

theorem convert_id (ss : List (SKey × V)) (h : ∀ kv ∈ ss, (kv.1.2.map (·.1)).Nodup) :
    convert ss = ss.map (fun kv => (⟨kv.1.1, kv.1.2, kv.2⟩ : OutSample V)) := by
  unfold convert
  apply List.map_congr_left
  intro kv hkv
  rw [pyDict_id _ (h kv hkv)]

/-- the collector on a well-formed listing, with each family's samples as the conversion of its `samples` dict -/
theorem accumulate_eq_dict (vo : VOps V) (bo : BOps B) [DecidableEq B] (fs : List (SFile V)) (h : WFInput bo fs)
    (hk : ∀ mn, typOf fs mn = histogramType → (AL.keys (bucketSeries vo bo mn (contribs fs mn))).Nodup) :
    ∃ out, merge vo bo (fs.map toFile) = .ok out ∧
      out.map (·.name) = families fs ∧ (families fs).Nodup ∧
      ∀ om ∈ out, om.doc = helpOf fs om.name ∧ om.typ = typOf fs om.name ∧
        ∃ ss, om.samples = convert ss ∧ (AL.keys ss).Nodup ∧ ∀ k, AL.get? ss k = value vo bo fs om.name k := by
  unfold merge
  rw [readMetrics_ok fs h.files]
  simp only [bind, Except.bind]
  have hkeys := read_keys (allContribs fs)
  have hnd : (AL.keys ((allContribs fs).foldl readStep [])).Nodup := by rw [hkeys]; exact nodup_distinct _
  obtain ⟨ys, h1, h2, h3⟩ := mapM_spec (fun (nm : Str × Metric V) => accumulateMetric vo bo nm.2)
    (fun nm om => om.name = nm.1 ∧ om.doc = helpOf fs nm.1 ∧ om.typ = typOf fs nm.1 ∧
      ∃ ss, om.samples = convert ss ∧ (AL.keys ss).Nodup ∧ ∀ k, AL.get? ss k = value vo bo fs nm.1 k)
    (·.name) (·.1) ((allContribs fs).foldl readStep [])
    (by
      intro nm hnm
      have hget := AL.get?_of_mem _ hnd nm.1 nm.2 hnm
      rw [read_get?] at hget
      cases hcs : (allContribs fs).filter (fun c => c.key.metric = nm.1) with
      | nil => rw [hcs] at hget; cases hget
      | cons c cs =>
        have hc : contribs fs nm.1 = c :: cs := hcs
        have htyp := (head_fields hc).1
        obtain ⟨m, ss, e1, e2, e3, e4, e5, e6, e7⟩ := family_eq_spec vo bo fs h nm.1 c cs hc
          (fun hh => hk nm.1 (htyp.trans hh))
        rw [hcs, e1] at hget
        have hm : nm.2 = m := (Option.some.inj hget).symm
        refine ⟨⟨m.name, m.doc, m.typ, convert ss⟩, ?_, ⟨e2, e3, e4, ss, rfl, e6, e7⟩, e2⟩
        unfold accumulateMetric
        rw [hm, e5]
        rfl)
  refine ⟨ys, h1, ?_, nodup_distinct _, ?_⟩
  · rw [h2]
    exact hkeys
  · intro om hom
    obtain ⟨nm, _, q1, q2, q3, q4⟩ := h3 om hom
    rw [q1]
    exact ⟨q2, q3, q4⟩

end PromVerif.Props.C08
