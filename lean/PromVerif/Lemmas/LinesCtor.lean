/-
C05 lemmas: constructor-time validation — what `MetricWrapperBase.__init__` accepts, `Metric.__init__`
(run again by every `collect()`) accepts unchanged.
-/
import PromVerif.Model.Ctor
import PromVerif.Lemmas.Str

namespace PromVerif.Lemmas.Lines
open PromVerif.Py PromVerif.Model PromVerif.Model.Validation PromVerif.Model.Ctor
open PromVerif.Generated.Ctor

theorem appendUnit_idem (n u : Str) : appendUnit (appendUnit n u) u = appendUnit n u := by
  unfold appendUnit
  by_cases h : (!u.isEmpty && !endsWith (sep ++ u) n) = true
  · rw [if_pos h, List.append_assoc, endsWith_append, Bool.not_true, Bool.and_false]
    rfl
  · rw [if_neg h, if_neg h]

theorem buildFullName_unit (typ name ns ss unit full : Str) (h : buildFullName typ name ns ss unit = .ok full) :
    appendUnit full unit = full := by
  unfold buildFullName at h
  by_cases hn : name.isEmpty = true
  · rw [if_pos hn] at h; cases h
  · rw [if_neg hn] at h
    by_cases hu : (!unit.isEmpty && noUnitTypes.contains typ) = true
    · simp only [hu, if_true] at h; cases h
    · simp only [hu] at h
      injection h with h
      rw [← h, appendUnit_idem]

/-- the `_type` of every instrumentation class is a `METRIC_TYPES` member and is not rewritten by `Metric.__init__` -/
theorem class_types_ok : ∀ p ∈ reservedLabelnames,
    metricTypes.contains p.1 = true ∧ (p.1 == untypedFrom) = false := by decide +kernel

/-- what the constructor of an instrumentation class accepted, `Metric.__init__` accepts at collect time, with the
same name and type -/
theorem ctor_then_metricInit (legacy : Bool) (typ name ns ss unit full : Str) (lns : List Str)
    (hcls : typ ∈ reservedLabelnames.map (·.1))
    (h : wrapperInit legacy typ name ns ss unit lns = .ok full) :
    metricInit legacy full typ unit = .ok (full, typ) := by
  unfold wrapperInit at h
  split at h
  · cases h
  · next f h1 =>
    split at h
    · cases h
    · split at h
      · cases h
      · next h3 =>
        cases h
        obtain ⟨p, hp, rfl⟩ := List.mem_map.mp hcls
        have hc := class_types_ok p hp
        unfold metricInit
        simp only [buildFullName_unit _ _ _ _ _ _ h1, h3, hc.1, hc.2, Bool.false_eq_true, if_false, if_true]

end PromVerif.Lemmas.Lines
