/-
Path level of C19: split ∘ join, the escaped pair is read back by the Pushgateway decoder, the URL is
base ++ "/metrics/" ++ path, and the gateway-spelling facts.
-/
import PromVerif.Model.Gateway
import PromVerif.Spec.Gateway
import PromVerif.Lemmas.Base64
import PromVerif.Lemmas.Quote
import PromVerif.Lemmas.GatewaySort

namespace PromVerif.Lemmas.Gateway
open PromVerif.Py PromVerif.Model.Gateway PromVerif.Spec.Gateway
open PromVerif.Lemmas.Base64 PromVerif.Lemmas.Quote PromVerif.Lemmas.GatewaySort
open PromVerif.Generated.Gateway (jobLit urlFmt pairFmt slashLit emptyMarker sortsGroupingKey httpPrefix rstripChars
  allowedSchemes spaceAsPlus)

theorem splitSlash_of_not_mem (x : Str) (h : '/' ∉ x) : splitSlash x = [x] := by
  induction x with
  | nil => rfl
  | cons c cs ih =>
    rw [List.mem_cons, not_or] at h
    simp [splitSlash, Ne.symm h.1, ih h.2]

theorem splitSlash_append (x rest : Str) (h : '/' ∉ x) : splitSlash (x ++ '/' :: rest) = x :: splitSlash rest := by
  induction x with
  | nil => simp [splitSlash]
  | cons c cs ih =>
    rw [List.mem_cons, not_or] at h
    simp [splitSlash, Ne.symm h.1, ih h.2]

theorem splitSlash_join : ∀ (segs : List Str), segs ≠ [] → (∀ s ∈ segs, '/' ∉ s) →
    splitSlash (joinStr ['/'] segs) = segs
  | [], h, _ => absurd rfl h
  | [x], _, h => by
    simpa [joinStr] using splitSlash_of_not_mem x (h x (by simp))
  | x :: y :: rest, _, h => by
    obtain ⟨hx, hrest⟩ := List.forall_mem_cons.mp h
    show splitSlash (x ++ ['/'] ++ joinStr ['/'] (y :: rest)) = _
    rw [List.append_assoc, List.singleton_append, splitSlash_append x _ hx, splitSlash_join (y :: rest) (by simp) hrest]

theorem labelChar_facts {c : Char} (h : isLabelChar c = true) : c ≠ '/' ∧ c ≠ '@' := by
  refine ⟨?_, ?_⟩ <;> (intro e; subst e; revert h; decide)

theorem legacy_name_facts {k : Str} (h : isLegacyLabelName k = true) : '/' ∉ k ∧ '@' ∉ k ∧ k ≠ [] := by
  cases k with
  | nil => simp [isLegacyLabelName] at h
  | cons c cs =>
    simp only [isLegacyLabelName, Bool.and_eq_true, List.all_eq_true] at h
    have hall : ∀ x ∈ c :: cs, isLabelChar x = true :=
      List.forall_mem_cons.mpr ⟨by simp [isLabelChar, h.1], h.2⟩
    exact ⟨fun m => (labelChar_facts (hall _ m)).1 rfl, fun m => (labelChar_facts (hall _ m)).2 rfl, by simp⟩

theorem stripSuffix_append (suf k : Str) : stripSuffix? suf (k ++ suf) = some k := by
  rw [stripSuffix?, endsWith_append]
  simp

theorem stripSuffix_none (k : Str) (h : '@' ∉ k) : stripSuffix? Spec.Gateway.base64Suffix k = none := by
  unfold stripSuffix? endsWith
  split
  · next hp =>
    rw [List.isPrefixOf_iff_prefix, List.reverse_prefix] at hp
    obtain ⟨t, ht⟩ := hp
    exact absurd (by rw [← ht]; simp [Spec.Gateway.base64Suffix]) h
  · rfl

theorem isInfix_singleton (c : Char) (v : Str) : isInfix [c] v = v.contains c := by
  induction v with
  | nil => rfl
  | cons x xs ih => simp [isInfix, ih, List.isPrefixOf, ← beq_iff_eq]

/-- the three cases of `_escape_grouping_key` (either encoder) -/
theorem escape_cases (q : Bool) (k v : Str) :
    (v = [] ∧ escapeGroupingKeyWith q k v = (k ++ Spec.Gateway.base64Suffix, ['='])) ∨
    (v ≠ [] ∧ '/' ∈ v ∧ escapeGroupingKeyWith q k v = (k ++ Spec.Gateway.base64Suffix, b64encode (utf8 v))) ∨
    (v ≠ [] ∧ '/' ∉ v ∧ escapeGroupingKeyWith q k v = (k, quoteWith q v)) := by
  unfold escapeGroupingKeyWith
  have hs : slashLit = ['/'] := by decide
  have hb : Generated.Gateway.base64Suffix = Spec.Gateway.base64Suffix := by decide
  have he : emptyMarker = ['='] := by decide
  rw [hs, hb, he, isInfix_singleton]
  by_cases hv : v = []
  · left; simp [hv]
  · right
    by_cases hc : '/' ∈ v
    · left; exact ⟨hv, hc, by simp [hv, hc]⟩
    · right; exact ⟨hv, hc, by simp [hv, hc]⟩

theorem b64decode_b64encode (bs : Bytes) : b64decode (b64encode bs) = some bs := by
  unfold b64decode
  rw [rstrip_b64encode, b64rawDecode_b64raw]

theorem b64encode_chars (bs : Bytes) : ∀ c ∈ b64encode bs, c ≠ '/' ∧ c ≠ '+' ∧ c ≠ '%' := by
  intro c hc
  rw [b64encode_eq_raw_pad] at hc
  rcases List.mem_append.mp hc with h | h
  · have := b64raw_chars bs c h
    exact ⟨this.1, this.2.1, this.2.2.1⟩
  · have := List.eq_of_mem_replicate h
    subst this
    decide

theorem utf8_ne_nil {v : Str} (h : v ≠ []) : utf8 v ≠ [] := by
  cases v with
  | nil => exact absurd rfl h
  | cons c cs => simp [utf8]

theorem quoteBytes_ne_nil (q : Bool) {bs : Bytes} (h : bs ≠ []) : quoteBytes q bs ≠ [] := by
  cases bs with
  | nil => exact absurd rfl h
  | cons b bs =>
    have : quoteByte q b ≠ [] := by
      rcases quoteByte_cases q b with ⟨_, _, e⟩ | ⟨_, _, e⟩ | e <;> rw [e] <;> simp
    simp [quoteBytes, this]

theorem b64encode_ne_nil {bs : Bytes} (h : bs ≠ []) : b64encode bs ≠ [] := by
  match bs, h with
  | [_], _ => simp [b64encode]
  | [_, _], _ => simp [b64encode]
  | _ :: _ :: _ :: _, _ => simp [b64encode]

theorem escape_ne_nil (q : Bool) (k v : Str) (hk : k ≠ []) :
    (escapeGroupingKeyWith q k v).1 ≠ [] ∧ (escapeGroupingKeyWith q k v).2 ≠ [] := by
  rcases escape_cases q k v with ⟨_, he⟩ | ⟨hv, _, he⟩ | ⟨hv, _, he⟩ <;> rw [he]
  · exact ⟨by simp [hk], by simp⟩
  · exact ⟨by simp [hk], b64encode_ne_nil (utf8_ne_nil hv)⟩
  · exact ⟨hk, quoteBytes_ne_nil q (utf8_ne_nil hv)⟩

/-- the Pushgateway reads an escaped pair back as the original pair -/
theorem decodePair_escape (q p : Bool) (hqp : q = true → p = true) (k v : Str) (hk : '@' ∉ k) (hne : k ≠ []) :
    decodePairWith p (escapeGroupingKeyWith q k v).1 (escapeGroupingKeyWith q k v).2 = some (k, v) := by
  have hnn := escape_ne_nil q k v hne
  unfold decodePairWith
  rw [if_neg (by simp [hnn.1, hnn.2])]
  rcases escape_cases q k v with ⟨hv, he⟩ | ⟨_, _, he⟩ | ⟨_, hns, he⟩
  · -- the marker `=` decodes like the encoding of the empty string
    have : b64decode ['='] = some (utf8 []) := by decide
    rw [he]; subst hv
    simp only [stripSuffix_append, this, Option.bind_some, utf8Decode_utf8, Option.map_some]
  · rw [he]
    simp only [stripSuffix_append, b64decode_b64encode, Option.bind_some, utf8Decode_utf8, Option.map_some]
  · rw [he]
    simp only [stripSuffix_none k hk, unquoteWith_quoteWith q p hqp]
    simp [hns]

theorem escape_no_slash (q : Bool) (k v : Str) (hk : '/' ∉ k) :
    '/' ∉ (escapeGroupingKeyWith q k v).1 ∧ '/' ∉ (escapeGroupingKeyWith q k v).2 := by
  have hsuf : '/' ∉ k ++ Spec.Gateway.base64Suffix := by simp [hk, Spec.Gateway.base64Suffix]
  rcases escape_cases q k v with ⟨_, he⟩ | ⟨_, _, he⟩ | ⟨_, _, he⟩ <;> rw [he]
  · exact ⟨hsuf, by simp⟩
  · exact ⟨hsuf, fun m => (b64encode_chars _ _ m).1 rfl⟩
  · exact ⟨hk, quoteBytes_no_slash q _⟩

theorem decodePairs_segments (p : Bool) (hqp : spaceAsPlus = true → p = true) (l : List (Str × Str))
    (h : ∀ kv ∈ l, '@' ∉ kv.1 ∧ kv.1 ≠ []) :
    decodePairsWith p (segments l) = some l := by
  induction l with
  | nil => rfl
  | cons kv rest ih =>
    obtain ⟨hkv, hrest⟩ := List.forall_mem_cons.mp h
    show decodePairsWith p ((escapeGroupingKeyWith spaceAsPlus kv.1 kv.2).1 ::
      (escapeGroupingKeyWith spaceAsPlus kv.1 kv.2).2 :: segments rest) = _
    simp only [decodePairsWith, decodePair_escape spaceAsPlus p hqp kv.1 kv.2 hkv.1 hkv.2, ih hrest]

theorem segments_no_slash (l : List (Str × Str)) (h : ∀ kv ∈ l, '/' ∉ kv.1) : ∀ s ∈ segments l, '/' ∉ s := by
  intro s hs
  obtain ⟨kv, hkv, hm⟩ := List.mem_flatMap.mp hs
  have := escape_no_slash spaceAsPlus kv.1 kv.2 (h kv hkv)
  simp only [List.mem_cons, List.not_mem_nil, or_false] at hm
  rcases hm with rfl | rfl
  · exact this.1
  · exact this.2

theorem decodePath_join (p : Bool) (hqp : spaceAsPlus = true → p = true) (kv : Str × Str) (l : List (Str × Str))
    (h : ∀ x ∈ kv :: l, '/' ∉ x.1 ∧ '@' ∉ x.1 ∧ x.1 ≠ []) :
    decodePathWith p (joinStr ['/'] (segments (kv :: l))) = some (kv :: l) := by
  unfold decodePathWith
  rw [splitSlash_join _ (by simp [segments]) (segments_no_slash _ (fun x hx => (h x hx).1))]
  exact decodePairs_segments p hqp _ (fun x hx => (h x hx).2)

theorem pairPiece_eq (kv : Str × Str) :
    pairPiece kv = '/' :: (escapeGroupingKey kv.1 kv.2).1 ++ '/' :: (escapeGroupingKey kv.1 kv.2).2 := by
  have : pairFmt = [['/'], ['/'], []] := by decide
  simp [pairPiece, this, fmt]

theorem joinStr_cons_cons (sep x y : Str) (l : List Str) :
    joinStr sep (x :: y :: l) = x ++ sep ++ joinStr sep (y :: l) := rfl

theorem joinStr_cons_segments (x : Str) (l : List (Str × Str)) :
    joinStr ['/'] (x :: segments l) = x ++ l.flatMap pairPiece := by
  induction l generalizing x with
  | nil => simp [segments, joinStr]
  | cons kv rest ih =>
    show joinStr ['/'] (x :: (escapeGroupingKey kv.1 kv.2).1 :: (escapeGroupingKey kv.1 kv.2).2 :: segments rest) = _
    rw [joinStr_cons_cons, joinStr_cons_cons, ih, List.flatMap_cons, pairPiece_eq]
    simp

theorem buildUrl_eq (g job : Str) (gk : List (Str × Str)) :
    buildUrl g job gk = gatewayBase g ++ Spec.Gateway.metricsInfix ++ buildPath job gk := by
  have hf : urlFmt = [[], Spec.Gateway.metricsInfix, ['/'], []] := by decide
  unfold buildUrl buildPath
  show _ = _ ++ _ ++ joinStr ['/'] ((escapeGroupingKey jobLit job).1 :: (escapeGroupingKey jobLit job).2 ::
    segments (orderedItems gk))
  rw [joinStr_cons_cons, joinStr_cons_segments, hf]
  simp [fmt]

theorem findChar_append_right {c : Char} (u : Str) {v : Str} (h : c ∉ v) : findChar c (u ++ v) = findChar c u := by
  induction u with
  | nil => exact findChar_none_of_not_mem h
  | cons x xs ih => simp only [List.cons_append, findChar, ih]

theorem findChar_le {c : Char} {u : Str} {i : Nat} (h : findChar c u = some i) : i ≤ u.length := by
  induction u generalizing i with
  | nil => cases h
  | cons x xs ih =>
    simp only [findChar] at h
    split at h
    · cases h; exact Nat.zero_le _
    · obtain ⟨j, hj, rfl⟩ := Option.map_eq_some_iff.mp h
      exact Nat.succ_le_succ (ih hj)

theorem dropWhile_append_slashes (p : Char → Bool) (g : Str) (n : Nat) (hp : p '/' = false) :
    (g ++ List.replicate n '/').dropWhile p = g.dropWhile p ++ List.replicate n '/' := by
  rw [List.dropWhile_append, List.dropWhile_replicate, hp]
  split
  · next h => rw [List.isEmpty_iff.mp h]; rfl
  · rfl

/-- the trailing slashes survive the stripping and the filter, contain no `:`, and the scheme `urlparse` reports is
read off the text before the first `:` -/
theorem urlScheme_append_slashes (g : Str) (n : Nat) : urlScheme (g ++ List.replicate n '/') = urlScheme g := by
  have hfil : (List.replicate n '/').filter (fun c => c ≠ '\t' && c ≠ '\r' && c ≠ '\n') = List.replicate n '/' := by
    rw [List.filter_replicate]; rfl
  have hcolon : ':' ∉ List.replicate n '/' := fun m => absurd (List.eq_of_mem_replicate m) (by decide)
  unfold urlScheme
  simp only []
  rw [dropWhile_append_slashes _ _ _ (by decide), List.filter_append, hfil, findChar_append_right _ hcolon]
  generalize (List.filter (fun c => c ≠ '\t' && c ≠ '\r' && c ≠ '\n') (List.dropWhile (fun c => decide (c.toNat ≤ 32)) g)) = u
  cases hf : findChar ':' u with
  | none => rfl
  | some i =>
    have hhead : (u ++ List.replicate n '/').head? = u.head? := by
      cases u with
      | nil => cases hf
      | cons x xs => rfl
    simp only [List.take_append_of_le_length (findChar_le hf), hhead]

theorem needsPrefix_append_slashes (g : Str) (n : Nat) :
    needsPrefix (g ++ List.replicate n '/') = needsPrefix g := by
  unfold needsPrefix
  rw [urlScheme_append_slashes]

theorem rstrip_append_slashes (y : Str) (n : Nat) :
    rstripSet (fun c => rstripChars.contains c) (y ++ List.replicate n '/') =
      rstripSet (fun c => rstripChars.contains c) y :=
  rstripSet_append_of_eq_nil _ _ _ (rstripSet_replicate _ _ _ (by decide))

theorem gatewayBase_append_slashes (g : Str) (n : Nat) : gatewayBase (g ++ List.replicate n '/') = gatewayBase g := by
  unfold gatewayBase
  rw [needsPrefix_append_slashes]
  split
  · rw [← List.append_assoc, rstrip_append_slashes]
  · rw [rstrip_append_slashes]

/-- `urlScheme` looks at nothing behind the first `:`, so this is evaluation on the prefix -/
theorem urlScheme_http (x : Str) : urlScheme (httpPrefix ++ x) = ['h', 't', 't', 'p'] := by rfl

theorem urlScheme_https (x : Str) : urlScheme (['h', 't', 't', 'p', 's', ':', '/', '/'] ++ x) = ['h', 't', 't', 'p', 's'] := by
  rfl

theorem needsPrefix_http (x : Str) : needsPrefix (httpPrefix ++ x) = false := by
  unfold needsPrefix
  rw [urlScheme_http]
  decide

theorem needsPrefix_https (x : Str) : needsPrefix (['h', 't', 't', 'p', 's', ':', '/', '/'] ++ x) = false := by
  unfold needsPrefix
  rw [urlScheme_https]
  decide

end PromVerif.Lemmas.Gateway
