import PromVerif.Py.Str
import PromVerif.Py.Err
namespace PromVerif.Py

/-- lets the kernel compare an evaluated parser result with the expected one (a definition, made an instance locally where test vectors are evaluated) -/
@[reducible] def decEqExcept {ε α : Type} [DecidableEq ε] [DecidableEq α] : DecidableEq (Except ε α)
  | .ok a, .ok b => decidable_of_iff (a = b) ⟨congrArg _, Except.ok.inj⟩
  | .error a, .error b => decidable_of_iff (a = b) ⟨congrArg _, Except.error.inj⟩
  | .ok _, .error _ => isFalse nofun
  | .error _, .ok _ => isFalse nofun

theorem mapM_ok {α β : Type} (f : α → PyM β) (g : α → β) : ∀ (l : List α), (∀ a ∈ l, f a = .ok (g a)) → l.mapM f = .ok (l.map g) := by
  intro l
  induction l with
  | nil => intro _; rfl
  | cons a as ih =>
    intro h
    rw [List.mapM_cons, h a (List.mem_cons_self ..), ih (fun b hb => h b (List.mem_cons_of_mem _ hb))]
    rfl

theorem endsWith_append (n suf : Str) : endsWith suf (n ++ suf) = true := by
  unfold endsWith
  rw [List.reverse_append]
  exact List.isPrefixOf_iff_prefix.mpr (List.prefix_append _ _)

theorem findChar_append_of_not_mem {c : Char} {a b : List Char} (h : c ∉ a) :
    findChar c (a ++ c :: b) = some a.length := by
  induction a with
  | nil => simp [findChar]
  | cons x xs ih =>
    rw [List.mem_cons, not_or] at h
    simp [findChar, Ne.symm h.1, ih h.2]

theorem findChar_none_of_not_mem {c : Char} {a : List Char} (h : c ∉ a) : findChar c a = none := by
  induction a with
  | nil => simp [findChar]
  | cons x xs ih =>
    rw [List.mem_cons, not_or] at h
    simp [findChar, Ne.symm h.1, ih h.2]

theorem splitFirst_append_of_not_mem {c : Char} {a b : List Char} (h : c ∉ a) :
    splitFirst c (a ++ c :: b) = (a, some b) := by
  induction a with
  | nil => simp [splitFirst]
  | cons x xs ih =>
    rw [List.mem_cons, not_or] at h
    simp [splitFirst, Ne.symm h.1, ih h.2]

theorem splitFirst_of_not_mem {c : Char} {a : List Char} (h : c ∉ a) :
    splitFirst c a = (a, none) := by
  induction a with
  | nil => simp [splitFirst]
  | cons x xs ih =>
    rw [List.mem_cons, not_or] at h
    simp [splitFirst, Ne.symm h.1, ih h.2]

section
variable (p : Char → Bool)

theorem rstripSet_eq (s : List Char) : rstripSet p s = (s.reverse.dropWhile p).reverse := by
  induction s with
  | nil => rfl
  | cons c cs ih =>
    rw [rstripSet, ih, List.reverse_cons, List.dropWhile_append]
    cases h : List.dropWhile p cs.reverse with
    | nil => cases hp : p c <;> simp [hp]
    | cons y ys => simp

theorem rstripSet_eq_nil_iff (a : List Char) :
    rstripSet p a = [] ↔ a.all p = true := by
  rw [rstripSet_eq, List.reverse_eq_nil_iff, ← List.all_reverse]
  constructor
  · intro h
    have := List.takeWhile_append_dropWhile (p := p) (l := a.reverse)
    rw [h, List.append_nil] at this
    rw [← this]
    exact List.all_takeWhile
  · intro h
    have := List.dropWhile_append_of_pos (p := p) (l₁ := a.reverse) (l₂ := []) (by simpa using h)
    simpa using this

theorem rstripSet_cons_of_ne_nil (x : Char) (xs : List Char) (h : rstripSet p xs ≠ []) :
    rstripSet p (x :: xs) = x :: rstripSet p xs := by
  rw [rstripSet]
  split
  · next h' => exact absurd h' h
  · rfl

theorem rstripSet_cons_of_nil (x : Char) (xs : List Char) (h : rstripSet p xs = []) :
    rstripSet p (x :: xs) = if p x then [] else [x] := by
  simp only [rstripSet, h]

theorem rstripSet_append (a b : List Char) :
    rstripSet p (a ++ b) = if rstripSet p b = [] then rstripSet p a else a ++ rstripSet p b := by
  simp only [rstripSet_eq, List.reverse_append, List.dropWhile_append, List.reverse_eq_nil_iff, List.isEmpty_iff]
  split <;> simp

theorem rstripSet_append_of_eq_nil (a b : List Char) (h : rstripSet p b = []) :
    rstripSet p (a ++ b) = rstripSet p a := by
  rw [rstripSet_append, if_pos h]

theorem rstripSet_of_last (s : List Char) (h : ∀ c, s.getLast? = some c → p c = false) :
    rstripSet p s = s := by
  cases hl : s.getLast? with
  | none => rw [List.getLast?_eq_none_iff.mp hl]; rfl
  | some c =>
    obtain ⟨ys, rfl⟩ := List.getLast?_eq_some_iff.mp hl
    have hc : rstripSet p [c] = [c] := by simp [rstripSet, h c hl]
    rw [rstripSet_append, hc, if_neg (List.cons_ne_nil _ _)]

theorem rstripSet_getLast (a : List Char) :
    ∀ c, (rstripSet p a).getLast? = some c → p c = false := by
  intro c hc
  rw [rstripSet_eq, List.getLast?_reverse] at hc
  have := List.head?_dropWhile_not p a.reverse
  rwa [hc] at this

theorem rstripSet_prefix (a : List Char) :
    ∃ j, a = rstripSet p a ++ j ∧ j.all p = true := by
  refine ⟨(a.reverse.takeWhile p).reverse, ?_, by rw [List.all_reverse]; exact List.all_takeWhile⟩
  rw [rstripSet_eq, ← List.reverse_append, List.takeWhile_append_dropWhile, List.reverse_reverse]

theorem rstripSet_all (q : Char → Bool) (a : List Char) (h : a.all q = true) : (rstripSet p a).all q = true := by
  obtain ⟨j, hj, _⟩ := rstripSet_prefix p a
  rw [hj] at h
  simp only [List.all_append, Bool.and_eq_true] at h
  exact h.1

theorem rstripSet_congr (q : Char → Bool) (a : List Char) (h : ∀ c ∈ a, p c = q c) :
    rstripSet p a = rstripSet q a := by
  induction a with
  | nil => rfl
  | cons x xs ih =>
    have ihx := ih (fun c hc => h c (by simp [hc]))
    simp only [rstripSet, ihx, h x (by simp)]

end

theorem isPySpace_range {c : Char} (h : isPySpace c = true) : c.toNat ≤ 32 ∨ 133 ≤ c.toNat := by
  unfold isPySpace at h
  simp only [Bool.or_eq_true, Bool.and_eq_true, decide_eq_true_eq] at h
  omega

theorem not_space_of_range {c : Char} (h1 : 33 ≤ c.toNat) (h2 : c.toNat ≤ 132) : isPySpace c = false :=
  Bool.eq_false_iff.mpr fun h => by have := isPySpace_range h; omega

theorem parseDigits_foldl (s : List Char) (acc : Nat) :
    s.foldl (fun acc c => acc * 10 + digitVal c) acc = acc * 10 ^ s.length + parseDigits s := by
  induction s generalizing acc with
  | nil => simp [parseDigits]
  | cons x xs ih =>
    simp only [List.foldl_cons, parseDigits, List.length_cons]
    rw [ih, ih (0 * 10 + digitVal x)]
    simp [Nat.pow_succ, Nat.add_mul, Nat.mul_assoc, Nat.mul_comm 10, Nat.add_assoc]

theorem parseDigits_append (a b : List Char) :
    parseDigits (a ++ b) = parseDigits a * 10 ^ b.length + parseDigits b := by
  simp only [parseDigits, List.foldl_append]
  rw [parseDigits_foldl]
  rfl

theorem parseDigits_replicate_zero (k : Nat) : parseDigits (List.replicate k '0') = 0 := by
  induction k with
  | zero => rfl
  | succ n ih =>
    rw [List.replicate_succ']
    rw [parseDigits_append, ih]
    simp [parseDigits, digitVal]

theorem digitVal_digitChar (d : Nat) (h : d < 10) : digitVal (digitChar d) = d := by
  have : ∀ d : Fin 10, digitVal (digitChar d.val) = d.val := by decide
  exact this ⟨d, h⟩

theorem isDigit_digitChar (d : Nat) (h : d < 10) : isDigit (digitChar d) = true := by
  have : ∀ d : Fin 10, isDigit (digitChar d.val) = true := by decide
  exact this ⟨d, h⟩

theorem parseDigits_decDigits (n : Nat) : parseDigits (decDigits n) = n := by
  induction n using Nat.strongRecOn with
  | _ n ih =>
    unfold decDigits
    split
    · next h => simp [parseDigits, digitVal_digitChar n h]
    · next h =>
      rw [parseDigits_append, ih (n / 10) (by omega)]
      simp [parseDigits, digitVal_digitChar (n % 10) (by omega)]
      omega

theorem allDigits_decDigits (n : Nat) : (decDigits n).all isDigit = true := by
  induction n using Nat.strongRecOn with
  | _ n ih =>
    unfold decDigits
    split
    · next h => simp [isDigit_digitChar n h]
    · next h =>
      simp [ih (n / 10) (by omega), isDigit_digitChar (n % 10) (by omega)]

theorem decDigits_length_pos (n : Nat) : 1 ≤ (decDigits n).length := by
  unfold decDigits
  split <;> simp

theorem decDigits_ne_nil (n : Nat) : decDigits n ≠ [] := List.ne_nil_of_length_pos (decDigits_length_pos n)

theorem decDigits_length_two (n : Nat) (h : 10 ≤ n) : 2 ≤ (decDigits n).length := by
  unfold decDigits
  split
  · omega
  · have := decDigits_length_pos (n / 10)
    simp; omega

theorem decDigits_head_ne_zero (n : Nat) (h : 0 < n) : (decDigits n).head? ≠ some '0' := by
  induction n using Nat.strongRecOn with
  | _ n ih =>
    unfold decDigits
    split
    · next hlt =>
      have : ∀ d : Fin 10, 0 < d.val → digitChar d.val ≠ '0' := by decide
      simpa using this ⟨n, hlt⟩ h
    · next hge =>
      have hpos := decDigits_length_pos (n / 10)
      have := ih (n / 10) (by omega) (by omega)
      cases hd : decDigits (n / 10) with
      | nil => simp [hd] at hpos
      | cons y ys => simpa [hd] using this

end PromVerif.Py
