/-
C04: the three timestamp forms the exposition writes (`str(int)`, `Timestamp.__str__`, `repr(float)`) through
`_parse_timestamp`, and the denoted values.
-/
import PromVerif.Lemmas.OMRtBasic

set_option autoImplicit false

namespace PromVerif.Lemmas.OMRt
open PromVerif.Py PromVerif.Model PromVerif.Model.Escape PromVerif.Model.ParseCore PromVerif.Model.OMParse
open PromVerif.Model.OMExpo PromVerif.Spec.OMRoundtrip PromVerif.Lemmas.Escape PromVerif.Lemmas.TextParse

theorem catch_ok {α : Type} (a : α) (h : Unit → PyM α) : catchValueError (.ok a) h = .ok a := rfl
theorem catch_ve {α : Type} (h : Unit → PyM α) : catchValueError (.error .valueError) h = h () := rfl

theorem intE_some {P : Params} {s : Str} {n : Int} (h : P.pyInt s = some n) : P.intE s = .ok n := by
  unfold Params.intE; rw [h]
theorem intE_none {P : Params} {s : Str} (h : P.pyInt s = none) : P.intE s = .error .valueError := by
  unfold Params.intE; rw [h]
theorem floatE_some {P : Params} {s : Str} {b : Nat} (h : P.pyFloat s = some b) : P.floatE s = .ok b := by
  unfold Params.floatE; rw [h]

theorem pyInt_intStr {pyInt : Str → Option Int} (hI : IntLaw pyInt) (n : Int) : pyInt (intStr n) = some n := by
  unfold intStr
  cases n with
  | ofNat k =>
    simp only []
    rw [hI.digits _ (decDigits_ne_nil k) (allDigits_decDigits k), parseDigits_decDigits]
    rfl
  | negSucc k =>
    simp only []
    rw [hI.neg _ (decDigits_ne_nil (k + 1)) (allDigits_decDigits (k + 1)), parseDigits_decDigits]
    rfl

theorem parseTimestamp_numTok (P : Params) {ts : Str} (h : NumTok ts) :
    parseTimestamp P ts =
      (catchValueError (do let n ← P.intE ts; mkTimestamp n 0) fun _ =>
        catchValueError (parseTimestampFrac P ts) fun _ => parseTimestampFloat P ts).map some := by
  unfold parseTimestamp
  have h0 : ts.isEmpty = false := List.isEmpty_eq_false_iff.mpr h.1
  have h1 : (ts != strip ts) = false := by rw [strip_numTok h]; simp
  have h2 : ts.contains '_' = false := by
    apply Bool.eq_false_iff.mpr; intro hm
    exact numTok_not_mem h (d := '_') (by decide) (by simpa using hm)
  simp only [h0, h1, h2, Bool.or_self, Bool.false_eq_true, ↓reduceIte]

theorem mkTimestamp_zero (n : Int) : mkTimestamp n 0 = .ok (.stamp n 0) := by
  unfold mkTimestamp
  by_cases h : n < 0 <;> simp [h]

theorem parseTimestamp_int (P : Params) (hI : IntLaw P.pyInt) (n : Int) :
    parseTimestamp P (intStr n) = .ok (some (.stamp n 0)) := by
  rw [parseTimestamp_numTok P (intStr_numTok n), intE_some (pyInt_intStr hI n)]
  simp only [bind, Except.bind, mkTimestamp_zero, catch_ok]
  rfl

theorem splitFirst_dot {a b : Str} (h : '.' ∉ a) : splitFirst '.' (a ++ '.' :: b) = (a, some b) :=
  splitFirst_append_of_not_mem h

theorem mem_dot_reject {pyInt : Str → Option Int} (hI : IntLaw pyInt) (a b : Str) : pyInt (a ++ '.' :: b) = none :=
  hI.reject _ ⟨'.', by simp, Or.inl rfl⟩

theorem tsFracStrict_on : Generated.OMParse.tsFracStrict = true := by decide

theorem fracStrict_ok (P : Params) {sec : Int} {p0 p1 : Str} {m : Int} (h1 : P.pyInt p1 = some m)
    (h2 : (sec == 0 && p0.head? == some '-') = false) : fracStrictChecks P sec p0 p1 = .ok () := by
  unfold fracStrictChecks
  simp only [tsFracStrict_on, ↓reduceIte, intE_some h1, h2, Bool.false_eq_true]

theorem fracStrict_reject (P : Params) (sec : Int) (p0 : Str) {p1 : Str} (h1 : P.pyInt p1 = none) :
    fracStrictChecks P sec p0 p1 = .error .valueError := by
  unfold fracStrictChecks
  simp only [tsFracStrict_on, ↓reduceIte, intE_none h1]

theorem fracStrict_sign (P : Params) {sec : Int} {p0 p1 : Str} {m : Int} (h1 : P.pyInt p1 = some m)
    (h2 : (sec == 0 && p0.head? == some '-') = true) : fracStrictChecks P sec p0 p1 = .error .valueError := by
  unfold fracStrictChecks
  simp only [tsFracStrict_on, ↓reduceIte, intE_some h1, h2]

theorem parseTimestampFloat_ok (P : Params) {r : Str} {b : Nat} (hf : P.pyFloat r = some b) (hnan : P.isNaN b = false)
    (hinf : P.isInf b = false) : parseTimestampFloat P r = .ok (.flt b) := by
  unfold parseTimestampFloat
  simp [floatE_some hf, hnan, hinf, bind, Except.bind, pure, Except.pure]

theorem parseTimestamp_of_frac (P : Params) {ts : Str} {o : OTs} (h : NumTok ts) (hi : P.pyInt ts = none)
    (hf : parseTimestampFrac P ts = .ok o) : parseTimestamp P ts = .ok (some o) := by
  rw [parseTimestamp_numTok P h, intE_none hi]
  simp only [bind, Except.bind, catch_ve, hf, catch_ok]
  rfl

theorem parseTimestamp_of_float (P : Params) {ts : Str} {o : OTs} (h : NumTok ts) (hi : P.pyInt ts = none)
    (hf : parseTimestampFrac P ts = .error .valueError) (hfl : parseTimestampFloat P ts = .ok o) :
    parseTimestamp P ts = .ok (some o) := by
  rw [parseTimestamp_numTok P h, intE_none hi]
  simp only [bind, Except.bind, catch_ve, hf, hfl]
  rfl

theorem nine_facts {b : Str} (hbd : b.all isDigit = true) :
    (nineDigits b).all isDigit = true ∧ nineDigits b ≠ [] ∧ parseDigits (nineDigits b) < 1000000000 := by
  have hlen : (nineDigits b).length = 9 := by unfold nineDigits; simp
  have hnine : (nineDigits b).all isDigit = true := by
    unfold nineDigits
    apply List.all_eq_true.mpr
    intro c hc
    rcases List.mem_append.mp (List.mem_of_mem_take hc) with h | h
    · exact List.all_eq_true.mp hbd c h
    · rw [(List.mem_replicate.mp h).2]; decide
  refine ⟨hnine, ?_, ?_⟩
  · exact List.ne_nil_of_length_pos (by omega)
  · have := parseDigits_lt _ hnine
    rw [hlen] at this
    simpa using this

theorem parseTimestamp_frac (P : Params) (hI : IntLaw P.pyInt) (a b : Str) (sa : Int)
    (hts : NumTok (a ++ '.' :: b)) (hdot : '.' ∉ a) (ha : P.pyInt a = some sa)
    (hb : b ≠ []) (hbd : b.all isDigit = true) (hsign : (sa == 0 && a.head? == some '-') = false) :
    parseTimestamp P (a ++ '.' :: b) =
      .ok (some (.stamp sa (if sa < 0 then -(((parseDigits (nineDigits b) : Nat) : Int)) else ((parseDigits (nineDigits b) : Nat) : Int)))) := by
  obtain ⟨hnine, hne, hlt⟩ := nine_facts hbd
  refine parseTimestamp_of_frac P hts (mem_dot_reject hI a b) ?_
  unfold parseTimestampFrac
  rw [splitFirst_dot hdot]
  simp only [intE_some ha, fracStrict_ok P (hI.digits b hb hbd) hsign, ← nineDigits_eq, intE_some (hI.digits _ hne hnine)]
  unfold mkTimestamp
  have h1 : ¬ (((parseDigits (nineDigits b) : Nat) : Int) < 0) := by omega
  have h2 : ¬ (((parseDigits (nineDigits b) : Nat) : Int) ≥ 1000000000) := by omega
  simp [h1, h2]

theorem dot_not_mem_neg {a : Str} (had : a.all isDigit = true) : '.' ∉ '-' :: a :=
  List.not_mem_cons_of_ne_of_not_mem (by decide) (dot_not_mem_digits had)

theorem dot_not_mem_intStr (n : Int) : '.' ∉ intStr n := by
  intro hm
  unfold intStr at hm
  cases n with
  | ofNat k => exact dot_not_mem_digits (allDigits_decDigits k) hm
  | negSucc k => exact dot_not_mem_neg (allDigits_decDigits (k + 1)) hm

theorem zpad_digits (w k : Nat) : (zpad w (decDigits k)).all isDigit = true := by
  unfold zpad
  rw [List.all_append, allDigits_decDigits k, Bool.and_true]
  exact List.all_eq_true.mpr (fun c hc => by rw [(List.mem_replicate.mp hc).2]; decide)

theorem zpad9_digits (k : Nat) (hk : k < 1000000000) :
    (zpad 9 (decDigits k)).length = 9 ∧ parseDigits (zpad 9 (decDigits k)) = k := by
  have hl := decDigits_length_le 8 k (by simpa using hk)
  refine ⟨?_, ?_⟩
  · unfold zpad; simp; omega
  · unfold zpad
    rw [parseDigits_append, parseDigits_replicate_zero, parseDigits_decDigits]; simp

theorem numTok_dot {x d : Str} (hx : ∀ c ∈ x, Lemmas.TextParse.isNumChar c = true) (hd : d.all isDigit = true) :
    NumTok (x ++ '.' :: d) := by
  refine ⟨by simp, ?_⟩
  intro c hc
  rcases List.mem_append.mp hc with h | h
  · exact hx c h
  · rcases List.mem_cons.mp h with h | h
    · subst h; decide
    · exact digit_numChar (List.all_eq_true.mp hd c h)

theorem nineDigits_of_nine {d : Str} (h : d.length = 9) : nineDigits d = d := by
  unfold nineDigits
  rw [List.take_append_of_le_length (by omega), List.take_of_length_le (by omega)]

theorem digits_head_ne_minus {a : Str} (ha : a ≠ []) (had : a.all isDigit = true) : (a.head? == some '-') = false := by
  cases a with
  | nil => exact absurd rfl ha
  | cons c cs =>
    simp only [List.all_cons, Bool.and_eq_true] at had
    have : c ≠ '-' := by intro e; subst e; exact absurd had.1 (by decide)
    simpa using this

theorem intStr_sign_false (s : Int) : (s == 0 && (intStr s).head? == some '-') = false := by
  cases s with
  | ofNat k =>
    have : ((intStr (Int.ofNat k)).head? == some '-') = false :=
      digits_head_ne_minus (decDigits_ne_nil k) (allDigits_decDigits k)
    rw [this]; simp
  | negSucc k => rfl

theorem stampAbs_on : Generated.Expo.stampAbsNsec = true := by decide

/-- `Timestamp.__str__` (with `abs(nsec)`, 7b52129): second count, a dot, nine digits of the magnitude of the nanosecond field -/
theorem stampStr_eq (s n : Int) : OMExpo.stampStr s n = intStr s ++ '.' :: zpad 9 (decDigits n.natAbs) := by
  unfold OMExpo.stampStr
  cases n with
  | ofNat k => simp
  | negSucc k => simp [stampAbs_on, Int.natAbs]

/-- second form: **every `Timestamp` object (class invariant) is a fixed point of render-then-parse** — the magnitude of the
nanosecond field is written, and comes back with the sign of the seconds -/
theorem parseTimestamp_stamp (P : Params) (hI : IntLaw P.pyInt) (s n : Int)
    (h1 : 0 ≤ s → 0 ≤ n ∧ n < 1000000000) (h2 : s < 0 → -1000000000 < n ∧ n ≤ 0) :
    parseTimestamp P (OMExpo.stampStr s n) = .ok (some (.stamp s n)) := by
  obtain ⟨hlen, hval⟩ := zpad9_digits n.natAbs (by omega)
  have hd := zpad_digits 9 n.natAbs
  have hb : zpad 9 (decDigits n.natAbs) ≠ [] := List.ne_nil_of_length_pos (by omega)
  rw [stampStr_eq, parseTimestamp_frac P hI _ _ s (numTok_dot (intStr_numTok s).2 hd) (dot_not_mem_intStr s) (pyInt_intStr hI s) hb hd
    (intStr_sign_false s), nineDigits_of_nine hlen, hval]
  congr 3
  by_cases hs : s < 0
  · have := h2 hs; simp only [hs, ↓reduceIte]; omega
  · have := h1 (by omega); simp only [hs, ↓reduceIte]; omega

/-- third form, exponent spelling: the first two forms refuse it (`int()` rejects an 'e'), `float()` reads it -/
theorem parseTimestamp_exp (P : Params) (hI : IntLaw P.pyInt) (r : Str) (b : Nat) (htok : NumTok r) (he : 'e' ∈ r)
    (hf : P.pyFloat r = some b) (hnan : P.isNaN b = false) (hinf : P.isInf b = false) :
    parseTimestamp P r = .ok (some (.flt b)) := by
  have hrej : ∀ x : Str, 'e' ∈ x → P.pyInt x = none := fun x hx => hI.reject x ⟨'e', hx, Or.inr (Or.inl rfl)⟩
  refine parseTimestamp_of_float P htok (hrej r he) ?_ (parseTimestampFloat_ok P hf hnan hinf)
  -- the `aaaa.bbbb` form: `int()` refuses the part that holds the 'e'
  unfold parseTimestampFrac
  by_cases hdot : '.' ∈ r
  · obtain ⟨x, y, rfl, hx⟩ := split_first hdot
    rw [splitFirst_dot hx]
    cases ha : P.pyInt x with
    | none => simp [intE_none ha]
    | some sa =>
      have hey : 'e' ∈ y := by
        rcases List.mem_append.mp he with h | h
        · rw [hrej x h] at ha; cases ha
        · exact (List.mem_cons.mp h).resolve_left (by decide)
      simp only [intE_some ha]
      rw [fracStrict_reject P sa x (hrej y hey)]
  · rw [splitFirst_of_not_mem hdot]
    simp [intE_none (hrej r he)]

theorem decimalNanos_plain (neg : Bool) (a b : Str) (ha : a ≠ []) (had : a.all isDigit = true) (hb : b ≠ [])
    (hbd : b.all isDigit = true) :
    decimalNanos ((if neg then ['-'] else []) ++ a ++ '.' :: b) =
      some (if neg then -((parseDigits a * nsPerSec + parseDigits (nineDigits b) : Nat) : Int)
            else ((parseDigits a * nsPerSec + parseDigits (nineDigits b) : Nat) : Int)) := by
  have hae : a.isEmpty = false := List.isEmpty_eq_false_iff.mpr ha
  have hbe : b.isEmpty = false := List.isEmpty_eq_false_iff.mpr hb
  unfold decimalNanos
  cases neg with
  | true =>
    simp only [↓reduceIte, List.cons_append, List.nil_append, List.head?_cons, beq_self_eq_true, List.drop_succ_cons, List.drop_zero,
      splitFirst_dot (dot_not_mem_digits had), hae, had, hbe, hbd, Bool.not_false, Bool.and_self]
  | false =>
    have hh : ((a ++ '.' :: b).head? == some '-') = false := by
      cases a with
      | nil => exact absurd rfl ha
      | cons c cs => exact digits_head_ne_minus (a := c :: cs) (by simp) had
    simp only [Bool.false_eq_true, ↓reduceIte, List.nil_append, hh,
      splitFirst_dot (dot_not_mem_digits had), hae, had, hbe, hbd, Bool.not_false, Bool.and_self]

theorem sign_numChar (neg : Bool) : ∀ c ∈ (if neg then ['-'] else []), Lemmas.TextParse.isNumChar c = true ∧ c ≠ 'e' := by
  intro c hc
  cases neg
  · simp at hc
  · simp at hc; subst hc; exact ⟨by decide, by decide⟩

theorem digits_numChar {d : Str} (h : d.all isDigit = true) : ∀ c ∈ d, Lemmas.TextParse.isNumChar c = true ∧ c ≠ 'e' := fun c hc =>
  have hd := List.all_eq_true.mp h c hc
  ⟨digit_numChar hd, fun e => absurd (e ▸ hd) (by decide)⟩

theorem e_not_mem_plain (neg : Bool) (a b : Str) (had : a.all isDigit = true) (hbd : b.all isDigit = true) :
    ((if neg then ['-'] else []) ++ a ++ '.' :: b).contains 'e' = false := by
  apply Bool.eq_false_iff.mpr
  intro hm
  have hm : 'e' ∈ (if neg then ['-'] else []) ++ a ++ '.' :: b := by simpa using hm
  simp only [List.mem_append, List.mem_cons] at hm
  rcases hm with (h | h) | h | h
  · exact (sign_numChar neg _ h).2 rfl
  · exact (digits_numChar had _ h).2 rfl
  · exact absurd h (by decide)
  · exact (digits_numChar hbd _ h).2 rfl

theorem numTok_plain (neg : Bool) (a b : Str) (had : a.all isDigit = true) (hbd : b.all isDigit = true) :
    NumTok ((if neg then ['-'] else []) ++ a ++ '.' :: b) :=
  numTok_dot (fun c hc => (List.mem_append.mp hc).elim (fun h => (sign_numChar neg c h).1) (fun h => (digits_numChar had c h).1)) hbd

/-- third form, plain decimal spelling, not `-0.…`: read by the `aaaa.bbbb` branch, as the instant the text denotes -/
theorem parseTimestamp_plain (P : Params) (hI : IntLaw P.pyInt) (neg : Bool) (a b : Str) (ha : a ≠ [])
    (had : a.all isDigit = true) (hb : b ≠ []) (hbd : b.all isDigit = true) (hnz : ¬ (neg = true ∧ parseDigits a = 0)) :
    ∃ o, parseTimestamp P ((if neg then ['-'] else []) ++ a ++ '.' :: b) = .ok (some o) ∧
      tsDenote P.pyFloat (.flt ((if neg then ['-'] else []) ++ a ++ '.' :: b)) = some (otsDenote o) := by
  have htok := numTok_plain neg a b had hbd
  simp only [tsDenote, e_not_mem_plain neg a b had hbd, Bool.false_eq_true, ↓reduceIte, decimalNanos_plain neg a b ha had hb hbd,
    Option.map_some]
  cases neg with
  | false =>
    simp only [Bool.false_eq_true, ↓reduceIte, List.nil_append] at htok ⊢
    refine ⟨_, parseTimestamp_frac P hI a b _ htok (dot_not_mem_digits had) (hI.digits a ha had) hb hbd
      (by rw [digits_head_ne_minus ha had, Bool.and_false]), ?_⟩
    have : ¬ (((parseDigits a : Nat) : Int) < 0) := by omega
    simp [otsDenote, nsPerSec, this]
  | true =>
    have hz : parseDigits a ≠ 0 := fun e => hnz ⟨rfl, e⟩
    have hneg : -((parseDigits a : Nat) : Int) < 0 := by omega
    simp only [↓reduceIte, List.cons_append, List.nil_append] at htok ⊢
    refine ⟨_, parseTimestamp_frac P hI ('-' :: a) b _ htok (dot_not_mem_neg had) (hI.neg a ha had) hb hbd
      (by rw [beq_eq_false_iff_ne.mpr (Int.ne_of_lt hneg), Bool.false_and]), ?_⟩
    simp only [otsDenote, nsPerSec, hneg, ↓reduceIte]
    congr 2
    omega

theorem ts_roundtrip (P : Params) (hI : IntLaw P.pyInt) (t : Ts) (h : TsOK P t) :
    ∃ o, parseTimestamp P (OMExpo.tsStr t) = .ok (some o) ∧ tsSame P t o := by
  cases t with
  | int n => exact ⟨.stamp n 0, parseTimestamp_int P hI n, Or.inl (by simp [tsDenote, otsDenote])⟩
  | stamp s n =>
    obtain ⟨h1, h2⟩ := h
    simp only [nsPerSec] at h1 h2
    exact ⟨.stamp s n, parseTimestamp_stamp P hI s n h1 (fun hs => by have := h2 hs; omega), Or.inl rfl⟩
  | flt r =>
    rcases h with ⟨neg, a, b, rfl, ha, had, hb, hbd, hzero⟩ | ⟨he, hne, hc, bb, hf, hnan, hinf⟩
    · by_cases hnz : neg = true ∧ parseDigits a = 0
      · -- `-0.…`: the `aaaa.bbbb` form declines (its sign check), `float()` reads the text
        obtain ⟨rfl, hz⟩ := hnz
        obtain ⟨bb, hf, hnan, hinf⟩ := hzero rfl hz
        have htok := numTok_plain true a b had hbd
        simp only [↓reduceIte, List.cons_append, List.nil_append, tsStr] at htok hf ⊢
        refine ⟨.flt bb, ?_, Or.inr ⟨_, bb, rfl, rfl, hf⟩⟩
        rw [← List.cons_append] at htok hf ⊢
        refine parseTimestamp_of_float P htok (mem_dot_reject hI _ b) ?_ (parseTimestampFloat_ok P hf hnan hinf)
        unfold parseTimestampFrac
        rw [splitFirst_dot (dot_not_mem_neg had)]
        simp only [intE_some (hI.neg a ha had)]
        rw [fracStrict_sign P (hI.digits b hb hbd) (by simp [hz])]
      · obtain ⟨o, h1, h2⟩ := parseTimestamp_plain P hI neg a b ha had hb hbd hnz
        exact ⟨o, h1, Or.inl h2⟩
    · exact ⟨.flt bb, parseTimestamp_exp P hI r bb ⟨hne, hc⟩ he hf hnan hinf, Or.inr ⟨r, bb, rfl, rfl, hf⟩⟩

end PromVerif.Lemmas.OMRt
