/-
Totality of the per-line functions of the OpenMetrics parser model: only ValueError can escape from
`_parse_timestamp` (the `parts[1]` IndexError is unreachable), `_parse_remaining_text`, `_parse_sample`, the
native-histogram detector, and — once the label checks of the main loop have passed — `_group_for_sample`.
-/
import PromVerif.Lemmas.OMSafe
import PromVerif.Lemmas.OMRun

namespace PromVerif.Lemmas.OM
open PromVerif.Py PromVerif.Model.ParseCore PromVerif.Model.Validation PromVerif.Model.OMParse PromVerif.Generated.OMParse
open PromVerif.Lemmas.TextParse PromVerif.Lemmas.TextTotal

theorem safe_map {α β : Type} {x : PyM α} (f : α → β) (h : Safe x) : Safe (x.map f) :=
  safe_cases h safe_valueError fun a _ => safe_ok (f a)

/-- `try: x except ValueError: h()` — the handler only needs to be safe when it runs -/
theorem safe_catch {α : Type} (x : PyM α) (h : Unit → PyM α) (hx : Safe x)
    (hh : x = .error .valueError → Safe (h ())) : Safe (catchValueError x h) := by
  unfold catchValueError
  cases x with
  | ok a => exact safe_ok a
  | error e =>
    cases hx e rfl
    exact hh rfl

theorem safe_intE (P : Params) (s : Str) : Safe (P.intE s) := by
  unfold Params.intE
  split
  · exact safe_ok _
  · exact safe_valueError

theorem safe_floatE (P : Params) (s : Str) : Safe (P.floatE s) := by
  unfold Params.floatE
  split
  · exact safe_ok _
  · exact safe_valueError

theorem safe_mkTimestamp (a b : Int) : Safe (mkTimestamp a b) := by
  unfold mkTimestamp
  exact safe_ite safe_valueError (safe_ok _)

theorem splitFirst_none (c : Char) (s : Str) (h : (splitFirst c s).2 = none) : (splitFirst c s).1 = s := by
  induction s with
  | nil => rfl
  | cons x xs ih =>
    unfold splitFirst at h ⊢
    by_cases hx : x = c
    · rw [if_pos hx] at h; cases h
    · rw [if_neg hx] at h ⊢
      exact congrArg (x :: ·) (ih h)

theorem safe_parseTimestampFloat (P : Params) (ts : Str) : Safe (parseTimestampFloat P ts) := by
  unfold parseTimestampFloat
  apply safe_bind (safe_floatE P ts)
  intro f _
  exact safe_ite (safe_throw_bind _) (safe_pure _)

theorem safe_fracStrictChecks (P : Params) (sec : Int) (p0 p1 : Str) : Safe (fracStrictChecks P sec p0 p1) := by
  unfold fracStrictChecks
  refine safe_ite ?_ (safe_ok _)
  exact safe_cases (safe_intE P p1) safe_valueError fun b _ => safe_ite safe_valueError (safe_ok _)

/-- the `aaaa.bbbb` form: the IndexError of `parts[1]` (first touched by `int(parts[1])` since 64745db) can only be
reached when `int(parts[0])` succeeded on a text without a dot — i.e. when `int(timestamp)` succeeds -/
theorem parseTimestampFrac_err (P : Params) (ts : Str) (hint : P.pyInt ts = none) : Safe (parseTimestampFrac P ts) := by
  unfold parseTimestampFrac
  dsimp only
  refine safe_cases (safe_intE P (splitFirst '.' ts).1) safe_valueError fun a ha => ?_
  dsimp only
  cases hp : (splitFirst '.' ts).2 with
  | none =>
    -- no dot: parts[0] is the whole text, on which int() has just failed
    exfalso
    rw [splitFirst_none '.' ts hp] at ha
    unfold Params.intE at ha
    rw [hint] at ha
    cases ha
  | some p1 =>
    dsimp only
    refine safe_cases (safe_fracStrictChecks P a _ p1) safe_valueError fun _ _ => ?_
    dsimp only
    exact safe_cases (safe_intE P (ljust 9 '0' (p1.take 9))) safe_valueError fun b _ => safe_mkTimestamp a b

theorem parseTimestamp_safe (P : Params) (ts : Str) : Safe (parseTimestamp P ts) := by
  unfold parseTimestamp
  refine safe_ite (safe_ok _) (safe_ite safe_valueError (safe_map _ ?_))
  have h1 : Safe (do let n ← P.intE ts; mkTimestamp n 0 : PyM OTs) :=
    safe_bind (safe_intE P ts) (fun n _ => safe_mkTimestamp n 0)
  apply safe_catch _ _ h1
  intro hfail
  -- the first form failed with ValueError: `int(timestamp)` failed (Timestamp(n, 0) never raises)
  have hint : P.pyInt ts = none := by
    cases hp : P.pyInt ts with
    | none => rfl
    | some n =>
      exfalso
      simp only [Params.intE, hp, bind, Except.bind, mkTimestamp] at hfail
      simp at hfail
  have h2 := parseTimestampFrac_err P ts hint
  apply safe_catch _ _ h2
  intro _
  exact safe_parseTimestampFloat P ts

theorem safe_raiseIf (c : Bool) : Safe (raiseIf c) := by
  unfold raiseIf
  exact safe_ite safe_valueError (safe_ok _)

theorem safe_runChecks (cs : List (PyM Unit)) (h : ∀ c ∈ cs, Safe c) : Safe (runChecks cs) := by
  induction cs with
  | nil => exact safe_ok _
  | cons c cs ih =>
    unfold runChecks
    exact safe_cases (h c (List.mem_cons_self ..)) safe_valueError fun _ _ => ih fun d hd => h d (List.mem_cons_of_mem _ hd)

theorem safe_parseValueP (P : Params) (s : Str) : Safe (P.parseValue s) := safe_parseValue _ _ _

theorem safe_remStep (P : Params) (text : Str) (a : RAcc) (c : Char) : Safe (remStep P text a c) := by
  unfold remStep
  dsimp only
  refine safe_ite (safe_ok _) ?_
  split
  · exact safe_ite (safe_ok _) (safe_ite (safe_ok _) (safe_ok _))
  · exact safe_ite (safe_ok _) safe_valueError
  · exact safe_ite (safe_ok _) safe_valueError
  · refine safe_ite ?_ safe_valueError
    have hl : Safe (exemplarLabels P text) := parseLabels_om_safe _ _
    exact safe_cases hl safe_valueError fun ls _ => safe_ok _
  · exact safe_ite (safe_ok _) (safe_ok _)
  · exact safe_ite (safe_ok _) safe_valueError
  · exact safe_ite safe_valueError (safe_ite (safe_ok _) (safe_ok _))
  · exact safe_ok _

theorem safe_remLoop (P : Params) (text : Str) : ∀ (cs : Str) (a : RAcc), Safe (remLoop P text a cs) := by
  intro cs
  induction cs with
  | nil => intro a; exact safe_ok _
  | cons c cs ih =>
    intro a
    unfold remLoop
    exact safe_cases (safe_remStep P text a c) safe_valueError fun a' _ => ih a'

theorem safe_remExemplar (P : Params) (a : RAcc) (ls : Labels) : Safe (remExemplar P a ls) := by
  unfold remExemplar
  dsimp only
  refine safe_ite safe_valueError ?_
  refine safe_cases (safe_parseValueP P a.exValue.reverse) safe_valueError fun ev _ => ?_
  dsimp only
  exact safe_cases (parseTimestamp_safe P a.exTs.reverse) safe_valueError fun ets _ => safe_ok _

theorem safe_remFinish (P : Params) (val : Num) (a : RAcc) : Safe (remFinish P val a) := by
  unfold remFinish
  refine safe_cases (safe_runChecks _ ?_) safe_valueError fun _ _ => ?_
  · intro c hc
    simp only [List.mem_cons, List.not_mem_nil, or_false] at hc
    rcases hc with rfl | rfl | rfl <;> exact safe_raiseIf _
  · dsimp only
    refine safe_cases (parseTimestamp_safe P a.timestamp.reverse) safe_valueError fun ts _ => ?_
    dsimp only
    cases a.exLabels with
    | none => exact safe_ok _
    | some ls =>
      dsimp only
      exact safe_cases (safe_remExemplar P a ls) safe_valueError fun ex _ => safe_ok _

theorem parseRemainingText_safe (P : Params) (text : Str) : Safe (parseRemainingText P text) := by
  unfold parseRemainingText
  apply safe_bind (safe_parseValueP P _)
  intro val _
  split
  · exact safe_pure _
  · apply safe_bind (safe_remLoop P _ _ _)
    intro a _
    exact safe_remFinish P val a

theorem safe_nameFromLabels (name : Str) (labels : Labels) : Safe (nameFromLabels name labels) := by
  unfold nameFromLabels
  refine safe_ite ?_ (safe_ite safe_valueError (safe_ok _))
  split
  · exact safe_valueError
  · exact safe_ok _

theorem parseSample_safe (P : Params) (text : Str) : Safe (parseSample P text) := by
  unfold parseSample
  dsimp only
  refine safe_ite ?_ ?_
  · refine safe_ite (safe_throw_bind _) ?_
    apply safe_bind (parseRemainingText_safe P _)
    intro x _
    exact safe_pure _
  · apply safe_bind (parseLabels_om_safe _ _)
    intro labels _
    apply safe_bind (safe_nameFromLabels _ _)
    intro x _
    apply safe_bind (parseRemainingText_safe P _)
    intro y _
    exact safe_pure _

theorem nhDetect_safe (text : Str) : Safe (nhDetect text) := by
  unfold nhDetect
  dsimp only
  split
  · exact safe_ok _
  · split
    · -- the search for the closing brace of the labels failed
      rename_i e hr
      refine safe_error (safe_ite ?_ (safe_ok _)) hr
      split
      · exact safe_valueError
      · exact safe_ok _
    · split
      · exact safe_ok _
      · refine safe_ite (safe_ok _) ?_
        split
        · exact safe_valueError
        · exact safe_ok _

/-! ## `_group_for_sample`: the `del d[...]` KeyError sites are guarded by the label checks that precede it -/

theorem dictHas_of_get (d : Labels) (k v : Str) (h : dictGet d k = some v) : dictHas d k = true := by
  unfold dictGet at h
  unfold dictHas
  cases hf : d.find? (fun kv => kv.1 == k) with
  | none => rw [hf] at h; cases h
  | some kv =>
    rw [List.any_eq_true]
    have hp : (fun (x : Str × Str) => x.1 == k) kv = true := List.find?_some (p := fun (x : Str × Str) => x.1 == k) hf
    exact ⟨kv, List.mem_of_find?_eq_some hf, hp⟩

theorem chkLe_ok_has (P : Params) (n : Str) (s : OSample) (l : Labels) (hl : s.labels = some l)
    (hname : n ++ sBucket = s.name) (hq : chkLe P n s = .ok ()) : ∃ le, dictGet l sLe = some le := by
  revert hq
  unfold chkLe
  simp only [hname, beq_self_eq_true, if_true, labelsOrAttr, hl]
  cases dictGet l sLe with
  | some q => exact fun _ => ⟨q, rfl⟩
  | none =>
    -- without an `le` label every path of the test raises
    dsimp only
    split
    · cases P.floatE sNaN with
      | error e => intro hq; cases hq
      | ok f =>
        dsimp only
        split
        · intro hq; cases hq
        · intro hq; cases hq
    · intro hq; cases hq

/-- after the label checks of the main loop (`preChecks`) have passed on a sample that has labels,
`_group_for_sample` returns a dict: `del d['quantile']`, `del d[name]`, `del d['le']` all find their key -/
theorem groupForSample_guarded_some (P : Params) (n : Str) (typ : Option Str) (s : OSample) (l : Labels)
    (hl : s.labels = some l) (hpre : preChecks P n typ s = .ok ()) :
    ∃ d, groupForSample s n (typ.getD []) = .ok (some d) := by
  have hall := runChecks_ok_mem _ hpre
  cases typ with
  | none =>
    -- without a type none of the tests of `_group_for_sample` applies
    exact ⟨l, by rw [groupForSample_eq, hl]; rfl⟩
  | some t =>
    rw [Option.getD_some, groupForSample_eq, hl]
    by_cases c0 : (t == tInfo) = true
    · rw [if_pos c0]; exact ⟨_, rfl⟩
    · rw [if_neg c0]
      by_cases c1 : (t == tSummary && s.name == n) = true
      · rw [if_pos c1]
        obtain ⟨rfl, rfl⟩ : t = tSummary ∧ s.name = n := by simpa using c1
        have hq := hall (chkQuantile P s.name (some tSummary) s) (by simp)
        unfold chkQuantile at hq
        simp only [beq_self_eq_true, Bool.and_self, if_true, labelsOrAttr, hl] at hq
        cases hg : dictGet l sQuantile with
        | none => rw [hg] at hq; cases hq
        | some q => exact ⟨_, delKey_some l _ (dictHas_of_get l _ q hg)⟩
      · rw [if_neg c1]
        by_cases c2 : (t == tStateset) = true
        · rw [if_pos c2]
          obtain rfl : t = tStateset := eq_of_beq c2
          have hq := hall (chkStatesetLabel n (some tStateset) s) (by simp)
          unfold chkStatesetLabel at hq
          simp only [beq_self_eq_true, if_true, labelsOrType, hl] at hq
          cases hh : dictHas l n with
          | true => exact ⟨_, delKey_some l _ hh⟩
          | false => rw [hh] at hq; cases hq
        · rw [if_neg c2]
          by_cases c3 : ((t == tHistogram || t == tGaugeHistogram) && s.name == n ++ sBucket) = true
          · rw [if_pos c3]
            have hname : n ++ sBucket = s.name := (eq_of_beq (Bool.and_eq_true _ _ ▸ c3 : _ ∧ _).2).symm
            obtain ⟨q, hg⟩ := chkLe_ok_has P n s l hl hname (hall (chkLe P n s) (by simp))
            exact ⟨_, delKey_some l _ (dictHas_of_get l _ q hg)⟩
          · rw [if_neg c3]; exact ⟨l, rfl⟩

end PromVerif.Lemmas.OM
