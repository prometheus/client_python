/-
Spec/Conc — the LOCK PROTOCOL property C02 speaks about, written from the property text (not from the code):

  * which lock guards which shared attribute, per value back-end (`guard`);
  * the order in which locks may nest: registry < parent < value / global (`rank`);
  * `wellLockedB bk sk`: every read / write / rmw / copy / iterate of `x` in skeleton `sk` happens inside
    `withLock (guard x)`, a plain write that does not follow a read of the same critical section is flagged as needing a
    register-independent update (`needBlind`), an iteration over `x` itself (not over a snapshot) lies inside the guard and is
    closed before the guard is released, acquisitions go strictly up in rank (so no lock is acquired while held), all
    brackets match;
  * `noUserInLock sk`: no user code is called and nothing is yielded while a lock is held — demanded of the collect paths;
  * what "one shared child" means: the child table as a finite map and lookup-or-create on it.
The checks are evaluated on the CANONICAL code of a skeleton (one object of each kind) with the code of the LIBRARY callees
(child construction, the children's samples, describe/collect of a built-in metric) spliced in, so that the rank order is
checked on the real nested scopes; `Lemmas/ConcSpec` transports them to calls on arbitrary objects.
-/
import PromVerif.Lemmas.ConcCompose

namespace PromVerif.Spec.Conc
open PromVerif.Generated.Locks PromVerif.Model.Conc

inductive Backend | mutex | mmap
deriving DecidableEq, Repr

/-- the lock that guards each shared attribute -/
def guard : Backend → Var → LockId
  | .mutex, .value => .value
  | .mutex, .exemplar => .value
  | .mutex, .timestamp => .value
  | .mmap, .value => .global
  | .mmap, .exemplar => .global
  | .mmap, .timestamp => .global
  | _, .metrics => .parent
  | _, .collectorToNames => .registry
  | _, .namesToCollectors => .registry
  | _, .targetInfo => .registry
  | _, .files => .global
  | _, .values => .global
  | _, .pid => .global
  | _, .file => .global

/-- nesting order: registry < parent < value / global -/
def rank : LockId → Nat
  | .registry => 0
  | .parent => 1
  | .value => 2
  | .global => 2

def allVars : List Var :=
  [.value, .exemplar, .timestamp, .metrics, .collectorToNames, .namesToCollectors, .targetInfo, .files, .values, .pid, .file]

def allLocks : List LockId := [.registry, .parent, .value, .global]

theorem mem_allVars (x : Var) : x ∈ allVars := by cases x <;> decide
theorem mem_allLocks (l : LockId) : l ∈ allLocks := by cases l <;> decide

def isL (g : LockId) : LockId → Bool := fun l => decide (l = g)
def isV (x : Var) : Var → Bool := fun y => decide (y = x)
def never {α : Type} : α → Bool := fun _ => false

/-- variables whose plain `write` does not follow a read/rmw/write of the same critical section: the update such a store
performs must not depend on what the thread read earlier -/
def needBlind : List Tok → List Var → List Var
  | [], _ => []
  | .enter _ :: r, _ => needBlind r []
  | .exit _ :: r, _ => needBlind r []
  | .read x :: r, ld => needBlind r (x :: ld)
  | .copy x :: r, ld => needBlind r (x :: ld)
  | .rmw x :: r, ld => needBlind r (x :: ld)
  | .write x :: r, ld => if ld.contains x then needBlind r ld else x :: needBlind r (x :: ld)
  | .iterB _ :: r, ld => needBlind r ld
  | .iterE _ :: r, ld => needBlind r ld
  | .call _ _ :: r, ld => needBlind r ld
  | .yield :: r, ld => needBlind r ld

/-- canonical code of sub-call `k` of a composite call: one object of each kind, call markers only -/
def canonCodeK (k : Nat) (sk : List Sk) : List CMicro := compile (canon k) noCb sk

/-- what the LIBRARY callees run (user callbacks stay opaque markers), so that the scopes they open are checked nested inside
the caller's:
  * `childCtor` — `labels()` constructs the child while HOLDING the parent lock; the child's value constructor takes no lock
    in memory and the global lock in the multiprocess store (`MmapedValue.__init__`);
  * `samples` — `_multi_samples` asks each child for its samples: `_child_samples` → `value.get()` (+ `get_exemplar()`);
  * `descFunc` — `register()` calls `describe()` / (auto-describe) `collect()` while HOLDING the registry lock; for a built-in
    metric the worst case is its `collect()`: `_multi_samples` (parent lock) and the children's `get()` (value / global lock). -/
def valueReads (bk : Backend) (k : Nat) : List CMicro :=
  match bk with
  | .mutex => canonCodeK k MutexValue_get ++ canonCodeK k MutexValue_get_exemplar
  | .mmap => canonCodeK k MmapedValue_get

def libCb (bk : Backend) : Callee → List CMicro
  | .childCtor => (match bk with | .mutex => [] | .mmap => canonCodeK 1 MmapedValue_init)
  | .samples => valueReads bk 2
  | .descFunc => canonCodeK 3 MetricWrapperBase_multi_samples ++ valueReads bk 4
  | _ => []

/-- canonical code of a skeleton with the library callees spliced in -/
def canonCode (bk : Backend) (sk : List Sk) : List CMicro := compile (canon 0) (libCb bk) sk

/-- store labels that must not depend on earlier reads: those of the skeleton itself (sub-call 0) and of the spliced child
constructor (sub-call 1) -/
def blindSet (bk : Backend) (sk : List Sk) : CLabel → Bool := fun x =>
  match x.2 with
  | 0 => (needBlind (flatList sk) []).contains x.1
  | 1 => (match bk with
          | .mutex => false
          | .mmap => (flatList sk).contains (.call false .childCtor) &&
                     (needBlind (flatList MmapedValue_init) []).contains x.1)
  | _ => false

/-- data + iteration discipline of the canonical code for guard predicate `isG` and cell predicate `isX` -/
def closedB (isG : LockId → Bool) (isX : Var → Bool) (bl : CLabel → Bool) (code : List CMicro) : Bool :=
  discP isG isX bl code .out && (endModeP isG isX code .out == .out) &&
  discItP isG isX code false false && (endItP isG isX code false false == (false, false))

/-- the lock protocol, checked on canonical code; `bl` = the store labels assumed independent of earlier reads -/
def wellLockedCode (bk : Backend) (bl : CLabel → Bool) (code : List CMicro) : Bool :=
  allVars.all (fun x => closedB (isL (guard bk x)) (isV x) bl code) &&
  allLocks.all (fun g => closedB (isL g) never bl code) &&
  (wfRun (rankOrder rank) code [] == some [])

def wellLockedB (bk : Backend) (sk : List Sk) : Bool := wellLockedCode bk (blindSet bk sk) (canonCode bk sk)

/-- no `callUser`, no `yield` while any lock is held (depth = number of open `enter`s) -/
def noUserInLockToks : List Tok → Nat → Bool
  | [], _ => true
  | .enter _ :: r, d => noUserInLockToks r (d + 1)
  | .exit _ :: r, d => noUserInLockToks r (d - 1)
  | .call true _ :: r, d => d == 0 && noUserInLockToks r d
  | .yield :: r, d => d == 0 && noUserInLockToks r d
  | _ :: r, d => noUserInLockToks r d

def noUserInLock (sk : List Sk) : Bool := noUserInLockToks (flatList sk) 0

/-- the skeleton sets of the two value back-ends (Info / Enum carry their own lock and exist in-memory only) -/
def mutexSet : List (List Sk) :=
  [MutexValue_inc, MutexValue_set, MutexValue_set_exemplar, MutexValue_get, MutexValue_get_exemplar,
   MetricWrapperBase_labels, MetricWrapperBase_remove, MetricWrapperBase_clear, MetricWrapperBase_multi_samples,
   Info_info, Info_child_samples, Enum_state, Enum_child_samples,
   CollectorRegistry_register, CollectorRegistry_unregister, CollectorRegistry_collect,
   CollectorRegistry_set_target_info, CollectorRegistry_get_target_info, RestrictedRegistry_collect]

def mmapSet : List (List Sk) :=
  [MmapedValue_init, MmapedValue_inc, MmapedValue_set, MmapedValue_get,
   MetricWrapperBase_labels, MetricWrapperBase_remove, MetricWrapperBase_clear, MetricWrapperBase_multi_samples,
   CollectorRegistry_register, CollectorRegistry_unregister, CollectorRegistry_collect,
   CollectorRegistry_set_target_info, CollectorRegistry_get_target_info, RestrictedRegistry_collect]

def skeletonsOf : Backend → List (List Sk)
  | .mutex => mutexSet
  | .mmap => mmapSet

/-- the paths on which user code runs while the registry / a parent is being collected -/
def collectPaths : List (List Sk) :=
  [CollectorRegistry_collect, RestrictedRegistry_collect, MetricWrapperBase_multi_samples]

/-! ### collect returns values, not references to state that is later changed -/

/-- the shared objects a collect hands out BY REFERENCE inside its samples: the label dict of an `Info` (`Sample('_info',
self._value, …)`) and the registry's target-info dict (`_target_info_metric`, `get_target_info`).  A scraper reads them after
the lock is released, so they may only ever be REBOUND to a fresh object, never changed in place.  (The child table and the
collector table are handed out as copies; floats are immutable.) -/
def handedOut (method : String) : List Var :=
  (if method.startsWith "Info_" || method.startsWith "Enum_" then [Var.value] else []) ++ [Var.targetInfo]

def noInPlaceOnHandedOut (tbl : List (String × List Var)) : Bool :=
  tbl.all (fun e => (handedOut e.1).all (fun x => !e.2.contains x))

/-- the child table of a labelled parent: label values ↦ child identity -/
abbrev Tbl := List (Nat × Nat)

/-- `if k not in <table as looked at>: table[k] = c` -/
def ensure (kc : Nat × Nat) (seen cell : Tbl) : Tbl :=
  if (seen.lookup kc.1).isSome then cell else (kc.1, kc.2) :: cell

/-- sub-map order -/
def Tbl.le (a b : Tbl) : Prop := ∀ k c, a.lookup k = some c → b.lookup k = some c

/-- concrete locks and cells: (kind, object id) -/
abbrev ILock := LockId × Nat
abbrev ICell := Var × Nat

/-- the lock object that guards cell `(x, n)`: the object's own lock, except that the multiprocess store has ONE global lock -/
def guardOf (bk : Backend) (c : ICell) : ILock :=
  (guard bk c.1, if guard bk c.1 = .global then 0 else c.2)

def irank : ILock → Nat := fun l => rank l.1

/-- one call of a library method: its canonical code, the store labels assumed independent of earlier reads, the objects its
abstract lock / attribute names denote, and the update each store label stands for -/
structure Call (U : Type) where
  code0 : List CMicro
  bl0 : CLabel → Bool
  lobj : LockId → Nat
  vobj : Var → Nat
  lab : CLabel → U

/-- a call of the method with skeleton `sk` -/
def Call.ofSk {U : Type} (bk : Backend) (sk : List Sk) (lobj : LockId → Nat) (vobj : Var → Nat) (lab : Var → U) : Call U :=
  { code0 := canonCode bk sk, bl0 := blindSet bk sk, lobj := lobj, vobj := vobj, lab := fun x => lab x.1 }

/-- the micro-step code of a call: its canonical code renamed to the objects it is made on -/
def Call.code {U : Type} (c : Call U) : List (Micro ILock ICell U) :=
  c.code0.map (Micro.map (fun l => (l, c.lobj l)) (fun x => (x, c.vobj x)) c.lab)

/-- the call binds each abstract lock to the lock object that guards the cells it binds -/
def Call.Respects {U : Type} (bk : Backend) (c : Call U) : Prop :=
  ∀ x, c.lobj (guard bk x) = (guardOf bk (x, c.vobj x)).2

/-- the labels assumed blind are bound to updates that do not depend on what the thread read earlier -/
def Call.BlindOk {U : Type} (blind : U → Bool) (c : Call U) : Prop :=
  ∀ x, c.bl0 x = true → blind (c.lab x) = true

/-- a thread's program: the concatenated code of its calls -/
def progOf {U : Type} (calls : List (Call U)) : List (Micro ILock ICell U) := (calls.map Call.code).flatten

/-- every call of every thread uses a well-locked skeleton on consistently bound objects -/
def GoodThreads {U : Type} (bk : Backend) (blind : U → Bool) (threads : List (List (Call U))) : Prop :=
  ∀ calls ∈ threads, ∀ c ∈ calls, wellLockedCode bk c.bl0 c.code0 = true ∧ c.Respects bk ∧ c.BlindOk blind

end PromVerif.Spec.Conc
